/-
C18 (second sentence) — completeness of indel calling for isolated insertions / deletions:

  "For genomes differing by isolated insertions or deletions shorter than k in repeat-free sequence, each
   reported record corresponds to one planted indel with its carriers, no indel is reported twice, and [at
   least 90 % of] the planted indels are reported."

SETTING (`SkaModel/Lemmas/LOEDel.lean`).  A family of samples is given by one sequence `F`, a list of blocks
`B` (start and length of each block, in columns of `F`) and one row of flags per sample (`C`: flag `t` set = the
sample KEEPS block `t`); `dsample F B c` is `F` with the blocks whose flag is off deleted.  A block kept by some
samples and deleted by the others is an insertion of the former = a deletion of the latter.  A block whose
first `m` letters repeat behind it (`F[b+i] = F[e+i]` for `i < m`) can be deleted at `m + 1` placements with the
same result: `m = shOf k F b` is its SHIFT (shift ambiguity); blocks are given at their LEFTMOST placement.
`DPlanted k F B C` (decidable, `dplantedB`): `k` odd, `5 ≤ k`; `F` over A/C/G/T; at least two samples; every block
is kept by a sample and deleted by a sample; the blocks have `1 .. k-1` columns, lie `4k` columns apart and `4k`
columns from both ends; EVERY SHIFT IS AT MOST `k - 3`; the `(k-1)`-mers of the samples are unique on both strands,
occurrence-wise and up to shifts (`dalignedSB`): two windows of `k-1` consecutive columns of samples that spell
the same `(k-1)`-mer have the same canonical columns (`canonW`: a window that spells the same as the contiguous
window at its first column is identified with it — this is what a shift does), and no window spells the reverse
complement of a window.  The table is `tableOf k names (dsamples F B C)`, the array `a` holds its rows in any
order (`IsArrOf`), `lo` is the reference-free pipeline of `ska lo`.

MAIN THEOREM `T18_complete`: for every exploration depth, every missing-data threshold and every `ik`,
`lo … a = some ([], recs)` — no SNP column — and `RecsMatch k F B C recs`: `recs` is, up to order, ONE record per
block, read on the samples' strand (`dexpRec … t false`, spelled out in `T18K_expected`: for a block of shift `m`
`before` = the `(k-1)`-mer that ends at the RIGHTMOST placement, the insert = the block read there, `after` = the
`k-1-m` letters behind it; alleles = the insert and `-`, REF = the more frequent allele and `-` on ties, genotype
`0`/`1` = the sample carries REF / ALT) or on the other strand (`dexpRec … t true`: `before` = the `(k-1)`-mer
behind the LEFTMOST placement, the block read there, `after` = the `k-1-m` letters before it, all reverse
complemented).  For `m = 0` the flanks are the two `(k-1)`-mers around the block.  So every planted indel of shift
at most `k-3` is reported exactly once (`T18_complete_once`) with its carriers, the executable checker
`dcompleteOn` accepts (`T18_complete_check`), and every record is sound (`T18_complete_sound`: REF sequence, on either strand,
in exactly the samples genotyped `0`, ALT sequence in exactly those genotyped `1`).

EXPLORATION BY EXECUTION (generator `SkaModel/Lemmas/LOEGen.lean`, insertion model `(A, D, C)`: ancestor,
inserts `(position, string)`, carrier flags).  352 generated families with 525 planted indels (k = 5, 7, 9, 11;
2–5 samples; 1–3 indels of 1 .. k-1 letters, every combination of insert length and shift for single indels)
plus the literal families `dfams` (39), `sfams` (22), `sfamsMax` (4); 9 settings each (depths 0, 1, 4 ×
thresholds 0, 1/10, 1/2; more than 3500 runs).  Per planted indel of shift `m`:

  condition                                               | outcome in all 9 settings
  --------------------------------------------------------+------------------------------------------------------
  m = 0, (k-1)-mers unique occurrence-wise                | reported exactly once, flanks = the two (k-1)-mers,
    (212 indels, and all 64 of `dfams`)                   |   alleles, REF/ALT and genotypes as expected (THEOREM)
  1 ≤ m ≤ k-3, unique up to the shift (271 indels, and    | reported exactly once; `before` = the (k-1)-mer ending
    the 26 of `sfams`)                                    |   at the rightmost placement, insert read there,
                                                          |   `after` has only k-1-m letters: the entry node is
                                                          |   the (k-1)-mer ending at the rightmost placement, the
                                                          |   exit node the one starting at the leftmost placement,
                                                          |   they overlap by m letters in the deleting samples
                                                          |   (THEOREM)
  m = k-2 (42 indels, and the 4 of `sfamsMax`)            | NOT reported (the other indels of the family are): the
                                                          |   short path is entry → exit directly, and the path
                                                          |   enumeration never tests the first successor of an
                                                          |   entry node for being an exit node
  a (k-1)-mer of one sample recurs in another sample at   | the records are SOUND (their sequences occur exactly in
    a non-corresponding place (2 families found by        |   the samples genotyped for them) but describe bubbles
    chance; each sample alone is repeat-free)             |   of the tangled graph, not the planted indels
  every record of every run                               | sound (`recSoundB`); never an SNP column; never `none`

No outcome contradicted the property beyond the tolerated 10 %: the only planted indels that are lost are those
with m = k-2 (an insert sliding through k-2 positions, e.g. one more letter in a homopolymer run of k-2 letters;
m ≥ k-1 contradicts the uniqueness of the (k-1)-mers).  Further phenomena: the twin bubble on the other strand
is removed by `dereplicate` (equal total length; the one with the smaller entry k-mer survives, so the reported
strand depends on the letters: `flips` in `RecsMatch`); genotypes use only the colour sets of the first k-mer of
each path, which on planted families are exactly the keepers and the deleters (`T18K_colours`), so no sample is
missing and the `-m` filter never fires; outside the model (two different inserts at one place in three samples)
a sample carrying neither first k-mer is genotyped `.` and counts as missing.  Minimal families: `shF`/`exShift1`,
`exShiftMax` below.

PROOF (`SkaModel/Lemmas/LOE*.lean`; the intermediate theorems are `T18K_*` below).  Nodes in columns of `F`
(`Nd.c x`: the contiguous window at `x`; `Nd.g t x`: the window at `x` that jumps over block `t`, with more than `m`
columns behind the block), node numbers `nF` (samples' strand) and `nR` (other strand), `RE` = "next window of a
sample", `eX` = the first column of the entry node of a block (the `(k-1)`-mer ending at the rightmost placement).
The graph of a planted family is a graph of bubbles, one per block and strand: two arms of single-successor nodes
that reconverge at the exit node, one through the block and one over it.  The indel groups are exactly the
bubbles; every SNP group starts at an entry node (and is skipped by the caller: it is an indel extremity);
`process_indels` computes the expected record for a bubble and for its twin on the other strand, and `dereplicate`
keeps exactly one of each pair (`LOE.derep_twins`).
-/
import SkaModel.Lemmas.LOESound
import SkaModel.Lemmas.LOEFams
import SkaModel.Lemmas.LOEGen
import SkaModel.Lemmas.LOEUniq
import SkaModel.Props.C17Union

namespace SkaModel.Props.C18K

open SkaModel SkaModel.Skalo SkaModel.Spec SkaModel.Props.C16 SkaModel.Props.C17G SkaModel.LOC SkaModel.LOE

abbrev DPlanted := LOE.DPlanted
abbrev dplantedB := LOE.dplantedB
abbrev dsamples := LOE.dsamples
abbrev dexpRec := LOE.dexpRec
abbrev RecsMatch := LOE.RecsMatch
abbrev dcompleteOn := LOE.dcompleteOn
abbrev IsArrOf := LOC.IsArrOf
abbrev arrOf := LOC.arrOf
abbrev lo := LOC.lo

theorem ctx_of {W k : Nat} {F : List UInt8} {B : List (Nat × Nat)} {C : List (List Bool)} {a : Arr}
    {names : List String} (hk : ValidK k) (hw : WidthOk W k) (hpl : DPlanted k F B C)
    (ha : IsArrOf a k names (dsamples F B C)) : Ctx W k F B C a names :=
  ⟨dfam_of_planted hpl, ha, hk, hw⟩

/-- completeness of indel calling for isolated insertions / deletions of shift at most `k-3`,
any exploration depth, any missing-data threshold, any `ik`, rows of the table in any order: no SNP column, and
one record per block, read on one of the two strands -/
theorem T18_complete (W k : Nat) (F : List UInt8) (B : List (Nat × Nat)) (C : List (List Bool))
    (names : List String) (a : Arr) (hk : ValidK k) (hw : WidthOk W k) (hpl : DPlanted k F B C)
    (ha : IsArrOf a k names (dsamples F B C)) (mNum mDen ik maxDepth : Nat) :
    ∃ recs, lo W k C.length mNum mDen ik maxDepth a = some ([], recs) ∧ RecsMatch k F B C recs :=
  (ctx_of hk hw hpl ha).lo_dfam mNum mDen ik maxDepth

/-- the table in the order of `specTable` -/
theorem T18_complete_table (W k : Nat) (F : List UInt8) (B : List (Nat × Nat)) (C : List (List Bool))
    (names : List String) (hk : ValidK k) (hw : WidthOk W k) (hpl : DPlanted k F B C)
    (mNum mDen ik maxDepth : Nat) :
    ∃ recs, lo W k C.length mNum mDen ik maxDepth (arrOf W k names (dsamples F B C)) = some ([], recs) ∧
      RecsMatch k F B C recs :=
  T18_complete W k F B C names _ hk hw hpl (isArrOf_arrOf W k names _) mNum mDen ik maxDepth

/-- **every planted indel is reported exactly once**: as many records as blocks, and for every block exactly one
record equal to one of its two expected records -/
theorem T18_complete_once (W k : Nat) (F : List UInt8) (B : List (Nat × Nat)) (C : List (List Bool))
    (names : List String) (a : Arr) (hk : ValidK k) (hw : WidthOk W k) (hpl : DPlanted k F B C)
    (ha : IsArrOf a k names (dsamples F B C)) (mNum mDen ik maxDepth : Nat) :
    ∃ recs, lo W k C.length mNum mDen ik maxDepth a = some ([], recs) ∧ recs.length = B.length ∧
      ∀ t, t < B.length →
        (recs.filter (fun r => r == dexpRec k F B C t false || r == dexpRec k F B C t true)).length = 1 := by
  have cx := ctx_of hk hw hpl ha
  obtain ⟨recs, hlo, hm⟩ := cx.lo_dfam mNum mDen ik maxDepth
  exact ⟨recs, hlo, (drecsMatchB_iff k F B C recs).mp (cx.h.drecsMatchB_of hm)⟩

/-- the executable checker `dcompleteOn` (the one the `#guard`s below run on the literal families) accepts -/
theorem T18_complete_check (W k : Nat) (F : List UInt8) (B : List (Nat × Nat)) (C : List (List Bool))
    (names : List String) (a : Arr) (hk : ValidK k) (hw : WidthOk W k) (hpl : DPlanted k F B C)
    (ha : IsArrOf a k names (dsamples F B C)) (mNum mDen ik maxDepth : Nat) :
    dcompleteOn W k F B C a mNum mDen ik maxDepth = true := by
  have cx := ctx_of hk hw hpl ha
  obtain ⟨recs, hlo, hm⟩ := cx.lo_dfam mNum mDen ik maxDepth
  show LOE.dcompleteOn W k F B C a mNum mDen ik maxDepth = true
  unfold LOE.dcompleteOn
  rw [hlo]
  exact cx.h.drecsMatchB_of hm

/-- **every record is sound** (the first sentence of C18 on these families): for every record the sequence
`before ++ REF ++ after` (`-` = nothing) or its reverse complement occurs in exactly the samples genotyped `0`,
`before ++ ALT ++ after` in exactly those genotyped `1`, and every sample is genotyped `0` or `1` (`recSoundB`) -/
theorem T18_complete_sound (W k : Nat) (F : List UInt8) (B : List (Nat × Nat)) (C : List (List Bool))
    (names : List String) (a : Arr) (hk : ValidK k) (hw : WidthOk W k) (hpl : DPlanted k F B C)
    (ha : IsArrOf a k names (dsamples F B C)) (mNum mDen ik maxDepth : Nat) :
    ∃ recs, lo W k C.length mNum mDen ik maxDepth a = some ([], recs) ∧
      ∀ r ∈ recs, recSoundB (dsamples F B C) r = true := by
  have cx := ctx_of hk hw hpl ha
  obtain ⟨recs, hlo, hm⟩ := cx.lo_dfam mNum mDen ik maxDepth
  refine ⟨recs, hlo, fun r hr => ?_⟩
  obtain ⟨flips, _, hperm⟩ := hm
  rw [hperm.mem_iff, List.mem_map] at hr
  obtain ⟨ft, hft, rfl⟩ := hr
  have hlt : ft.2 < B.length := by
    have := List.mem_zipIdx hft
    omega
  exact cx.h.rec_sound hlt ft.1

/-- what soundness rests on: the sequence through block `t` (`w1`: from the entry node to the end of the exit
node) or its reverse complement occurs in exactly the samples that keep the block, the sequence over it (`w2`)
in exactly those that delete it -/
theorem T18K_occurrence (W k : Nat) (F : List UInt8) (B : List (Nat × Nat)) (C : List (List Bool))
    (names : List String) (a : Arr) (hk : ValidK k) (hw : WidthOk W k) (hpl : DPlanted k F B C)
    (ha : IsArrOf a k names (dsamples F B C)) (t : Nat) (ht : t < B.length) (c : List Bool) (hc : c ∈ C) :
    (occursIn (Ctx.w1 k F B t) (dsample F B c) || occursIn (rcSeq (Ctx.w1 k F B t)) (dsample F B c)) =
      c.getD t false ∧
    (occursIn (Ctx.w2 k F B t) (dsample F B c) || occursIn (rcSeq (Ctx.w2 k F B t)) (dsample F B c)) =
      !c.getD t false :=
  ⟨(dfam_of_planted hpl).occ_keep ht hc, (dfam_of_planted hpl).occ_del ht hc⟩

/-- the expected record of block `t` (shift `m`) on the samples' strand, spelled out: `before` = the `(k-1)`-mer
that ends at the rightmost placement, the insert = the block read there, `after` = the `k-1-m` letters behind
it, REF = the insert iff its keepers are the majority, genotype `0` for the samples that carry REF -/
theorem T18K_expected (k : Nat) (F : List UInt8) (B : List (Nat × Nat)) (C : List (List Bool)) (t : Nat) :
    let b := B.getD t (0, 0)
    let m := shOf k F b
    let insRef := decide (C.length - carriers C t < carriers C t)
    dexpRec k F B C t false =
      { ref := if insRef then win F (b.1 + m) b.2 else [45], alt := if insRef then [45] else win F (b.1 + m) b.2,
        before := win F (b.1 + m - (k - 1)) (k - 1), after := win F (b.1 + b.2 + m) (k - 1 - m),
        calls := C.map (fun c => if c.getD t false == insRef then "0" else "1") } := rfl

/-- every edge joins the node numbers of two nodes related by `RE` (the next window of a
sample): forwards on the samples' strand, backwards on the other strand; all these are edges -/
theorem T18K_graph_edges (W k : Nat) (F : List UInt8) (B : List (Nat × Nat)) (C : List (List Bool))
    (names : List String) (a : Arr) (hk : ValidK k) (hw : WidthOk W k) (hpl : DPlanted k F B C)
    (ha : IsArrOf a k names (dsamples F B C)) (X Y : Nat) :
    Edge (buildGraph W a).1 X Y ↔ ∃ n n', RE k F.length B (shf k F B) n n' ∧
      ((X = nF k F B n ∧ Y = nF k F B n') ∨ (X = nR k F B n' ∧ Y = nR k F B n)) :=
  (dfam_of_planted hpl).edge_iff ha hk hw X Y

/-- the numbers of the contiguous nodes in the vocabulary of the program: `encodeKmer` of the letters -/
theorem T18K_node_numbers (W k : Nat) (F : List UInt8) (B : List (Nat × Nat)) (C : List (List Bool))
    (hpl : DPlanted k F B C) (x : Nat) (hW : 2 * k ≤ W) (hx : x + (k - 1) ≤ F.length) :
    nF k F B (.c x) = encodeKmer W (win F x (k - 1)) ∧ nR k F B (.c x) = encodeKmer W (rcSeq (win F x (k - 1))) := by
  have hl : (win F x (k - 1)).length = k - 1 := win_length hx
  have hbase : AllBase (win F x (k - 1)) := (dfam_of_planted hpl).base.win _ _
  constructor
  · rw [enc_eq W _ (by rw [hl]; omega), ← lets_range' F x (k - 1) hx]
    rfl
  · rw [enc_eq W _ (by rw [rcSeq_length, hl]; omega), cds_rcSeq hbase, ← lets_range' F x (k - 1) hx]
    rfl

/-- the node numbers are injective on the valid nodes of each strand and the strands share no
node -/
theorem T18K_nodes (k : Nat) (F : List UInt8) (B : List (Nat × Nat)) (C : List (List Bool))
    (hpl : DPlanted k F B C) (n n' : Nd) (hv : n.valid k F.length B (shf k F B))
    (hv' : n'.valid k F.length B (shf k F B)) :
    (nF k F B n = nF k F B n' → n = n') ∧ (nR k F B n = nR k F B n' → n = n') ∧ nF k F B n ≠ nR k F B n' :=
  ⟨(dfam_of_planted hpl).nuF_inj hv hv', (dfam_of_planted hpl).nuR_inj hv hv',
    (dfam_of_planted hpl).nuF_ne_nuR hv hv'⟩

/-- a node with two or more successors is the entry node of a block (samples' strand: the
`(k-1)`-mer ending at the rightmost placement, first column `eX`) or the node after a block (other strand); the
entry node of block `t` has exactly two successors: the next contiguous window (through the block) and the
window that jumps over the block -/
theorem T18K_branching (W k : Nat) (F : List UInt8) (B : List (Nat × Nat)) (C : List (List Bool))
    (names : List String) (a : Arr) (hk : ValidK k) (hw : WidthOk W k) (hpl : DPlanted k F B C)
    (ha : IsArrOf a k names (dsamples F B C)) :
    (∀ X, 2 ≤ (succs (buildGraph W a).1 X).length →
      ∃ t, t < B.length ∧ (X = nF k F B (.c (eX k F B t)) ∨ X = nR k F B (.c (bE B t)))) ∧
    (∀ t, t < B.length →
      (succs (buildGraph W a).1 (nF k F B (.c (eX k F B t))) =
          [nF k F B (.c (eX k F B t + 1)), nF k F B (.g t (eX k F B t + 1))] ∨
       succs (buildGraph W a).1 (nF k F B (.c (eX k F B t))) =
          [nF k F B (.g t (eX k F B t + 1)), nF k F B (.c (eX k F B t + 1))])) := by
  have cx := ctx_of hk hw hpl ha
  refine ⟨fun X h2 => cx.two_succs h2, ?_⟩
  intro t ht
  have := cx.ensucc ht (Or.inl rfl)
  rw [(cx.h.heads_fwd ht).1, (cx.h.heads_fwd ht).2.1] at this
  exact this

/-- the graph is a graph of bubbles — for every block the bubble of the samples' strand
(`fwdBub`: entry = the entry node of the block, exit = the node after it, arm `a` through the block, arm `b` over
it) and its twin on the other strand (`revBub`); the arms are chains of single-successor nodes that reconverge
at the exit node (`BG`), the exits are the reverse complements of the entries of the twins (`Twins`), the arms
differ in length and the shorter one spells at most `2 (k-1)` letters (`ArmLen`), behind an exit node the next
exit node is more than `k` nodes away (`Far`); the arm over a block of shift `m` has `k - 2 - m` inner nodes, the
other one `|block|` more -/
theorem T18K_bubbles (W k : Nat) (F : List UInt8) (B : List (Nat × Nat)) (C : List (List Bool))
    (names : List String) (a : Arr) (hk : ValidK k) (hw : WidthOk W k) (hpl : DPlanted k F B C)
    (ha : IsArrOf a k names (dsamples F B C)) :
    BG (buildGraph W a).1 (allBubs k F B) ∧ Twins W (k - 1) (allBubs k F B) (Ctx.pairsOf k F B) ∧
    ArmLen (k - 1) (allBubs k F B) ∧ Far (k - 1) (buildGraph W a).1 (allBubs k F B) ∧
    ∀ t, t < B.length → (fwdBub k F B t).b.length = k - 2 - shf k F B t ∧
      (fwdBub k F B t).a.length = (B.getD t (0, 0)).2 + (k - 2 - shf k F B t) := by
  have cx := ctx_of hk hw hpl ha
  refine ⟨cx.bg, cx.twins, cx.h.armLen, cx.far, ?_⟩
  intro t ht
  obtain ⟨h1, h2⟩ := bub_lens (k := k) (F := F) (B := B) (t := t) (Or.inl rfl)
  have hb := cx.h.bt ht
  have he := cx.h.eX_bounds ht
  rw [h1, h2]
  unfold bS bE at *
  omega

/-- `identify_good_kmers` succeeds; the entry nodes are distinct: the entry node of every block
and, on the other strand, the node after it; the exit nodes are the node after every block and, on the other
strand, its entry node -/
theorem T18K_entries (W k : Nat) (F : List UInt8) (B : List (Nat × Nat)) (C : List (List Bool))
    (names : List String) (a : Arr) (hk : ValidK k) (hw : WidthOk W k) (hpl : DPlanted k F B C)
    (ha : IsArrOf a k names (dsamples F B C)) :
    ∃ starts ends, identifyGoodKmers W (k - 1) (buildGraph W a).1 (buildGraph W a).2 = some (starts, ends) ∧
      starts.Nodup ∧
      (∀ x, x ∈ starts ↔ ∃ t, t < B.length ∧ (x = nF k F B (.c (eX k F B t)) ∨ x = nR k F B (.c (bE B t)))) ∧
      (∀ x, x ∈ ends ↔ ∃ t, t < B.length ∧ (x = nF k F B (.c (bE B t)) ∨ x = nR k F B (.c (eX k F B t)))) := by
  have cx := ctx_of hk hw hpl ha
  obtain ⟨starts, ends, hid, ex⟩ := cx.bg.identify cx.hcol cx.twins.htw cx.twins.htw'
  exact ⟨starts, ends, hid, ex.snd, fun x => (ex.st x).trans (exists_allBubs k F B fun β => x = β.en),
    fun x => (ex.en x).trans (exists_allBubs k F B fun β => x = β.ex)⟩

/-- for the entry and exit nodes of `identify_good_kmers` and every depth: the indel groups are
exactly the bubbles (key = entry and exit node, the two variants of the two paths, in one of the two orders),
and every SNP group starts at an entry node -/
theorem T18K_groups (W k : Nat) (F : List UInt8) (B : List (Nat × Nat)) (C : List (List Bool))
    (names : List String) (a : Arr) (hk : ValidK k) (hw : WidthOk W k) (hpl : DPlanted k F B C)
    (ha : IsArrOf a k names (dsamples F B C)) (starts ends : List Nat)
    (hid : identifyGoodKmers W (k - 1) (buildGraph W a).1 (buildGraph W a).2 = some (starts, ends))
    (maxDepth : Nat) :
    (∀ kv ∈ (buildVariantGroups W (k - 1) (buildGraph W a).1 starts ends maxDepth).indelGroups,
      ∃ β ∈ allBubs k F B, ∃ o, kv = bubGroup W (k - 1) starts ends β o) ∧
    (∀ β ∈ allBubs k F B, ∃ o, bubGroup W (k - 1) starts ends β o ∈
      (buildVariantGroups W (k - 1) (buildGraph W a).1 starts ends maxDepth).indelGroups) ∧
    (∀ kv ∈ (buildVariantGroups W (k - 1) (buildGraph W a).1 starts ends maxDepth).snpGroups, kv.1.1 ∈ starts) := by
  have cx := ctx_of hk hw hpl ha
  obtain ⟨starts', ends', hid', ex⟩ := cx.bg.identify cx.hcol cx.twins.htw cx.twins.htw'
  rw [hid] at hid'
  simp only [Option.some.injEq, Prod.mk.injEq] at hid'
  obtain ⟨rfl, rfl⟩ := hid'
  exact cx.bg.groups ex cx.h.armLen cx.far W maxDepth

/-- the sequences of the two paths of the bubble of block `t` (shift `m`): `E ++ I ++ X`
(through the block) and `E ++ X` (over it) with `E` = the `(k-1)`-mer ending at the rightmost placement, `I` = the
block read there, `X` = the `k-1-m` letters behind it — the two paths reconverge and their lengths differ by the
length of the block; on the other strand `E'`, `I'`, `X'` = the `k-1-m` letters before the leftmost placement,
the block there, the `(k-1)`-mer behind it, reverse complemented -/
theorem T18K_sequences (W k : Nat) (F : List UInt8) (B : List (Nat × Nat)) (C : List (List Bool))
    (names : List String) (a : Arr) (hk : ValidK k) (hw : WidthOk W k) (hpl : DPlanted k F B C)
    (ha : IsArrOf a k names (dsamples F B C)) (starts ends : List Nat) (t : Nat) (ht : t < B.length) :
    (buildVariant W (k - 1) starts ends (fwdBub k F B t).en (fwdBub k F B t).pa).1 =
      lE k F B t ++ lI k F B t ++ lX k F B t ∧
    (buildVariant W (k - 1) starts ends (fwdBub k F B t).en (fwdBub k F B t).pb).1 = lE k F B t ++ lX k F B t ∧
    (buildVariant W (k - 1) starts ends (revBub k F B t).en (revBub k F B t).pa).1 =
      rcSeq (lX2 k F B t) ++ rcSeq (lI2 F B t) ++ rcSeq (lE2 k F B t) ∧
    (buildVariant W (k - 1) starts ends (revBub k F B t).en (revBub k F B t).pb).1 =
      rcSeq (lX2 k F B t) ++ rcSeq (lE2 k F B t) ∧
    (lE k F B t).length = k - 1 ∧ (lI k F B t).length = (B.getD t (0, 0)).2 ∧
      (lX k F B t).length = k - 1 - shf k F B t := by
  have cx := ctx_of hk hw hpl ha
  obtain ⟨s1, s2, s3, s4⟩ := cx.spell starts ends ht
  exact ⟨s1.trans (cx.h.w1_eq ht).1.symm, s2.trans (cx.h.w2_eq ht).1.symm, s3.trans (cx.h.rc_eq ht).1.symm,
    s4.trans (cx.h.rc_eq ht).2.symm,
    lE_len k F B t, (lI_len k F B t).trans (Nat.add_sub_cancel_left ..), lX_len k F B t⟩

/-- the first k-mer of the path through block `t` (`E` and the first letter of the block at its
rightmost placement) is carried by exactly the samples that keep the block, the first k-mer of the path over it
(`E` and the first letter behind the block there) by exactly those that delete it -/
theorem T18K_colours (W k : Nat) (F : List UInt8) (B : List (Nat × Nat)) (C : List (List Bool))
    (names : List String) (a : Arr) (hk : ValidK k) (hw : WidthOk W k) (hpl : DPlanted k F B C)
    (ha : IsArrOf a k names (dsamples F B C)) (t : Nat) (ht : t < B.length) :
    Assoc.lookup (buildGraph W a).2 (encodeKmer W ((lE k F B t ++ lI k F B t ++ lX k F B t).take (k - 1 + 1))) =
      some (LOE.keepIdx C t) ∧
    Assoc.lookup (buildGraph W a).2 (encodeKmer W ((lE k F B t ++ lX k F B t).take (k - 1 + 1))) =
      some (LOE.delIdx C t) ∧
    (∀ i, i ∈ LOE.keepIdx C t ↔ ∃ c, C[i]? = some c ∧ c.getD t false = true) ∧
    (∀ i, i ∈ LOE.delIdx C t ↔ ∃ c, C[i]? = some c ∧ c.getD t false = false) := by
  have cx := ctx_of hk hw hpl ha
  exact ⟨(cx.h.w1_eq ht).1 ▸ (cx.look ht).1, (cx.h.w2_eq ht).1 ▸ (cx.look ht).2.1, LOE.mem_keepIdx C t,
    LOE.mem_delIdx C t⟩

/-- `process_indels` computes, for the two variants of the bubble of block `t` in either order,
the expected record of the samples' strand, and for its twin the expected record of the other strand -/
theorem T18K_record (W k : Nat) (F : List UInt8) (B : List (Nat × Nat)) (C : List (List Bool))
    (names : List String) (a : Arr) (hk : ValidK k) (hw : WidthOk W k) (hpl : DPlanted k F B C)
    (ha : IsArrOf a k names (dsamples F B C)) (mNum mDen : Nat) (starts ends : List Nat) (t : Nat)
    (ht : t < B.length) (o : Bool) :
    LOP.recOf W (k - 1) C.length mNum mDen (buildGraph W a).2 (bubVs W (k - 1) starts ends (fwdBub k F B t) o) =
      some (some (dexpRec k F B C t false)) ∧
    LOP.recOf W (k - 1) C.length mNum mDen (buildGraph W a).2 (bubVs W (k - 1) starts ends (revBub k F B t) o) =
      some (some (dexpRec k F B C t true)) := by
  have cx := ctx_of hk hw hpl ha
  have h1 := cx.recOf_fwd mNum mDen starts ends ht o
  have h2 := cx.recOf_rev mNum mDen starts ends ht o
  rw [cx.h.recFw_eq ht] at h1
  rw [cx.h.recRv_eq ht] at h2
  exact ⟨h1, h2⟩

/-! ### examples: the hypotheses are satisfiable, the theorems apply -/

/-- a family without shift: k = 5, one block of one column at 20 (the letter A), kept by samples 0 and 2, deleted
by sample 1 -/
def exF : List UInt8 := bs "CACCAACGCTTACGGGACACATCGCAGGTTTCCGCCCTACCC"
def exB : List (Nat × Nat) := [(20, 1)]
def exC : List (List Bool) := [[true], [false], [true]]

theorem ex_planted : DPlanted 5 exF exB exC := by
  unfold DPlanted LOE.DPlanted LOE.dplantedB dplantedSB
  rw [dalignedSB_eq]
  decide +kernel
theorem ex_k : ValidK 5 := by unfold ValidK; decide
theorem ex_w : WidthOk 64 5 := by unfold WidthOk; decide

/-- the main theorem on that family: depth 0, no missing data allowed, table order -/
example : ∃ recs, lo 64 5 3 0 1 2 0 (arrOf 64 5 ["s0", "s1", "s2"] (dsamples exF exB exC)) = some ([], recs) ∧
    RecsMatch 5 exF exB exC recs :=
  T18_complete_table 64 5 exF exB exC ["s0", "s1", "s2"] ex_k ex_w ex_planted 0 1 2 0

/-- the same with depth 4, threshold 1/2 and the 128-bit width -/
example : ∃ recs, lo 128 5 3 1 2 0 4 (arrOf 128 5 ["s0", "s1", "s2"] (dsamples exF exB exC)) = some ([], recs) ∧
    RecsMatch 5 exF exB exC recs :=
  T18_complete_table 128 5 exF exB exC ["s0", "s1", "s2"] ex_k (by unfold WidthOk; decide) ex_planted 1 2 0 4

-- what the model computes on that family: the record of the samples' strand (ACAC / A / TCGC, the block is the
-- majority allele, so REF = A and ALT = -)
#guard lo 64 5 3 0 1 2 0 (arrOf 64 5 ["s0", "s1", "s2"] (dsamples exF exB exC)) =
  some ([], [{ ref := bs "A", alt := bs "-", before := bs "ACAC", after := bs "TCGC", calls := ["0", "1", "0"] }])
example : dexpRec 5 exF exB exC 0 false =
    { ref := bs "A", alt := bs "-", before := bs "ACAC", after := bs "TCGC", calls := ["0", "1", "0"] } := by decide +kernel
example : dexpRec 5 exF exB exC 0 true =
    { ref := bs "T", alt := bs "-", before := bs "GCGA", after := bs "GTGT", calls := ["0", "1", "0"] } := by decide +kernel

/-- the rows of the table in reverse order: the theorem applies as well -/
example : ∃ recs, lo 64 5 3 0 1 2 1 (arrOfRows 64 5 ["s0", "s1", "s2"]
      (tableOf 5 ["s0", "s1", "s2"] (dsamples exF exB exC)).rows.reverse) = some ([], recs) ∧
    RecsMatch 5 exF exB exC recs :=
  T18_complete 64 5 exF exB exC ["s0", "s1", "s2"] _ ex_k ex_w ex_planted
    (isArrOf_rows 64 5 _ _ _ (List.reverse_perm _)) 0 1 2 1

example := T18K_bubbles 64 5 exF exB exC ["s0", "s1", "s2"] _ ex_k ex_w ex_planted (isArrOf_arrOf 64 5 _ _)
example := T18K_entries 64 5 exF exB exC ["s0", "s1", "s2"] _ ex_k ex_w ex_planted (isArrOf_arrOf 64 5 _ _)
example := T18K_record 64 5 exF exB exC ["s0", "s1", "s2"] _ ex_k ex_w ex_planted (isArrOf_arrOf 64 5 _ _) 0 1 [] [] 0
  (by decide) false

/-- a family WITH a shift: k = 5, the block is the first T of ...CTA[T]TGAG..., it can slide by
m = 1; kept by samples 0 and 2.  The strict uniqueness `dalignedB` fails, the hypotheses of the theorem hold -/
def shF : List UInt8 := bs "GAGGCGTCCCGCTTATCCTATTGAGTGAAGGGTGGGGCTACGA"
def shB : List (Nat × Nat) := [(20, 1)]
def shC : List (List Bool) := [[true], [false], [true], [false]]

theorem sh_planted : DPlanted 5 shF shB shC := by
  unfold DPlanted LOE.DPlanted LOE.dplantedB dplantedSB
  rw [dalignedSB_eq]
  decide +kernel
example : shOf 5 shF (20, 1) = 1 := by decide +kernel
example : dalignedB 4 shF shB shC = false := by
  -- CTAT: columns 17 .. 20 of the samples with the block, 17, 18, 19, 21 of the others
  unfold dalignedB
  rw [List.all_eq_false]
  refine ⟨[17, 18, 19, 20], by decide +kernel, ?_⟩
  rw [Bool.not_eq_true, List.all_eq_false]
  exact ⟨[17, 18, 19, 21], by decide +kernel, by decide +kernel⟩

example : ∃ recs, lo 64 5 4 0 1 2 1 (arrOf 64 5 ["s0", "s1", "s2", "s3"] (dsamples shF shB shC)) = some ([], recs) ∧
    RecsMatch 5 shF shB shC recs :=
  T18_complete_table 64 5 shF shB shC ["s0", "s1", "s2", "s3"] ex_k ex_w sh_planted 0 1 2 1

-- the record: `before` = CTAT ends at the rightmost placement, the insert is the second T, `after` = GAG has
-- k-1-m = 3 letters
#guard lo 64 5 4 0 1 2 1 (arrOf 64 5 ["s0", "s1", "s2", "s3"] (dsamples shF shB shC)) =
  some ([], [{ ref := bs "-", alt := bs "T", before := bs "CTAT", after := bs "GAG", calls := ["1", "0", "1", "0"] }])
example : dexpRec 5 shF shB shC 0 false =
    { ref := bs "-", alt := bs "T", before := bs "CTAT", after := bs "GAG", calls := ["1", "0", "1", "0"] } := by
  decide +kernel

-- the literal families of the deletion model (`dfams`: 39 without shift, k = 5, 7, 9, 11; 2-5 samples; 1-3 blocks
-- of 1 .. k-1 columns; `sfams`: 22 with shifts 1 .. k-3) satisfy the hypotheses; the claim holds for depths 0, 1,
-- 4 and several thresholds (all 9 settings for the first 28 of `dfams`, two or three settings for the others); the
-- intermediate statements (edges, entry nodes, groups) hold on the first 26 of `dfams` and on `sfams`
#guard dfams.length = 39 ∧ sfams.length = 22 ∧ sfamsMax.length = 4
#guard (dfams ++ sfams).all (fun f => dplantedB f.k f.F f.B f.C)
#guard dfams.all (fun f => dalignedB (f.k - 1) f.F f.B f.C) && sfams.all (fun f => !dalignedB (f.k - 1) f.F f.B f.C)
#guard (dfams.take 28).all (fun f => settings.all (fun s => dcompleteOn 64 f.k f.F f.B f.C (f.arr 64) s.1 s.2.1 s.2.2.1 s.2.2.2))
#guard (dfams.drop 28).all (fun f => [(0, 1, 2, 0), (1, 2, 0, 4)].all
  (fun (s : Nat × Nat × Nat × Nat) => dcompleteOn 64 f.k f.F f.B f.C (f.arr 64) s.1 s.2.1 s.2.2.1 s.2.2.2))
#guard sfams.all (fun f => [(0, 1, 2, 0), (1, 10, 0, 1), (1, 2, 2, 4)].all
  (fun (s : Nat × Nat × Nat × Nat) => dcompleteOn 64 f.k f.F f.B f.C (f.arr 64) s.1 s.2.1 s.2.2.1 s.2.2.2))
#guard (dfams.take 26 ++ sfams).all (fun f => checkDEdges 64 f && checkDEntries 64 f && checkDGroups 64 f 0 && checkDGroups 64 f 1)

-- the generator's insertion model and the deletion model give the same samples
def exShift1 : IFam := ⟨5, bs "GAGGCGTCCCGCTTATCCTATGAGTGAAGGGTGGGGCTACGA", [(20, bs "T")], [[true], [false], [true], [false]]⟩
#guard exShift1.toD == ⟨5, shF, shB, shC⟩ && exShift1.S == dsamples shF shB shC && shiftOf exShift1.A (20, bs "T") == 1

/-- shift k-2 (k = 5, one more C in the run CCC): the short path is entry → exit directly; the
indel is not reported at any depth.  `sfamsMax`: the hypotheses hold with the bound `k-2` on the shifts, not with
`k-3`, and exactly the blocks of shift `k-2` are missing (`dcompleteOnS`) -/
def exShiftMax : IFam := ⟨5, bs "CTGGACGCCTAAAAGGTTATCCCGTTCGCAAGCAGATGCCC", [(20, bs "C")], [[true], [false]]⟩
#guard shiftOf exShiftMax.A (20, bs "C") = 3
#guard basicB exShiftMax && weakUniqueB 4 exShiftMax.S
#guard [0, 1, 4].all (fun d => lo 64 5 2 0 1 2 d (exShiftMax.arr 64) = some ([], []))
#guard sfamsMax.all (fun f => dplantedSB f.k (f.k - 2) f.F f.B f.C && !dplantedB f.k f.F f.B f.C)
#guard sfamsMax.all (fun f => [(0, 1, 2, 0), (1, 2, 2, 4)].all
  (fun (s : Nat × Nat × Nat × Nat) => dcompleteOnS 64 f.k f.F f.B f.C (f.arr 64) s.1 s.2.1 s.2.2.1 s.2.2.2))

#print axioms T18_complete
#print axioms T18_complete_table
#print axioms T18_complete_once
#print axioms T18_complete_check
#print axioms T18_complete_sound
#print axioms T18K_occurrence
#print axioms T18K_graph_edges
#print axioms T18K_nodes
#print axioms T18K_branching
#print axioms T18K_bubbles
#print axioms T18K_entries
#print axioms T18K_groups
#print axioms T18K_sequences
#print axioms T18K_colours
#print axioms T18K_record

end SkaModel.Props.C18K

namespace SkaModel.Props.C17U

open SkaModel SkaModel.Skalo SkaModel.Spec SkaModel.Props.C16 SkaModel.Props.C17G SkaModel.LOG
open SkaModel.LORL SkaModel.LOC

/-- `T18_complete` for the pipeline on the merged colours (`loU`) -/
theorem T18U_complete (W k : Nat) (F : List UInt8) (B : List (Nat × Nat)) (C : List (List Bool))
    (names : List String) (a : Arr) (hk : ValidK k) (hw : WidthOk W k) (hpl : C18K.DPlanted k F B C)
    (ha : C18K.IsArrOf a k names (C18K.dsamples F B C)) (mNum mDen ik maxDepth : Nat) :
    ∃ recs, loU W k C.length mNum mDen ik maxDepth a = some ([], recs) ∧ C18K.RecsMatch k F B C recs := by
  rw [T17U_lo_eq _ _ _ _ _ _ _ _ (T17U_cons_var ha (C18K.ctx_of hk hw hpl ha).h.vfam hk hw)]
  exact C18K.T18_complete W k F B C names a hk hw hpl ha mNum mDen ik maxDepth

end SkaModel.Props.C17U

#print axioms SkaModel.Props.C17U.T18U_complete
