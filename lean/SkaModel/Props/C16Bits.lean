/-
C16 — encode / decode / reverse complement of packed split k-mers are exact,
for both integer widths and every valid k.
-/
import SkaModel.Props.C16
import SkaModel.Lemmas.Codec
import SkaModel.Lemmas.RevComp

namespace SkaModel.Props.C16

open SkaModel SkaModel.Spec

/-- `encode_kmer` packs the 2-bit codes of the bases, most significant first -/
theorem T16_encode (W : Nat) (s : List UInt8) (hW : 2 * s.length ≤ W) :
    encodeKmer W s = Spec.packL (s.map code) := by
  exact encode_foldl W s Codes.nil (by rwa [List.length_nil, Nat.zero_add])

/-- `decode_kmer` of two packed arms of `halfK k` codes each: the masks cut the word where the
lists were joined -/
theorem decodeKmer_append (W k : Nat) (hk : ValidK k) (hw : WidthOk W k) {U L : List Nat}
    (hU : Codes U) (hL : Codes L) (lU : U.length = L.length) (lL : L.length = halfK k) :
    decodeKmer W k (packL (U ++ L)) = (U.map decodeBase, L.map decodeBase) := by
  obtain ⟨hlo, hup⟩ := T16_masks W k hk hw
  unfold decodeKmer
  simp only
  rw [hlo, hup, ← lL, and_lowMask, and_upMask, packL_append_mod hL, packL_append_div hL,
    Nat.mod_eq_of_lt (packL_lt_of_length hU lU), Nat.mul_comm L.length 2, shr_four_pow,
    Nat.mul_div_cancel _ (Nat.pow_pos (by decide)), decodeLoop_packL _ hU _ lU,
    decodeLoop_packL _ hL _ rfl]

/-- `decode_kmer` returns the letters of the two arms -/
theorem T16_decode (W k : Nat) (cs : List Nat) (hc : ∀ c ∈ cs, c < 4)
    (hlen : cs.length = 2 * halfK k) (hk : ValidK k) (hw : WidthOk W k) :
    decodeKmer W k (Spec.packL cs)
      = ((cs.take (halfK k)).map decodeBase, (cs.drop (halfK k)).map decodeBase) := by
  have hc' : Codes cs := hc
  have := decodeKmer_append W k hk hw (hc'.take (halfK k)) (hc'.drop (halfK k))
    (by rw [List.length_take, List.length_drop, hlen, Nat.two_mul, Nat.add_sub_cancel]
        exact Nat.min_eq_left (Nat.le_add_right _ _))
    (by rw [List.length_drop, hlen, Nat.two_mul, Nat.add_sub_cancel])
  rwa [List.take_append_drop] at this

/-- `skalo_decode_kmer` returns the letters of the whole k-mer -/
theorem T16_skalo_decode (W n : Nat) (cs : List Nat) (hc : ∀ c ∈ cs, c < 4)
    (hlen : cs.length = n) (hW : 2 * n < W) :
    skaloDecode W (Spec.packL cs) n = cs.map decodeBase := by
  have hc' : Codes cs := hc
  unfold skaloDecode
  rw [skaloMask_eq W n (by omega), and_lowMask,
    Nat.mod_eq_of_lt (packL_lt_of_length hc' hlen), decodeLoop_packL _ hc' _ hlen]

/-- `rev_comp` is the reverse complement of the packed bases, for both widths and
every length that fits -/
theorem T16_rc (W : Nat) (hW : W = 64 ∨ W = 128) (cs : List Nat) (hc : ∀ c ∈ cs, c < 4)
    (n : Nat) (hlen : cs.length = n) (hn : n ≤ W / 2) :
    revComp W (Spec.packL cs) n = Spec.packL (Spec.rcCodes cs) :=
  revComp_packL W hW cs hc n hlen hn

theorem T16_rc_invol (W : Nat) (hW : W = 64 ∨ W = 128) (cs : List Nat) (hc : ∀ c ∈ cs, c < 4)
    (n : Nat) (hlen : cs.length = n) (hn : n ≤ W / 2) :
    revComp W (revComp W (Spec.packL cs) n) n = Spec.packL cs := by
  rw [revComp_packL W hW cs hc n hlen hn,
    revComp_packL W hW _ (rcCodes_codes hc) n (by rw [rcCodes_length, hlen]) hn, rcCodes_rcCodes]

end SkaModel.Props.C16
