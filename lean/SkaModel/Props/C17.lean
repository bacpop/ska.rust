/-
C17 — ska lo SNP calls: well-formedness logic of the modelled helpers
(`check_missing_data`, `complement_snp`, `get_potential_snp`, the writer
`create_fasta_and_vcf`, the VCF genotype indices, the row graph of `build_graph`).
The lemmas behind them: `SkaModel/Lemmas/LOBasic.lean`, `LOCol.lean`, `LOCalls.lean`, `LOWriter.lean`, `LOGraph.lean`.
-/
import SkaModel.Impl.Skalo
import SkaModel.Lemmas.LOCalls
import SkaModel.Lemmas.LOWriter
import SkaModel.Lemmas.LOGraph

namespace SkaModel.Props.C17

open SkaModel SkaModel.Skalo SkaModel.Spec SkaModel.Props.C16

/-- `check_missing_data` reports the number of entries that are none of A/C/G/T
(the acceptance flag: `T17_check_spec`) -/
theorem T17_check (col : List UInt8) :
    (checkMissingData col).2 = (col.filter (fun b => !isACGT b)).length := rfl

/-- on a single entry, complementing is an involution where it is defined (whole columns: `T17_complement`) -/
theorem T17_complement_invol : ∀ b : UInt8, ∀ c, complementSnp [b] = some [c] → complementSnp [c] = some [b] :=
  fun b c h => LO.complementSnp_invol [b] [c] h

/-- the flag: at least two distinct A/C/G/T alleles; the count: entries that are not A/C/G/T -/
theorem T17_check_spec (col : List UInt8) :
    ((checkMissingData col).1 = true ↔ 2 ≤ ((col.filter isACGT).eraseDups).length) ∧
    (checkMissingData col).2 = col.length - (col.filter isACGT).length :=
  ⟨LO.check_fst col, LO.check_snd col⟩

/-- the same flag, as "two different A/C/G/T letters occur in the column" -/
theorem T17_check_exists (col : List UInt8) :
    (checkMissingData col).1 = true ↔
      ∃ a b, a ≠ b ∧ isACGT a = true ∧ isACGT b = true ∧ a ∈ col ∧ b ∈ col :=
  LO.check_fst_exists col

/-- `eraseDups` does produce a duplicate-free list (so its length counts distinct alleles) -/
theorem T17_eraseDups_nodup (col : List UInt8) : ((col.filter isACGT).eraseDups).Nodup :=
  Dedup.eraseDups_nodup _

/-- the entries `complement_snp` accepts -/
def OkBase (b : UInt8) : Prop := b = 65 ∨ b = 67 ∨ b = 71 ∨ b = 84 ∨ b = 45 ∨ b = 78

/-- A<->T, C<->G, '-' and N fixed, as a relation on entries -/
def CompPair (b c : UInt8) : Prop :=
  (b = 65 ∧ c = 84) ∨ (b = 84 ∧ c = 65) ∨ (b = 67 ∧ c = 71) ∨ (b = 71 ∧ c = 67) ∨
  (b = 45 ∧ c = 45) ∨ (b = 78 ∧ c = 78)

theorem compPair_of_ok (b : UInt8) (h : LO.okBase b) : CompPair b (LOC.compl b) := by
  unfold LO.okBase at h
  rcases h with h | h | h | h | h | h <;> subst h <;> unfold CompPair <;> decide

theorem T17_complement (col : List UInt8) :
    -- defined exactly on columns over A, C, G, T, '-', N
    ((complementSnp col).isSome = true ↔ ∀ b ∈ col, OkBase b) ∧
    ∀ col', complementSnp col = some col' →
      -- same length, pointwise complement
      col'.length = col.length ∧
      (∀ i (h : i < col.length) (h' : i < col'.length), CompPair col[i] col'[i]) ∧
      -- involution
      complementSnp col' = some col ∧
      -- the complemented column too: same acceptance flag and missing count
      checkMissingData col' = checkMissingData col := by
  refine ⟨LO.complementSnp_isSome col, ?_⟩
  intro col' h
  obtain ⟨hok, hc⟩ := (LO.complementSnp_eq_some col col').1 h
  refine ⟨by rw [hc, List.length_map], ?_, LO.complementSnp_invol col col' h,
    LO.check_complement col col' h⟩
  intro i hi hi'
  subst hc
  rw [List.getElem_map]
  exact compPair_of_ok _ (hok _ (List.getElem_mem hi))

/-- consequence spelled out: the complemented column has ≥ 2 distinct ACGT alleles iff the original has -/
theorem T17_complement_check (col col' : List UInt8) (h : complementSnp col = some col') :
    (2 ≤ ((col'.filter isACGT).eraseDups).length ↔ 2 ≤ ((col.filter isACGT).eraseDups).length) ∧
    col'.length - (col'.filter isACGT).length = col.length - (col.filter isACGT).length := by
  have hc := LO.check_complement col col' h
  refine ⟨?_, ?_⟩
  · rw [← LO.check_fst, ← LO.check_fst, hc]
  · rw [← LO.check_snd, ← LO.check_snd, hc]

theorem T17_potential (variants : List (List UInt8 × List Nat)) :
    (∀ p, p ∈ getPotentialSnp variants ↔
      -- p is marked in some variant
      (∃ v ∈ variants, p ∈ v.2) ∧
      -- two distinct A/C/G/T letters occur at position p (only sequences longer than p have `[p]?`)
      ∃ a b, a ≠ b ∧ isACGT a = true ∧ isACGT b = true ∧
        (∃ v ∈ variants, v.1[p]? = some a) ∧ (∃ v ∈ variants, v.1[p]? = some b)) ∧
    -- sorted increasing, hence duplicate free
    (getPotentialSnp variants).Pairwise (fun a b => a < b) ∧
    (getPotentialSnp variants).Nodup :=
  ⟨LO.mem_getPotentialSnp variants, LO.getPotentialSnp_sorted variants,
    (LO.getPotentialSnp_sorted variants).imp (fun h => Nat.ne_of_lt h)⟩

/-- sanitised reference base: A/C/G/T/N kept, everything else N -/
abbrev san := LOW.san

/-- position order is a strictly increasing rearrangement of the variants -/
theorem T17_position_order (variants : List (Nat × List UInt8)) (hnd : (variants.map (·.1)).Nodup) :
    (sortByKey (·.1) variants).Perm variants ∧
    (sortByKey (·.1) variants).Pairwise (fun a b => a.1 < b.1) :=
  ⟨perm_sortByKey _ _, sortByKey_strictSorted _ _ hnd⟩

theorem T17_writer (genome : List UInt8) (n : Nat) (variants : List (Nat × List UInt8))
    (hnd : (variants.map (·.1)).Nodup)
    (hcol : ∀ v ∈ variants, v.2.length = n)
    (hpos : genome ≠ [] → ∀ v ∈ variants, v.1 < genome.length) :
    let o := createFastaAndVcf genome n variants
    let sorted := sortByKey (·.1) variants
    -- (a) SNP alignment: n sequences; sequence i lists the i-th entries of the columns in position order
    (o.snpSeqs.length = n ∧ ∀ i, i < n → o.snpSeqs[i]? = some (sorted.map (fun v => v.2.getD i 45)))
    -- (b) with a genome: pseudo-genomes and VCF records
    ∧ (genome ≠ [] →
        (∃ ps, o.pseudo = some ps ∧ ps.length = n ∧
          ∀ i, i < n → ∃ s, ps[i]? = some s ∧ s.length = genome.length ∧
            ∀ q, q < genome.length →
              (∀ v ∈ variants, v.1 = q → s[q]? = some (v.2.getD i 45)) ∧
              ((∀ v ∈ variants, v.1 ≠ q) → s[q]? = some (san (genome.getD q 0))))
        ∧ o.vcf = sorted.map (fun v => (v.1, san (genome.getD v.1 0), v.2)))
    -- (c) without a genome
    ∧ (genome = [] → o.pseudo = none ∧ o.vcf = []) := by
  -- `hcol` is not used: the model pads a short column with '-' and ignores what exceeds `n` entries
  intro o sorted
  have ho : o = _ := LOW.createFastaAndVcf_closed genome n variants hnd hpos
  have hs : LOW.SSorted sorted := sortByKey_strictSorted (·.1) variants hnd
  have hmem : ∀ v, v ∈ sorted ↔ v ∈ variants := fun v => mem_sortByKey _ _ _
  refine ⟨?_, ?_, ?_⟩
  · rw [ho]
    exact ⟨LOW.seqsOf_length n _, fun i hi => LOW.seqsOf_getElem? n _ i hi⟩
  · intro hg
    have hge : genome.isEmpty = false := by
      cases genome with
      | nil => exact absurd rfl hg
      | cons _ _ => rfl
    rw [ho]
    simp only [hge, Bool.false_eq_true, if_false]
    refine ⟨⟨_, rfl, LOW.pseudoOf_length _ _ _ _, ?_⟩, ?_⟩
    · intro i hi
      refine ⟨_, LOW.pseudoOf_getElem? _ _ _ _ i hi, by simp, ?_⟩
      intro q hq
      have hget : ((List.range genome.length).map (LOW.charAt (genome.map LOW.san) sorted i))[q]?
          = some (LOW.charAt (genome.map LOW.san) sorted i q) := by
        simp [List.getElem?_map, List.getElem?_range hq]
      refine ⟨?_, ?_⟩
      · intro v hv hvq
        rw [hget, ← hvq, LOW.charAt_of_mem _ hs ((hmem v).2 hv)]
      · intro hno
        rw [hget, LOW.charAt_of_not_mem _ (fun w hw => hno w ((hmem w).1 hw)), LOW.getD_map_san genome q hq]
    · unfold LOW.vcfOf
      apply List.map_congr_left
      intro v hv
      rw [LOW.getD_map_san genome v.1 (hpos hg v ((hmem v).1 hv))]
  · intro hg
    rw [ho, hg]
    exact ⟨rfl, rfl⟩

/-- every sequence of the alignment has one character per variant -/
theorem T17_writer_lengths (genome : List UInt8) (n : Nat) (variants : List (Nat × List UInt8))
    (hnd : (variants.map (·.1)).Nodup)
    (hpos : genome ≠ [] → ∀ v ∈ variants, v.1 < genome.length) :
    ∀ s ∈ (createFastaAndVcf genome n variants).snpSeqs, s.length = variants.length := by
  intro s hs
  rw [LOW.createFastaAndVcf_closed genome n variants hnd hpos] at hs
  obtain ⟨i, _, rfl⟩ := List.mem_map.1 hs
  rw [List.length_map, (perm_sortByKey _ _).length_eq]

/-- the closed form of the writer's output -/
theorem T17_writer_closed (genome : List UInt8) (n : Nat) (variants : List (Nat × List UInt8))
    (hnd : (variants.map (·.1)).Nodup)
    (hpos : genome ≠ [] → ∀ v ∈ variants, v.1 < genome.length) :
    createFastaAndVcf genome n variants =
      { snpSeqs := LOW.seqsOf n (sortByKey (·.1) variants),
        pseudo := if genome.isEmpty then none
          else some (LOW.pseudoOf (genome.map san) (sortByKey (·.1) variants) n genome.length),
        vcf := if genome.isEmpty then [] else LOW.vcfOf (genome.map san) (sortByKey (·.1) variants) } :=
  LOW.createFastaAndVcf_closed genome n variants hnd hpos

/-- `alt_bases`: the distinct entries other than REF, '-' and N -/
abbrev altBases := LO.altBases
/-- genotype of entry `b` against an ALT list: `some 0` = "0", `none` = ".", `some (j+1)` = ALT j (1-based) -/
abbrev gtIndexWith := LO.gtIndexWith
/-- genotype of entry `b` in the record `(rb, col)` -/
abbrev gtIndex := LO.gtIndex
/-- reading a genotype back through REF / ALT -/
abbrev decode := LO.decode

/-- the Rust collects `alt_bases` through a `HashSet`: the statement holds for any ordering -/
theorem T17_vcf_decode_any_order (rb : UInt8) (col alts : List UInt8)
    (halts : ∀ c, c ∈ alts ↔ c ∈ col ∧ c ≠ rb ∧ c ≠ 45 ∧ c ≠ 78) (b : UInt8) (hb : b ∈ col) :
    decode rb alts (gtIndexWith rb alts b) = if b == rb then rb else vcfGenotypeChar b := by
  unfold gtIndexWith LO.gtIndexWith vcfGenotypeChar
  by_cases h1 : (b == rb) = true
  · rw [if_pos h1, if_pos h1]
    rfl
  · rw [if_neg h1, if_neg h1]
    by_cases h2 : (b == 45 || b == 78) = true
    · rw [if_pos h2, if_pos h2]
      rfl
    · rw [if_neg h2, if_neg h2]
      have h2' : b ≠ 45 ∧ b ≠ 78 := by simpa using h2
      obtain ⟨j, hj, hj'⟩ := LO.findIdx?_mem alts b ((halts b).2 ⟨hb, mt beq_iff_eq.2 h1, h2'.1, h2'.2⟩)
      rw [hj]
      show alts.getD j 46 = b
      rw [List.getD_eq_getElem?_getD, hj']
      rfl

/-- VCF genotype indices decode to the entry ('.' for '-' and N) -/
theorem T17_vcf_decode (rb : UInt8) (col : List UInt8) (b : UInt8) (hb : b ∈ col) :
    decode rb (altBases rb col) (gtIndex rb col b) = if b == rb then rb else vcfGenotypeChar b :=
  T17_vcf_decode_any_order rb col _ (LO.mem_altBases rb col) b hb

theorem T17_altBases (rb : UInt8) (col : List UInt8) :
    (altBases rb col).Nodup ∧ ∀ c, c ∈ altBases rb col ↔ c ∈ col ∧ c ≠ rb ∧ c ≠ 45 ∧ c ≠ 78 :=
  ⟨LO.altBases_nodup rb col, LO.mem_altBases rb col⟩

/-- bases (order A, C, G, T) shown by at least one sample, with IUPAC expansion -/
abbrev shownBases := LOG.shownBases
/-- the samples showing base `n`: `{i | cell i ≠ '-' ∧ n ∈ degenerate (cell i)}` -/
abbrev samplesOf := LOG.samplesOf

/-- the row graph of `build_graph`: (k-1)-mer de Bruijn edges on both strands with IUPAC expansion -/
theorem T17_graph (W k : Nat) (hk : ValidK k) (hw : WidthOk W k) (u l : List Nat)
    (hu : u.length = halfK k) (hl : l.length = halfK k)
    (hcu : ∀ c ∈ u, c < 4) (hcl : ∀ c ∈ l, c < 4) (cells : List UInt8) :
    rowGraph W k (packL (u ++ l)) cells =
      ((shownBases cells).flatMap (fun n =>
          let full := u ++ [code n] ++ l      -- the codes of the k-mer  U n L
          [ (packL (full.take (k - 1)), packL (full.drop 1)),
            (packL (rcCodes (full.drop 1)), packL (rcCodes (full.take (k - 1)))) ]),
       (shownBases cells).flatMap (fun n =>
          let full := u ++ [code n] ++ l
          [ (packL full, samplesOf cells n), (packL (rcCodes full), samplesOf cells n) ])) :=
  LOG.rowGraph_spec' W k hk hw u l hu hl hcu hcl cells

theorem T17_graph_sets (cells : List UInt8) (n : UInt8) :
    (n ∈ shownBases cells ↔ n ∈ ([65, 67, 71, 84] : List UInt8) ∧
      ∃ i, i < cells.length ∧ cells.getD i 45 ≠ 45 ∧ n ∈ degenerate (cells.getD i 45)) ∧
    (∀ i, i ∈ samplesOf cells n ↔
      i < cells.length ∧ cells.getD i 45 ≠ 45 ∧ n ∈ degenerate (cells.getD i 45)) ∧
    (samplesOf cells n).Pairwise (· < ·) :=
  ⟨LOG.mem_shownBases cells n, fun i => LOG.mem_samplesOf cells n i, LOG.samplesOf_pairwise cells n⟩

/-- the codes in `T17_graph` are those of the letters `U n L` of the decoded arms -/
theorem T17_graph_codes (u l : List Nat) (hcu : ∀ c ∈ u, c < 4) (hcl : ∀ c ∈ l, c < 4) (n : UInt8) :
    (u.map decodeBase ++ [n] ++ l.map decodeBase).map code = u ++ [code n] ++ l :=
  LOG.map_code_full u l hcu hcl n

example : checkMissingData [65, 67, 45, 78, 65] = (true, 2) := by decide
example : checkMissingData [65, 65, 45, 82] = (false, 2) := by decide
example : complementSnp [65, 67, 71, 84, 45, 78] = some [84, 71, 67, 65, 45, 78] := by decide
example : complementSnp [65, 82] = none := by decide
example : checkMissingData [84, 71, 45, 78, 84] = checkMissingData [65, 67, 45, 78, 65] := by decide
example : getPotentialSnp [([65, 67, 71], [1, 2, 5]), ([65, 71, 71], [2, 1]), ([84], [])] = [1] := by decide
example : getPotentialSnp [([65, 67], [1, 0]), ([84, 71], [0])] = [0, 1] := by decide
example :
    createFastaAndVcf [65, 67, 71, 84, 88] 2 [(3, [65, 67]), (1, [71, 45])]
      = { snpSeqs := [[71, 65], [45, 67]],
          pseudo := some [[65, 71, 71, 65, 78], [65, 45, 71, 67, 78]],
          vcf := [(1, 67, [71, 45]), (3, 84, [65, 67])] } := by decide +kernel
example : (([(3, [65, 67]), (1, [71, 45])] : List (Nat × List UInt8)).map (·.1)).Nodup := by decide
example : altBases 67 [71, 45, 67, 84, 71, 78] = [71, 84] := by decide
example : [71, 45, 67, 84, 71, 78].map (gtIndex 67 [71, 45, 67, 84, 71, 78])
    = [some 1, none, some 0, some 2, some 1, none] := by decide
example : [71, 45, 67, 84, 71, 78].map (fun b => decode 67 [71, 84] (gtIndex 67 [71, 45, 67, 84, 71, 78] b))
    = [71, 46, 67, 84, 71, 46] := by decide
example : ValidK 5 ∧ WidthOk 64 5 := by unfold ValidK WidthOk; omega
example : rowGraph 64 5 (packL ([0, 1] ++ [2, 3])) [65, 45, 82, 78] =
    ([(18,75),(75,46),(22,91),(79,62),(30,123),(71,30),(26,107),(67,14)],
     [(75,[0,2,3]),(302,[0,2,3]),(91,[3]),(318,[3]),(123,[2,3]),(286,[2,3]),(107,[3]),(270,[3])]) := by
  decide +kernel

end SkaModel.Props.C17
