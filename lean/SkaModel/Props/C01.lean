/-
C01 — Build yields exactly the split k-mers of the input, IUPAC-merged per k-mer.
-/
import SkaModel.Impl.SkaDict
import SkaModel.Spec.Dict
import SkaModel.Lemmas.Windows

namespace SkaModel.Props.C01

open SkaModel SkaModel.Spec

/-- the listed window starts are exactly the valid starts, and each lies below `len + 1 - k` -/
theorem T01_windows_valid (k len : Nat) (ok : Nat → Bool) (j : Nat) :
    j ∈ windowsBy k len ok ↔ (j + k ≤ len ∧ ∀ t, t < k → ok (j + t) = true) ∧ j < len + 1 - k := by
  rw [mem_windowsBy]
  exact ⟨fun h => ⟨h, by omega⟩, fun h => h.1⟩

end SkaModel.Props.C01
