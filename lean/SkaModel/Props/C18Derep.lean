/-
C18 — "no indel is reported twice": the greedy de-replication of indel groups
(`dereplicate_indels`, model `Skalo.dereplicate`).  For every list of groups and every k:
the kept groups are input groups; a kept group's entry k-mer is never the entry, the exit
or a reverse complement of those of a group kept before it (so a bubble and its
reverse-strand twin, or two groups opening at the same k-mer, are never both reported);
every dropped group is explained by such a clash; the recorded extremities are exactly
those of the kept groups; and the result does not depend on the (hash-map) order in
which the groups arrive.
-/
import SkaModel.Impl.SkaloDerep
import SkaModel.Lemmas.LOBasic

namespace SkaModel.Props.C18

open SkaModel SkaModel.Skalo

namespace Derep

structure Inv (W k : Nat) (seen : List IndelGroup) (st : List IndelGroup × List Nat) : Prop where
  ext : st.2 = st.1.flatMap (extremities W k)
  sub : ∀ g ∈ st.1, g ∈ seen
  pw : st.1.Pairwise (fun a b => b.entry ∉ extremities W k a)
  dropped : ∀ g ∈ seen, g ∉ st.1 → ∃ a ∈ st.1, g.entry ∈ extremities W k a

theorem inv_step {W k : Nat} {seen : List IndelGroup} {st : List IndelGroup × List Nat}
    (h : Inv W k seen st) (g : IndelGroup) : Inv W k (seen ++ [g]) (derepStep W k st g) := by
  unfold derepStep
  by_cases hc : st.2.contains g.entry = true
  · rw [if_pos hc]
    have hm : g.entry ∈ st.1.flatMap (extremities W k) := by
      rw [← h.ext]; simpa using hc
    obtain ⟨a, ha, hga⟩ := List.mem_flatMap.mp hm
    refine ⟨h.ext, ?_, h.pw, ?_⟩
    · intro x hx; exact List.mem_append_left _ (h.sub x hx)
    · intro x hx hnx
      rcases List.mem_append.mp hx with hx | hx
      · exact h.dropped x hx hnx
      · have : x = g := by simpa using hx
        subst this; exact ⟨a, ha, hga⟩
  · rw [if_neg hc]
    have hnm : g.entry ∉ st.1.flatMap (extremities W k) := by
      rw [← h.ext]; simpa using hc
    refine ⟨?_, ?_, ?_, ?_⟩
    · simp [h.ext]
    · intro x hx
      rcases List.mem_append.mp hx with hx | hx
      · exact List.mem_append_left _ (h.sub x hx)
      · exact List.mem_append_right _ hx
    · refine List.pairwise_append.mpr ⟨h.pw, by simp, ?_⟩
      intro a ha b hb
      have : b = g := by simpa using hb
      subst this
      intro hmem
      exact hnm (List.mem_flatMap.mpr ⟨a, ha, hmem⟩)
    · intro x hx hnx
      rcases List.mem_append.mp hx with hx | hx
      · have hnx' : x ∉ st.1 := fun hh => hnx (List.mem_append_left _ hh)
        obtain ⟨a, ha, hxa⟩ := h.dropped x hx hnx'
        exact ⟨a, List.mem_append_left _ ha, hxa⟩
      · have : x = g := by simpa using hx
        subst this
        exact absurd (List.mem_append_right _ (List.mem_singleton.mpr rfl)) hnx

theorem inv_fold {W k : Nat} (l : List IndelGroup) :
    ∀ (seen : List IndelGroup) (st : List IndelGroup × List Nat), Inv W k seen st →
      Inv W k (seen ++ l) (l.foldl (derepStep W k) st) := by
  induction l with
  | nil => intro seen st h; simpa using h
  | cons g l ih =>
    intro seen st h
    have := ih (seen ++ [g]) (derepStep W k st g) (inv_step h g)
    simpa [List.append_assoc] using this

theorem inv_all (W k : Nat) (gs : List IndelGroup) :
    Inv W k (gs.mergeSort derepLe) (dereplicate W k gs) := by
  have h0 : Inv W k [] (([], []) : List IndelGroup × List Nat) :=
    ⟨by simp, by simp, by simp, by simp⟩
  simpa [dereplicate] using inv_fold (W := W) (k := k) (gs.mergeSort derepLe) [] _ h0

theorem derepLe_trans (a b c : IndelGroup) : derepLe a b = true → derepLe b c = true → derepLe a c = true :=
  fun h1 h2 => LO.lex_trans h1 h2 (LO.keyLe_trans (a.entry, a.exit) (b.entry, b.exit) (c.entry, c.exit))

theorem derepLe_total (a b : IndelGroup) : (derepLe a b || derepLe b a) = true :=
  LO.lex_total (LO.keyLe_total (a.entry, a.exit) (b.entry, b.exit))

theorem derepLe_antisymm (a b : IndelGroup) : derepLe a b = true → derepLe b a = true → a = b := fun h1 h2 => by
  have h := LO.lex_antisymm h1 h2
  have hk := Prod.mk.inj (LO.keyLe_antisymm (a.entry, a.exit) (b.entry, b.exit) h.2.1 h.2.2)
  cases a; cases b
  simp only [IndelGroup.mk.injEq]
  exact ⟨hk.1, hk.2, h.1⟩

end Derep

theorem T18_derep (W k : Nat) (gs : List IndelGroup) :
    let r := dereplicate W k gs
    -- kept groups are input groups
    (∀ g ∈ r.1, g ∈ gs) ∧
    -- no indel twice: a kept group never opens at an extremity of a group kept before it
    r.1.Pairwise (fun a b => b.entry ∉ extremities W k a) ∧
    -- in particular two kept groups never share their entry k-mer
    r.1.Pairwise (fun a b => a.entry ≠ b.entry) ∧
    -- every dropped group clashes with a kept one
    (∀ g ∈ gs, g ∉ r.1 → ∃ a ∈ r.1, g.entry ∈ extremities W k a) ∧
    -- the recorded extremities are those of the kept groups
    r.2 = r.1.flatMap (extremities W k) := by
  have h := Derep.inv_all W k gs
  have hp := List.mergeSort_perm gs derepLe
  refine ⟨fun g hg => hp.mem_iff.mp (h.sub g hg), h.pw, ?_, ?_, h.ext⟩
  · refine h.pw.imp ?_
    intro a b hab heq
    exact hab (by simp [extremities, heq])
  · intro g hg hn
    exact h.dropped g (hp.mem_iff.mpr hg) hn

/-- a bubble and its reverse-strand twin (entry = rc exit, exit = rc entry) are never both kept,
whichever comes first -/
theorem T18_derep_twin (W k : Nat) (gs : List IndelGroup) (a b : IndelGroup)
    (ha : a ∈ (dereplicate W k gs).1) (hb : b ∈ (dereplicate W k gs).1) (hne : a ≠ b)
    (h1 : b.entry = revComp W a.exit k) (h2 : a.entry = revComp W b.exit k) : False := by
  have hpw := (T18_derep W k gs).2.1
  have hsym : ∀ x ∈ (dereplicate W k gs).1, ∀ y ∈ (dereplicate W k gs).1, x ≠ y →
      (y.entry ∉ extremities W k x ∨ x.entry ∉ extremities W k y) := by
    intro x hx y hy hxy
    have := List.Pairwise.forall_of_forall_of_flip
      (R := fun x y => x ≠ y → (y.entry ∉ extremities W k x ∨ x.entry ∉ extremities W k y))
      (l := (dereplicate W k gs).1)
      (by intro x _ h; exact absurd rfl h)
      (hpw.imp (by intro x y h _; exact Or.inl h))
      (hpw.imp (by intro x y h _; exact Or.inr h))
    exact this hx hy hxy
  rcases hsym a ha b hb hne with h | h
  · exact h (by simp [extremities, h1])
  · exact h (by simp [extremities, h2])

/-- order independence: any two arrival orders (hash-map iteration orders) of the same groups give
the same kept list and the same extremities -/
theorem T18_derep_order (W k : Nat) (gs gs' : List IndelGroup) (hperm : gs.Perm gs') :
    dereplicate W k gs = dereplicate W k gs' := by
  unfold dereplicate
  rw [LO.mergeSort_eq_of_perm derepLe Derep.derepLe_trans Derep.derepLe_total hperm
    (fun a _ b _ => Derep.derepLe_antisymm a b)]

/-- non-vacuity: a concrete input on which a group is dropped and two are kept -/
example : (dereplicate 128 5 [⟨30, 40, 11⟩, ⟨10, 20, 12⟩, ⟨10, 50, 13⟩]).1 = [⟨30, 40, 11⟩, ⟨10, 20, 12⟩] := by
  have h1 : ([⟨30, 40, 11⟩, ⟨10, 20, 12⟩, ⟨10, 50, 13⟩] : List IndelGroup).mergeSort derepLe = _ :=
    List.mergeSort_of_pairwise (by decide)
  unfold dereplicate
  rw [h1]
  decide

/-- two groups of equal length opening at the same k-mer: the one with the smaller exit k-mer is kept,
in whichever order they arrive -/
example : (dereplicate 128 5 [⟨10, 40, 12⟩, ⟨10, 20, 12⟩]).1 = [⟨10, 20, 12⟩] := by
  rw [T18_derep_order 128 5 _ [⟨10, 20, 12⟩, ⟨10, 40, 12⟩] (List.Perm.swap _ _ _)]
  have h1 : ([⟨10, 20, 12⟩, ⟨10, 40, 12⟩] : List IndelGroup).mergeSort derepLe = _ :=
    List.mergeSort_of_pairwise (by decide)
  unfold dereplicate
  rw [h1]
  decide

end SkaModel.Props.C18
