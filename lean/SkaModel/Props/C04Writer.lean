/-
C04 — the incremental alignment writer `AlnWriter` refines the position-wise
specification `Spec.writerSpec` (`T04_writer`), and its output has the length of the
concatenated reference (`T04_length`).

The proof (namespace `SkaModel.AW`): an invariant of the writer state between two calls of
`writeSplitKmer` (`Lemmas/AWInv`), preserved by every call (`Lemmas/AWStep`), read off after
`finalise` (`Lemmas/AWFinal`).
-/
import SkaModel.Lemmas.AWFinal
import SkaModel.Lemmas.Coords

namespace SkaModel.Props.C04

open SkaModel SkaModel.Spec SkaModel.AW

private theorem writer_inv (ref : List (Array UInt8)) (k : Nat) (hk : 1 ≤ halfK k)
    (ms : List Match) (hok : MatchesOK ref (halfK k) ms) (maskAmbig : Bool) :
    Base ref (halfK k) maskAmbig ms
      (ms.foldl (fun w m => AlnWriter.writeSplitKmer ref (halfK k) maskAmbig w m.2.1 m.1 m.2.2)
        (AlnWriter.new ref k)) ∧
    Between ref (halfK k) ms
      (ms.foldl (fun w m => AlnWriter.writeSplitKmer ref (halfK k) maskAmbig w m.2.1 m.1 m.2.2)
        (AlnWriter.new ref k)) := by
  obtain ⟨hp, hbnd⟩ := (matchesOK_iff ms).1 hok
  refine foldl_inv_full _
    (fun done w => Base ref (halfK k) maskAmbig done w ∧ Between ref (halfK k) done w) ms
    (fun pre m post w hf hi => ?_) (new_inv k)
  have hp' := List.pairwise_append.1 (hf ▸ hp)
  obtain ⟨hb', hB'⟩ := step hi.1 hi.2 m (hbnd m (by rw [hf]; simp))
    (fun m' hm' => hp'.2.2 m' hm' m List.mem_cons_self) hk
  exact ⟨hb', Or.inl hB'⟩

/-- **T04_length**: on a match list that satisfies `Spec.MatchesOK` (and with `halfK k ≥ 1`) the
finalised output is as long as the concatenated reference. -/
theorem T04_length (ref : List (Array UInt8)) (k : Nat) (hk : 1 ≤ halfK k)
    (ms : List Match) (hok : MatchesOK ref (halfK k) ms) (maskAmbig : Bool) (reps : List Nat) :
    (AlnWriter.finalise ref (halfK k) reps
      (ms.foldl (fun w m => AlnWriter.writeSplitKmer ref (halfK k) maskAmbig w m.2.1 m.1 m.2.2)
        (AlnWriter.new ref k))).size
      = (ref.map (·.size)).foldl (· + ·) 0 := by
  obtain ⟨hb, hmode⟩ := writer_inv ref k hk ms hok maskAmbig
  rw [finalise_size reps hb hmode.mode, total_eq]

/-- **T04_writer**: under the same hypotheses the incremental writer produces exactly
`Spec.writerSpec`. -/
theorem T04_writer (ref : List (Array UInt8)) (k : Nat) (hk : 1 ≤ halfK k)
    (ms : List Match) (hok : MatchesOK ref (halfK k) ms) (maskAmbig : Bool) (reps : List Nat) :
    (AlnWriter.finalise ref (halfK k) reps
      (ms.foldl (fun w m => AlnWriter.writeSplitKmer ref (halfK k) maskAmbig w m.2.1 m.1 m.2.2)
        (AlnWriter.new ref k))).toList
      = writerSpec ref (halfK k) maskAmbig reps ms := by
  obtain ⟨hb, hmode⟩ := writer_inv ref k hk ms hok maskAmbig
  obtain ⟨hp, hbnd⟩ := (matchesOK_iff ms).1 hok
  have hsize := finalise_size reps hb hmode.mode
  unfold writerSpec
  rw [VCF.flatMap_coords ref fun _ => writerChar ref (halfK k) maskAmbig reps ms]
  apply VCF.coords_ext ref _ (writerChar ref (halfK k) maskAmbig reps ms)
  · rw [Array.length_toList, hsize]
  · intro j p hj hpj
    have hlt := abs_lt_total ref hj hpj
    rw [Array.getElem?_toList, ← final_char reps hb hmode.mode hp hbnd hj hpj,
      Array.getD_eq_getD_getElem?, Array.getElem?_eq_getElem (by rw [hsize]; exact hlt)]
    rfl

end SkaModel.Props.C04
