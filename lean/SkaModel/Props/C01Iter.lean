/-
C01, iterator part — the split k-mer iterator (`new`, then `rollFwd` until it
fails) visits exactly the valid windows of the record, in order. Only the
`index` field of the state is concerned here.
-/
import SkaModel.Lemmas.Enum
import SkaModel.Lemmas.Windows
import SkaModel.Lemmas.SplitKmerCases

namespace SkaModel.Lemmas

/-- the predicate the iterator enumerates -/
abbrev V (c : SKConf) : Nat → Bool := Spec.validStart c.k c.seqLen c.okAt

end SkaModel.Lemmas

namespace SkaModel.Props.C01

open SkaModel SkaModel.Spec SkaModel.Lemmas

abbrev LeastValidFrom (c : SKConf) (a j : Nat) : Prop :=
  a ≤ j ∧ validStart c.k c.seqLen c.okAt j = true ∧
    ∀ j', a ≤ j' → j' < j → validStart c.k c.seqLen c.okAt j' = false

abbrev NoValidFrom (c : SKConf) (a : Nat) : Prop :=
  ∀ j, a ≤ j → validStart c.k c.seqLen c.okAt j = false

theorem leastValidFrom_iff (c : SKConf) (a j : Nat) :
    LeastValidFrom c a j ↔ LeastFrom (V c) a j := Iff.rfl

theorem noValidFrom_iff (c : SKConf) (a : Nat) :
    NoValidFrom c a ↔ NoneFrom (V c) a := Iff.rfl

/-! An unacceptable position `p` rules out every window that contains it, so every start in
`[a, p]` when `p < a + k`: the search for a valid start from `a` is the search from any `q` in
`[a, p + 1]`. `buildLoop` skips this way with `q = p + 1`, the restart of `rollFwd` with `q = p`. -/

theorem noValid_skip (c : SKConf) {a q p : Nat} (hbad : c.okAt p = false) (hp : p < a + c.k)
    (hq : q ≤ p + 1) (h : NoValidFrom c q) : NoValidFrom c a := fun j hj =>
  if hjp : j ≤ p then validStart_false_of_bad _ _ _ j p hbad hjp (by omega)
  else h j (by omega)

theorem leastValid_skip (c : SKConf) {a q p st : Nat} (hbad : c.okAt p = false) (hp : p < a + c.k)
    (haq : a ≤ q) (hq : q ≤ p + 1) (h : LeastValidFrom c q st) : LeastValidFrom c a st :=
  ⟨Nat.le_trans haq h.1, h.2.1, fun j hj1 hj2 =>
    if hjp : j ≤ p then validStart_false_of_bad _ _ _ j p hbad hjp (by omega)
    else h.2.2 j (by omega) hj2⟩

/-- what `buildLoop` returns, as one statement on the result -/
def BuildLoopPost (c : SKConf) (idx : Nat) : Option (Nat × Nat × Nat × Nat) → Prop
  | some r => LeastValidFrom c idx r.1
  | none => NoValidFrom c idx

theorem buildLoop_post (c : SKConf) (idx i u l m : Nat)
    (h1 : idx + c.k ≤ c.seqLen) (h2 : i ≤ c.k)
    (h3 : ∀ t, t < i → c.okAt (idx + t) = true) :
    BuildLoopPost c idx (c.buildLoop idx i u l m) := by
  fun_induction SKConf.buildLoop c idx i u l m with
  | case1 idx i u l m hik hok nb hmid ih =>
    exact ih h1 hik (Nat.forall_lt_succ_right.2 ⟨h3, hok⟩)
  | case2 idx i u l m hik hok nb hmid hmid' ih =>
    exact ih h1 hik (Nat.forall_lt_succ_right.2 ⟨h3, hok⟩)
  | case3 idx i u l m hik hok nb hmid hmid' ih =>
    exact ih h1 hik (Nat.forall_lt_succ_right.2 ⟨h3, hok⟩)
  | case4 idx i u l m hik hok hend =>
    -- unacceptable position, and no room for a window after it
    exact noValid_skip c (Bool.eq_false_iff.2 hok) (Nat.add_lt_add_left hik idx) (Nat.le_refl _)
      (fun j hj => validStart_false_of_len _ _ _ j (by omega))
  | case5 idx i u l m hik hok hend ih =>
    have hbad : c.okAt (idx + i) = false := Bool.eq_false_iff.2 hok
    have ih' := ih (by omega) (Nat.zero_le _) (fun t ht => absurd ht (Nat.not_lt_zero t))
    revert ih'
    generalize c.buildLoop (idx + i + 1) 0 0 0 0 = res
    intro ih'
    cases res with
    | none => exact noValid_skip c hbad (Nat.add_lt_add_left hik idx) (Nat.le_refl _) ih'
    | some r =>
      exact leastValid_skip c hbad (Nat.add_lt_add_left hik idx)
        (Nat.le_succ_of_le (Nat.le_add_right _ _)) (Nat.le_refl _) ih'
  | case6 idx i u l m hik =>
    obtain rfl := Nat.le_antisymm h2 (Nat.not_lt.1 hik)
    exact ⟨Nat.le_refl _, (validStart_iff _ _ _ _).2 ⟨h1, h3⟩,
      fun j' h1 h2 => absurd h2 (Nat.not_lt.2 h1)⟩

/-- Under the loop invariant (`i` acceptable positions seen from
`idx`, and the window at `idx` fits), `buildLoop` returns the least valid start
`≥ idx`, or `none` exactly when there is none. -/
theorem buildLoop_spec (c : SKConf) (idx i u l m : Nat)
    (h1 : idx + c.k ≤ c.seqLen) (h2 : i ≤ c.k)
    (h3 : ∀ t, t < i → c.okAt (idx + t) = true) :
    (∀ st a b d, c.buildLoop idx i u l m = some (st, a, b, d) →
        idx ≤ st ∧ validStart c.k c.seqLen c.okAt st = true ∧
          ∀ j', idx ≤ j' → j' < st → validStart c.k c.seqLen c.okAt j' = false)
    ∧ (c.buildLoop idx i u l m = none →
        ∀ j, idx ≤ j → validStart c.k c.seqLen c.okAt j = false) := by
  have h := buildLoop_post c idx i u l m h1 h2 h3
  constructor
  · intro st a b d he
    rw [he] at h
    exact h
  · intro he
    rw [he] at h
    exact h

/-- `build idx` returns the index of the LAST base of the first valid window
starting at or after `idx` -/
theorem build_some_least (c : SKConf) (hk : 0 < c.k) {idx : Nat} {b : Bool}
    {r : Nat × Nat × Nat × Nat × Option NtHash} (h : c.build idx b = some r) :
    ∃ st, r.1 + 1 = st + c.k ∧ LeastValidFrom c idx st := by
  obtain ⟨ix, u, l, m, hg⟩ := r
  obtain ⟨hfit, st, hloop, hix, _⟩ := build_some h
  have hp := buildLoop_post c idx 0 0 0 0 hfit (Nat.zero_le _)
    (fun t ht => absurd ht (Nat.not_lt_zero t))
  rw [hloop] at hp
  exact ⟨st, (last_iff hk).1 hix, hp⟩

theorem build_none_noValid (c : SKConf) {idx : Nat} {b : Bool} (h : c.build idx b = none) :
    NoValidFrom c idx := by
  rcases build_none h with hlen | ⟨hfit, hloop⟩
  · exact fun j hj => validStart_false_of_len _ _ _ j (by omega)
  · have hp := buildLoop_post c idx 0 0 0 0 hfit (Nat.zero_le _)
      (fun t ht => absurd ht (Nat.not_lt_zero t))
    rw [hloop] at hp
    exact hp

/-- what `rollFwd` returns from a state sitting on the valid window `j`, as one statement on the
result -/
def RollPost (c : SKConf) (j : Nat) : Option SKState → Prop
  | some s' => ∃ j', s'.index + 1 = j' + c.k ∧ LeastValidFrom c (j + 1) j'
  | none => NoValidFrom c (j + 1)

theorem rollFwd_post (c : SKConf) (hk : 0 < c.k) {s : SKState} {j : Nat}
    (hnext : s.index + 1 = j + c.k) (hv : validStart c.k c.seqLen c.okAt j = true) :
    RollPost c j (c.rollFwd s) := by
  have hc := rollFwd_case c s
  revert hc
  generalize c.rollFwd s = o
  intro hc
  cases hc with
  | atEnd hlen => exact fun j' hj' => validStart_false_of_len _ _ _ j' (by omega)
  | noWindow _ hbad hb =>
    rw [hnext] at hbad hb
    exact noValid_skip c hbad (by omega) (Nat.le_succ _) (build_none_noValid c hb)
  | restart r s' _ hbad hb hfr =>
    -- `build` finds the next window after the bad position
    rw [hnext] at hbad hb
    obtain ⟨st, hst, hleast⟩ := build_some_least c hk hb
    exact ⟨st, hfr.index ▸ hst,
      leastValid_skip c hbad (by omega) (Nat.add_le_add_left hk j) (Nat.le_succ _) hleast⟩
  | step s' hlt hok hst =>
    -- acceptable position: the window shifts by one
    rw [hnext] at hok hlt
    exact ⟨j + 1, by rw [hst.index, hnext, Nat.add_right_comm], Nat.le_refl _,
      validStart_succ _ _ _ j hv hlt hok, fun j' h1 h2 => absurd h2 (Nat.not_lt.2 h1)⟩

theorem windowsBy_eq_filterFrom (c : SKConf) :
    windowsBy c.k c.seqLen c.okAt = filterFrom (V c) (c.seqLen + 1 - c.k) 0 := by
  rw [filterFrom_zero]
  rfl

theorem valid_lt_bound (c : SKConf) (j : Nat)
    (hv : validStart c.k c.seqLen c.okAt j = true) : j < c.seqLen + 1 - c.k := by
  have := ((validStart_iff _ _ _ _).1 hv).1
  omega

/-- the iteration from a state sitting on the valid window `j` lists `j` and the valid windows
after it, provided the fuel covers the rest of the record -/
theorem statesFrom_index (c : SKConf) (hk : 0 < c.k) (fuel : Nat) (s : SKState) (j : Nat)
    (hnext : s.index + 1 = j + c.k)
    (hv : validStart c.k c.seqLen c.okAt j = true)
    (hfuel : c.seqLen ≤ fuel + j + c.k) :
    (c.statesFrom fuel s).map (·.index)
      = (j + c.k - 1) :: (filterFrom (V c) (c.seqLen + 1 - c.k) (j + 1)).map (· + c.k - 1) := by
  have hidx := (last_iff hk).2 hnext
  induction fuel generalizing s j with
  | zero =>
    rw [filterFrom_none (V c) _ (j + 1) (fun j' hj' => validStart_false_of_len _ _ _ j' (by omega))]
    simp only [SKConf.statesFrom, List.map_cons, List.map_nil, hidx]
  | succ fuel ih =>
    have hp := rollFwd_post c hk hnext hv
    unfold SKConf.statesFrom
    cases hr : c.rollFwd s with
    | none =>
      rw [hr] at hp
      rw [filterFrom_none (V c) _ (j + 1) hp]
      simp only [List.map_cons, List.map_nil, hidx]
    | some s' =>
      rw [hr] at hp
      obtain ⟨j', hshape, hleast⟩ := hp
      rw [filterFrom_least (V c) _ (j + 1) j' hleast (valid_lt_bound c _ hleast.2.1)]
      simp only [List.map_cons, hidx,
        ih s' j' hshape hleast.2.1 (by omega) ((last_iff hk).2 hshape)]

/-- The iterator visits exactly the valid windows, in order
(each state's `index` is the last base of its window), and the fuel suffices. -/
theorem T01_states_index (c : SKConf) (hk : 0 < c.k) :
    c.states.map (·.index)
      = (windowsBy c.k c.seqLen c.okAt).map (· + c.k - 1) := by
  rw [windowsBy_eq_filterFrom]
  unfold SKConf.states
  cases hn : c.new with
  | none =>
    rw [filterFrom_none (V c) _ 0 (build_none_noValid c (new_none hn))]
    rfl
  | some s =>
    obtain ⟨r, hb, hfr⟩ := new_some hn
    obtain ⟨st, hst, hleast⟩ := build_some_least c hk hb
    rw [filterFrom_least (V c) _ 0 st hleast (valid_lt_bound c _ hleast.2.1)]
    exact statesFrom_index c hk c.seqLen s st (hfr.index ▸ hst) hleast.2.1
      (Nat.le_add_right_of_le (Nat.le_add_right _ _))

theorem states_start (c : SKConf) (hk0 : 0 < c.k) :
    c.states.map (fun s => s.index + 1 - c.k) = windowsBy c.k c.seqLen c.okAt := by
  have h := congrArg (List.map (fun i => i + 1 - c.k)) (T01_states_index c hk0)
  rw [List.map_map, List.map_map] at h
  refine h.trans ((List.map_congr_left (fun j _ => ?_)).trans (List.map_id _))
  exact start_of_last ((last_iff hk0).1 rfl)

theorem states_map_start {β : Type} (c : SKConf) (hk0 : 0 < c.k) (f : SKState → β) (g : Nat → β)
    (h : ∀ s ∈ c.states, f s = g (s.index + 1 - c.k)) :
    c.states.map f = (windowsBy c.k c.seqLen c.okAt).map g := by
  rw [← states_start c hk0, List.map_map]
  exact List.map_congr_left h

theorem T01_states_nonempty_iff (c : SKConf) (hk : 0 < c.k) :
    c.states = [] ↔ windowsBy c.k c.seqLen c.okAt = [] := by
  rw [← List.map_eq_nil_iff (f := (·.index)), T01_states_index c hk, List.map_eq_nil_iff]

theorem T01_middle_pos (c : SKConf) (hk : 0 < c.k) (hodd : c.k % 2 = 1) :
    c.states.map c.middlePos
      = (windowsBy c.k c.seqLen c.okAt).map (· + halfK c.k) := by
  have h := T01_states_index c hk
  have h1 : c.states.map c.middlePos = (c.states.map (·.index)).map (· - c.midIdx) := by
    rw [List.map_map]
    rfl
  have hkh := k_eq_of_odd hodd
  rw [h1, h, List.map_map, midIdx_eq hkh]
  apply List.map_congr_left
  intro j _
  exact mid_of_last (congrArg (fun k => j + k - 1) hkh)

end SkaModel.Props.C01
