/-
C06 — `ska align` column filtering: refinement of `Arr.filter` / `Modes.align`
to the plain-table specification `Table.passes` / `Table.alignColumns`.

Finding recorded here: `keepRow = sitePasses` is FALSE on byte 13 (CR), because the
implementation tests `(b ||| 0x20) == 45`, which holds for `b = 13` as well as `b = 45`
(see `keepRow_ne_sitePasses_CR`). The theorems are therefore stated
  * unconditionally with the model-level predicate `passesI` (`…_I` theorems), and
  * against the specification under `CellsGe45` — the invariant `MergeSkaArray::new`
    establishes through `max b GAP` (`ofDict_cellsGe45`).
-/
import SkaModel.Spec.Abs
import SkaModel.Lemmas.Bytes
import SkaModel.Lemmas.MergeDict

namespace SkaModel.Props.C06

open SkaModel SkaModel.Spec SkaModel.ZipFilter

/-- masking does not change the number of removed rows -/
theorem T06_mask_keeps_rows (a : Arr) (t : Nat) (famb : Bool) (ft : FilterType) (gaps upd : Bool) :
    (a.filter t famb ft true gaps upd).2 = (a.filter t famb ft false gaps upd).2 :=
  rfl

/-- every stored cell is `≥ '-'` (45): what `MergeSkaArray::new` establishes via `max b GAP` -/
def CellsGe45 (rows : List (List UInt8)) : Prop := ∀ row ∈ rows, ∀ b ∈ row, 45 ≤ b

instance (rows : List (List UInt8)) : Decidable (CellsGe45 rows) := by
  unfold CellsGe45; infer_instance

theorem ofDict_cellsGe45 (W : Nat) (d : MDict) : CellsGe45 (Arr.ofDict W d).variants :=
  ofDict_cellsGE W d

/-- the score of `keepRow .noAmbigOrConst` -/
def score (gaps : Bool) (b : UInt8) : Nat :=
  let l := b ||| 0x20
  if l == 97 || l == 99 || l == 103 || l == 116 || l == 117 then 1
  else if l == 45 then (if gaps then 0 else 1)
  else 0

theorem keepRow_noAmbigOrConst (gaps : Bool) (row : List UInt8) :
    Arr.keepRow .noAmbigOrConst gaps row = decide (((Arr.distinct row).map (score gaps)).sum > 1) := rfl

/-- folding to lower case sends exactly `-` and CR to `-` -/
theorem lower_eq_gap : ∀ b : UInt8, b ≠ 13 → ((b ||| 0x20) == 45) = (b == gap) :=
  forall_uint8 (by decide +kernel)

/-- the score is the indicator of the symbols `sitePasses .noAmbigOrConst` counts, except that
with gaps counted a CR scores like `-` -/
theorem score_eq (gaps : Bool) (b : UInt8) (h : gaps = true ∨ b ≠ 13) :
    score gaps b = if (Table.isACGTU b || (b == gap && !gaps)) then 1 else 0 := by
  show (if Table.isACGTU b = true then 1
    else if ((b ||| 0x20) == 45) = true then (if gaps = true then 0 else 1) else 0) = _
  cases Table.isACGTU b
  · rcases h with rfl | h
    · simp
    · rw [lower_eq_gap b h]
      cases gaps
      · simp
      · simp
  · rfl

theorem acgtu_ne_gap (b : UInt8) (h : Table.isACGTU b = true) : Table.present b = true := by
  apply bne_iff_ne.mpr
  rintro rfl
  exact absurd h (by decide)

theorem ne13_of_ge45 (b : UInt8) (h : 45 ≤ b) : b ≠ 13 := by
  rintro rfl
  exact absurd h (by decide)

/-- COUNTEREXAMPLE to the unconditional statement: byte 13 is scored like `-` by the model -/
theorem keepRow_ne_sitePasses_CR :
    Arr.keepRow .noAmbigOrConst false [65, 13] = true ∧
    Table.sitePasses (toSite .noAmbigOrConst) false [65, 13] = false := by decide

/-- the two can disagree only for `noAmbigOrConst`, gaps counted, on a row with a cell equal to 13 -/
theorem keepRow_eq_sitePasses_of_noCR (ft : FilterType) (gaps : Bool) (row : List UInt8)
    (h : ft ≠ .noAmbigOrConst ∨ gaps = true ∨ ∀ b ∈ row, b ≠ 13) :
    Arr.keepRow ft gaps row = Table.sitePasses (toSite ft) gaps row := by
  cases ft with
  | noFilter => rfl
  | noConst => rfl
  | noAmbig => rfl
  | noAmbigOrConst =>
    have key : ((Arr.distinct row).map (score gaps)).sum
        = ((Table.distinctSyms row).filter (fun b => Table.isACGTU b || (b == gap && !gaps))).length :=
      sum_map_indicator _ _ _ fun b hb => score_eq gaps b
        ((h.resolve_left fun hne => hne rfl).imp id fun h13 => h13 b (List.mem_eraseDups.mp hb))
    rw [keepRow_noAmbigOrConst, key]
    rfl

theorem keepRow_eq_sitePasses (ft : FilterType) (gaps : Bool) (row : List UInt8)
    (h : ∀ b ∈ row, 45 ≤ b) :
    Arr.keepRow ft gaps row = Table.sitePasses (toSite ft) gaps row :=
  keepRow_eq_sitePasses_of_noCR ft gaps row (Or.inr (Or.inr (fun b hb => ne13_of_ge45 b (h b hb))))

/-- the row test the model applies -/
def passesI (t : Nat) (famb : Bool) (ft : FilterType) (gaps : Bool) (row : List UInt8) : Bool :=
  decide (Table.presentCount famb row ≥ max 1 t) && Arr.keepRow ft gaps row

theorem count_pred (n t : Nat) : (decide (n ≥ t) && decide (n > 0)) = decide (n ≥ max 1 t) := by
  rw [Bool.eq_iff_iff]
  simp only [Bool.and_eq_true, decide_eq_true_eq]
  omega

theorem pred_eq (t : Nat) (famb : Bool) (ft : FilterType) (gaps : Bool) (row : List UInt8) :
    ((decide (Arr.cellCount famb row ≥ t) && Arr.keepRow ft gaps row) && decide (Arr.cellCount famb row > 0))
      = passesI t famb ft gaps row := by
  rw [Bool.and_right_comm, count_pred]
  rfl

theorem passesI_eq_passes (t : Nat) (famb : Bool) (ft : FilterType) (gaps : Bool) (row : List UInt8)
    (h : ∀ b ∈ row, 45 ≤ b) :
    passesI t famb ft gaps row = Table.passes t famb (toSite ft) gaps row := by
  unfold passesI Table.passes
  rw [keepRow_eq_sitePasses ft gaps row h]

/-- rows (cells, k-mer) the model keeps, in the order `filter` zips them -/
def keptI (a : Arr) (t : Nat) (famb : Bool) (ft : FilterType) (gaps : Bool) : List (List UInt8 × Nat) :=
  (a.variants.zip a.kmers).filter (fun rk => passesI t famb ft gaps rk.1)

/-- rows surviving `update_counts` -/
def kept0 (a : Arr) (famb : Bool) : List (List UInt8 × Nat) :=
  (a.variants.zip a.kmers).filter (fun rk => Arr.cellCount famb rk.1 > 0)

theorem keptI_eq_filter_kept0 (a : Arr) (t : Nat) (famb : Bool) (ft : FilterType) (gaps : Bool) :
    keptI a t famb ft gaps = (kept0 a famb).filter
      (fun rk => decide (Arr.cellCount famb rk.1 ≥ t) && Arr.keepRow ft gaps rk.1) := by
  unfold keptI kept0
  rw [List.filter_filter]
  exact List.filter_congr fun rk _ => (pred_eq t famb ft gaps rk.1).symm

/-- `filter` in one equation: all four outputs are read off `kept0` and `keptI` -/
theorem filter_eq (a : Arr) (t : Nat) (famb : Bool) (ft : FilterType) (mask gaps upd : Bool) :
    a.filter t famb ft mask gaps upd
      = ({ a with
            variants := (keptI a t famb ft gaps).map (fun rk => Table.maskRow mask rk.1)
            counts := (keptI a t famb ft gaps).map (fun rk => Arr.cellCount famb rk.1)
            kmers := if upd then (keptI a t famb ft gaps).map (·.2) else (kept0 a famb).map (·.2) },
         (kept0 a famb).length - (keptI a t famb ft gaps).length) := by
  have hk : List.filter (fun x => ((fun (crk : (Nat × List UInt8) × Nat) =>
        decide (crk.fst.fst ≥ t) && Arr.keepRow ft gaps crk.fst.snd) ∘
          fun (x : List UInt8 × Nat) => ((Arr.cellCount famb x.fst, x.fst), x.snd)) x &&
        decide (Arr.cellCount famb x.fst > 0)) (a.variants.zip a.kmers) = keptI a t famb ft gaps :=
    List.filter_congr fun x _ => pred_eq t famb ft gaps x.1
  simp only [Arr.filter, Arr.updateCounts, List.zip_map', List.filter_map, List.map_map,
    List.filter_filter, List.length_map]
  rw [hk]
  cases mask
  · rfl
  · rfl

theorem filter_names (a : Arr) (t : Nat) (famb : Bool) (ft : FilterType) (mask gaps upd : Bool) :
    (a.filter t famb ft mask gaps upd).1.names = a.names := rfl

theorem filter_variants (a : Arr) (t : Nat) (famb : Bool) (ft : FilterType) (mask gaps upd : Bool) :
    (a.filter t famb ft mask gaps upd).1.variants
      = (keptI a t famb ft gaps).map (fun rk => Table.maskRow mask rk.1) := by
  rw [filter_eq]

theorem filter_counts (a : Arr) (t : Nat) (famb : Bool) (ft : FilterType) (mask gaps upd : Bool) :
    (a.filter t famb ft mask gaps upd).1.counts
      = (keptI a t famb ft gaps).map (fun rk => Arr.cellCount famb rk.1) := by
  rw [filter_eq]

theorem filter_kmers_upd (a : Arr) (t : Nat) (famb : Bool) (ft : FilterType) (mask gaps : Bool) :
    (a.filter t famb ft mask gaps true).1.kmers = (keptI a t famb ft gaps).map (·.2) := by
  rw [filter_eq]
  rfl

theorem filter_kmers_noupd (a : Arr) (t : Nat) (famb : Bool) (ft : FilterType) (mask gaps : Bool) :
    (a.filter t famb ft mask gaps false).1.kmers = (kept0 a famb).map (·.2) := by
  rw [filter_eq]
  rfl

theorem filter_removed (a : Arr) (t : Nat) (famb : Bool) (ft : FilterType) (mask gaps upd : Bool) :
    (a.filter t famb ft mask gaps upd).2 = (kept0 a famb).length - (keptI a t famb ft gaps).length := by
  rw [filter_eq]

def rowsI (a : Arr) (t : Nat) (famb : Bool) (ft : FilterType) (gaps : Bool) : List (Nat × List UInt8) :=
  a.abs.rows.filter (fun r => passesI t famb ft gaps r.2)

theorem keptI_eq (a : Arr) (t : Nat) (famb : Bool) (ft : FilterType) (gaps : Bool) :
    keptI a t famb ft gaps = (rowsI a t famb ft gaps).map Prod.swap := by
  unfold keptI rowsI Arr.abs
  rw [← zip_swap a.kmers a.variants, List.filter_map]
  rfl

theorem kept0_eq (a : Arr) (famb : Bool) :
    kept0 a famb = (a.abs.rows.filter (fun r => decide (Table.presentCount famb r.2 > 0))).map Prod.swap := by
  unfold kept0 Arr.abs
  rw [← zip_swap a.kmers a.variants, List.filter_map]
  rfl

theorem mem_rows_variants (a : Arr) (r : Nat × List UInt8) (h : r ∈ a.abs.rows) : r.2 ∈ a.variants :=
  (List.of_mem_zip (a := r.1) (b := r.2) h).2

theorem passesI_eq_passes_of_mem {a : Arr} (hc : CellsGe45 a.variants) (t : Nat) (famb : Bool)
    (ft : FilterType) (gaps : Bool) {r : Nat × List UInt8} (hr : r ∈ a.abs.rows) :
    passesI t famb ft gaps r.2 = Table.passes t famb (toSite ft) gaps r.2 :=
  passesI_eq_passes t famb ft gaps r.2 (hc r.2 (mem_rows_variants a r hr))

theorem filter_passesI_rows {a : Arr} (hc : CellsGe45 a.variants) (t : Nat) (famb : Bool)
    (ft : FilterType) (gaps : Bool) :
    (a.abs.rows.map (·.2)).filter (passesI t famb ft gaps)
      = (a.abs.rows.map (·.2)).filter (Table.passes t famb (toSite ft) gaps) := by
  apply List.filter_congr
  intro row hrow
  obtain ⟨r, hr, rfl⟩ := List.mem_map.mp hrow
  exact passesI_eq_passes_of_mem hc t famb ft gaps hr

theorem rowsI_eq_spec (a : Arr) (t : Nat) (famb : Bool) (ft : FilterType) (gaps : Bool)
    (hc : CellsGe45 a.variants) :
    rowsI a t famb ft gaps = a.abs.rows.filter (fun r => Table.passes t famb (toSite ft) gaps r.2) :=
  List.filter_congr fun _ hr => passesI_eq_passes_of_mem hc t famb ft gaps hr

/-- model-level `alignColumns` (with `keepRow` for the site test) -/
def alignColumnsI (tb : Table) (t : Nat) (famb : Bool) (ft : FilterType) (mask gaps : Bool) : List (List UInt8) :=
  ((tb.rows.map (·.2)).filter (passesI t famb ft gaps)).map (Table.maskRow mask)

theorem alignColumnsI_eq_spec (a : Arr) (t : Nat) (famb : Bool) (ft : FilterType) (mask gaps : Bool)
    (hc : CellsGe45 a.variants) :
    alignColumnsI a.abs t famb ft mask gaps = a.abs.alignColumns t famb (toSite ft) mask gaps :=
  congrArg (List.map (Table.maskRow mask)) (filter_passesI_rows hc t famb ft gaps)

/-- T06_filter (unconditional, model-level site test): with `update_kmers` the surviving
k-mers and masked rows are exactly the passing rows of the table, in order -/
theorem T06_filter_I (a : Arr) (t : Nat) (famb : Bool) (ft : FilterType) (mask gaps : Bool) :
    (a.filter t famb ft mask gaps true).1.kmers.zip (a.filter t famb ft mask gaps true).1.variants
      = (rowsI a t famb ft gaps).map (fun r => (r.1, Table.maskRow mask r.2)) := by
  rw [filter_kmers_upd, filter_variants, keptI_eq, List.map_map, List.map_map, List.zip_map']
  rfl

theorem T06_filter_variants_I (a : Arr) (t : Nat) (famb : Bool) (ft : FilterType) (mask gaps upd : Bool) :
    (a.filter t famb ft mask gaps upd).1.variants = alignColumnsI a.abs t famb ft mask gaps := by
  rw [filter_variants, keptI_eq, List.map_map]
  unfold alignColumnsI rowsI
  rw [List.filter_map, List.map_map]
  rfl

/-- exact removed count: rows that `update_counts` kept minus rows that pass.
(Rows with count 0 are dropped by `update_counts` and are NOT counted as removed.) -/
theorem T06_filter_removed_I (a : Arr) (t : Nat) (famb : Bool) (ft : FilterType) (mask gaps upd : Bool) :
    (a.filter t famb ft mask gaps upd).2
      = (a.abs.rows.filter (fun r => decide (Table.presentCount famb r.2 > 0))).length
        - (rowsI a t famb ft gaps).length := by
  rw [filter_removed, keptI_eq, kept0_eq, List.length_map, List.length_map]

theorem T06_filter (a : Arr) (hc : CellsGe45 a.variants)
    (t : Nat) (famb : Bool) (ft : FilterType) (mask gaps : Bool) :
    (a.filter t famb ft mask gaps true).1.kmers.zip (a.filter t famb ft mask gaps true).1.variants
      = (a.abs.rows.filter (fun r => Table.passes t famb (toSite ft) gaps r.2)).map
          (fun r => (r.1, Table.maskRow mask r.2)) := by
  rw [T06_filter_I, rowsI_eq_spec a t famb ft gaps hc]

theorem T06_filter_variants (a : Arr) (hc : CellsGe45 a.variants)
    (t : Nat) (famb : Bool) (ft : FilterType) (mask gaps upd : Bool) :
    (a.filter t famb ft mask gaps upd).1.variants = a.abs.alignColumns t famb (toSite ft) mask gaps := by
  rw [T06_filter_variants_I, alignColumnsI_eq_spec a t famb ft mask gaps hc]

theorem T06_filter_removed (a : Arr) (hc : CellsGe45 a.variants)
    (t : Nat) (famb : Bool) (ft : FilterType) (mask gaps upd : Bool) :
    (a.filter t famb ft mask gaps upd).2
      = (a.abs.rows.filter (fun r => decide (Table.presentCount famb r.2 > 0))).length
        - (a.abs.rows.filter (fun r => Table.passes t famb (toSite ft) gaps r.2)).length := by
  rw [T06_filter_removed_I, rowsI_eq_spec a t famb ft gaps hc]

/-- removed = stored rows − passing rows, when every stored row is present somewhere
(`RowsPresent`) and ambiguity codes count as present (`famb = false`).
For `famb = true` this is FALSE in general: see `removed_counterexample`. -/
theorem T06_filter_removed_rowsPresent (a : Arr) (hwf : a.WF) (hp : a.RowsPresent)
    (hc : CellsGe45 a.variants) (t : Nat) (ft : FilterType) (mask gaps upd : Bool) :
    (a.filter t false ft mask gaps upd).2
      = a.kmers.length
        - (a.abs.rows.filter (fun r => Table.passes t false (toSite ft) gaps r.2)).length := by
  have hall : a.abs.rows.filter (fun r => decide (Table.presentCount false r.2 > 0)) = a.abs.rows :=
    List.filter_eq_self.mpr fun r hr =>
      decide_eq_true ((Arr.cellCount_pos_iff r.2).2 (hp r.2 (mem_rows_variants a r hr)))
  rw [T06_filter_removed a hc, hall, ← Arr.abs_rows_fst a hwf.lenV, List.length_map]

/-- the stored counts after `filter` are `cellCount famb` of the (unmasked) surviving rows -/
theorem T06_filter_counts_I (a : Arr) (t : Nat) (famb : Bool) (ft : FilterType) (mask gaps upd : Bool) :
    (a.filter t famb ft mask gaps upd).1.counts
      = ((a.abs.rows.map (·.2)).filter (passesI t famb ft gaps)).map (Arr.cellCount famb) := by
  rw [filter_counts, keptI_eq, List.map_map]
  unfold rowsI
  rw [List.filter_map, List.map_map]
  rfl

theorem T06_filter_counts (a : Arr) (hc : CellsGe45 a.variants)
    (t : Nat) (famb : Bool) (ft : FilterType) (mask gaps upd : Bool) :
    (a.filter t famb ft mask gaps upd).1.counts
      = ((a.abs.rows.map (·.2)).filter (Table.passes t famb (toSite ft) gaps)).map
          (Table.presentCount famb) := by
  rw [T06_filter_counts_I, filter_passesI_rows hc]
  rfl

/-- every stored count of the result is at least `max 1 t` -/
theorem T06_filter_counts_ge (a : Arr) (t : Nat) (famb : Bool) (ft : FilterType) (mask gaps upd : Bool) :
    ∀ c ∈ (a.filter t famb ft mask gaps upd).1.counts, c ≥ max 1 t := by
  intro c hcm
  rw [T06_filter_counts_I] at hcm
  obtain ⟨row, hrow, rfl⟩ := List.mem_map.mp hcm
  exact of_decide_eq_true (Bool.and_eq_true_iff.mp (List.mem_filter.mp hrow).2).1

theorem length_maskRow (mask : Bool) (row : List UInt8) : (Table.maskRow mask row).length = row.length := by
  unfold Table.maskRow
  split
  · exact List.length_map _
  · rfl

/-- masking only introduces `N` (78) -/
theorem mem_maskRow {mask : Bool} {row : List UInt8} {b : UInt8} (h : b ∈ Table.maskRow mask row) :
    b = 78 ∨ b ∈ row := by
  unfold Table.maskRow at h
  split at h
  · obtain ⟨c, hc, rfl⟩ := List.mem_map.mp h
    split
    · exact Or.inl rfl
    · exact Or.inr hc
  · exact Or.inr h

theorem mem_keptI {a : Arr} {t : Nat} {famb : Bool} {ft : FilterType} {gaps : Bool}
    {rk : List UInt8 × Nat} (h : rk ∈ keptI a t famb ft gaps) : rk.1 ∈ a.variants :=
  (List.of_mem_zip (a := rk.1) (b := rk.2) (List.mem_filter.mp h).1).1

/-- lengths stay aligned: the result of `filter … update_kmers = true` is well-formed -/
theorem T06_filter_WF (a : Arr) (hwf : a.WF) (t : Nat) (famb : Bool) (ft : FilterType) (mask gaps : Bool) :
    (a.filter t famb ft mask gaps true).1.WF := by
  refine ⟨?_, ?_, ?_, ?_⟩
  · rw [filter_variants, filter_kmers_upd, List.length_map, List.length_map]
  · rw [filter_counts, filter_kmers_upd, List.length_map, List.length_map]
  · intro row hrow
    rw [filter_variants] at hrow
    obtain ⟨rk, hrk, rfl⟩ := List.mem_map.mp hrow
    rw [length_maskRow, filter_names]
    exact hwf.rowLen rk.1 (mem_keptI hrk)
  · rw [filter_kmers_upd, keptI_eq, List.map_map]
    have hs : ((rowsI a t famb ft gaps).map (Prod.snd ∘ Prod.swap)).Sublist (a.abs.rows.map (·.1)) :=
      List.Sublist.map _ List.filter_sublist
    rw [Arr.abs_rows_fst a hwf.lenV] at hs
    exact hs.nodup hwf.nodup

/-- `CellsGe45` is preserved by `filter` (78 = `N` ≥ 45) -/
theorem T06_filter_cellsGe45 (a : Arr) (hc : CellsGe45 a.variants)
    (t : Nat) (famb : Bool) (ft : FilterType) (mask gaps upd : Bool) :
    CellsGe45 (a.filter t famb ft mask gaps upd).1.variants := by
  intro row hrow b hb
  rw [filter_variants] at hrow
  obtain ⟨rk, hrk, rfl⟩ := List.mem_map.mp hrow
  rcases mem_maskRow hb with rfl | hb
  · decide
  · exact hc rk.1 (mem_keptI hrk) b hb

theorem T06_align_I (a : Arr) (t : Nat) (ft : FilterType) (mask gaps famb : Bool) :
    Modes.align a t ft mask gaps famb
      = a.names.zipIdx.map (fun ni =>
          (ni.1, (alignColumnsI a.abs t famb ft mask gaps).map (fun col => col.getD ni.2 GAP))) := by
  unfold Modes.align Modes.applyFilters Arr.writeFasta Arr.column
  rw [filter_names, T06_filter_variants_I]

/-- one record per sample in `names` order; the sequence of sample `i` is the
`i`-th cell of every emitted column, in table order -/
theorem T06_align (a : Arr) (hc : CellsGe45 a.variants)
    (t : Nat) (ft : FilterType) (mask gaps famb : Bool) :
    Modes.align a t ft mask gaps famb
      = a.names.zipIdx.map (fun ni =>
          (ni.1, (a.abs.alignColumns t famb (toSite ft) mask gaps).map (fun col => col.getD ni.2 GAP))) := by
  rw [T06_align_I, alignColumnsI_eq_spec a t famb ft mask gaps hc]

/-- sample order = names order -/
theorem T06_align_names (a : Arr) (t : Nat) (ft : FilterType) (mask gaps famb : Bool) :
    (Modes.align a t ft mask gaps famb).map (·.1) = a.names := by
  rw [T06_align_I, List.map_map]
  show List.map Prod.fst a.names.zipIdx = a.names
  simp

/-- every output sequence has one character per emitted column -/
theorem T06_align_lengths (a : Arr) (hc : CellsGe45 a.variants)
    (t : Nat) (ft : FilterType) (mask gaps famb : Bool) :
    ∀ rec ∈ Modes.align a t ft mask gaps famb,
      rec.2.length = (a.abs.alignColumns t famb (toSite ft) mask gaps).length := by
  intro rec hrec
  rw [T06_align a hc] at hrec
  obtain ⟨ni, _, rfl⟩ := List.mem_map.mp hrec
  exact List.length_map _

/-! Monotonicity: stricter settings emit a sublist of the columns, for arbitrary byte rows (no
hypothesis on the cells is needed). -/

theorem passes_iff (t : Nat) (famb : Bool) (ft : Table.SiteFilter) (gaps : Bool) (row : List UInt8) :
    Table.passes t famb ft gaps row = true ↔
      (Table.presentCount famb row ≥ max 1 t ∧ Table.sitePasses ft gaps row = true) := by
  unfold Table.passes
  rw [Bool.and_eq_true, decide_eq_true_eq]

/-- the row test has a count half and a site half; settings that make each half stricter emit
a sublist of the columns -/
theorem alignColumns_sublist (tb : Table) (mask : Bool) {t t' : Nat} {famb famb' : Bool}
    {ft ft' : Table.SiteFilter} {gaps gaps' : Bool}
    (hc : ∀ row, Table.presentCount famb' row ≥ max 1 t' → Table.presentCount famb row ≥ max 1 t)
    (hs : ∀ row, Table.sitePasses ft' gaps' row = true → Table.sitePasses ft gaps row = true) :
    (tb.alignColumns t' famb' ft' mask gaps').Sublist (tb.alignColumns t famb ft mask gaps) := by
  unfold Table.alignColumns
  refine List.Sublist.map _ (filter_sublist_of_imp _ fun row => ?_)
  rw [passes_iff, passes_iff]
  exact fun hp => ⟨hc row hp.1, hs row hp.2⟩

theorem presentCount_famb_le (row : List UInt8) :
    Table.presentCount true row ≤ Table.presentCount false row := by
  unfold Table.presentCount
  apply length_filter_le_of_imp
  intro b hb
  rw [Bool.and_eq_true] at hb
  simp [hb.1]

theorem length_distinct_filter_le (row : List UInt8) (p q : UInt8 → Bool)
    (h : ∀ b, p b = true → q b = true) :
    (Table.distinctSyms (row.filter p)).length ≤ (Table.distinctSyms (row.filter q)).length := by
  unfold Table.distinctSyms
  rw [Dedup.eraseDups_filter, Dedup.eraseDups_filter]
  exact length_filter_le_of_imp _ h

theorem sitePasses_gaps (ft : Table.SiteFilter) (row : List UInt8) :
    Table.sitePasses ft true row = true → Table.sitePasses ft false row = true := by
  cases ft with
  | noFilter => exact id
  | noAmbig => exact id
  | noConst =>
    unfold Table.sitePasses
    simp only [decide_eq_true_eq]
    intro h
    exact Nat.le_trans h (length_distinct_filter_le row _ _ (fun _ _ => rfl))
  | noAmbigOrConst =>
    unfold Table.sitePasses
    simp only [decide_eq_true_eq]
    intro h
    refine Nat.le_trans h (length_filter_le_of_imp _ fun b hb => ?_)
    rw [Bool.not_true, Bool.and_false, Bool.or_false] at hb
    rw [hb]
    rfl

/-- a symbol counted by `noAmbigOrConst` is counted by `noConst`: `A C G T U` are not gaps -/
theorem sitePasses_noAmbigOrConst_noConst (gaps : Bool) (row : List UInt8) :
    Table.sitePasses .noAmbigOrConst gaps row = true → Table.sitePasses .noConst gaps row = true := by
  unfold Table.sitePasses
  simp only [decide_eq_true_eq]
  intro h
  refine Nat.le_trans h ?_
  show _ ≤ (Table.distinctSyms (row.filter _)).length
  unfold Table.distinctSyms
  rw [Dedup.eraseDups_filter]
  apply length_filter_le_of_imp
  intro b hb
  cases gaps with
  | false => rfl
  | true =>
    rw [Bool.not_true, Bool.and_false, Bool.or_false] at hb
    exact acgtu_ne_gap b hb

/-- for `noFilter` and `noAmbig` the gap flag is irrelevant -/
theorem T06_gaps_irrelevant (tb : Table) (t : Nat) (famb : Bool) (ft : Table.SiteFilter) (mask : Bool)
    (h : ft = .noFilter ∨ ft = .noAmbig) :
    tb.alignColumns t famb ft mask true = tb.alignColumns t famb ft mask false := by
  rcases h with rfl | rfl <;> rfl

theorem T06_mono (tb : Table) (mask : Bool) :
    (∀ t t' famb ft gaps, t ≤ t' →
      (tb.alignColumns t' famb ft mask gaps).Sublist (tb.alignColumns t famb ft mask gaps)) ∧
    (∀ t ft gaps,
      (tb.alignColumns t true ft mask gaps).Sublist (tb.alignColumns t false ft mask gaps)) ∧
    (∀ t famb ft,
      (tb.alignColumns t famb ft mask true).Sublist (tb.alignColumns t famb ft mask false)) ∧
    (∀ t famb gaps,
      (tb.alignColumns t famb .noConst mask gaps).Sublist (tb.alignColumns t famb .noFilter mask gaps)) ∧
    (∀ t famb gaps,
      (tb.alignColumns t famb .noAmbig mask gaps).Sublist (tb.alignColumns t famb .noFilter mask gaps)) ∧
    (∀ t famb gaps,
      (tb.alignColumns t famb .noAmbigOrConst mask gaps).Sublist
        (tb.alignColumns t famb .noConst mask gaps)) :=
  ⟨fun _ _ _ _ _ h => alignColumns_sublist tb mask (fun _ hp => Nat.le_trans (by omega) hp) fun _ => id,
   fun _ _ _ => alignColumns_sublist tb mask
    (fun row hp => Nat.le_trans hp (presentCount_famb_le row)) fun _ => id,
   fun _ _ ft => alignColumns_sublist tb mask (fun _ => id) (sitePasses_gaps ft),
   fun _ _ _ => alignColumns_sublist tb mask (fun _ => id) fun _ _ => rfl,
   fun _ _ _ => alignColumns_sublist tb mask (fun _ => id) fun _ _ => rfl,
   fun _ _ gaps => alignColumns_sublist tb mask (fun _ => id) (sitePasses_noAmbigOrConst_noConst gaps)⟩

/-- NOT an inclusion: `noAmbigOrConst` does not imply `noAmbig` — a site with two distinct
unambiguous bases passes `noAmbigOrConst` even when another sample carries an ambiguity code -/
theorem noAmbigOrConst_not_sub_noAmbig :
    Table.sitePasses .noAmbigOrConst false [77, 65, 67] = true ∧
    Table.sitePasses .noAmbig false [77, 65, 67] = false := by decide

/-- everything `filter` returns, in terms of the table `a.abs` (all of `WF` is needed for the last
part only; the others use at most `lenV`, for `a.abs.rows.map (·.2) = a.variants`) -/
theorem T06_filter_all (a : Arr) (hwf : a.WF) (hc : CellsGe45 a.variants)
    (t : Nat) (famb : Bool) (ft : FilterType) (mask gaps : Bool) :
    ((a.filter t famb ft mask gaps true).1.kmers.zip (a.filter t famb ft mask gaps true).1.variants
        = (a.abs.rows.filter (fun r => Table.passes t famb (toSite ft) gaps r.2)).map
            (fun r => (r.1, Table.maskRow mask r.2))) ∧
    (∀ upd, (a.filter t famb ft mask gaps upd).1.variants
        = a.abs.alignColumns t famb (toSite ft) mask gaps) ∧
    (∀ upd, (a.filter t famb ft mask gaps upd).1.variants
        = (a.variants.filter (Table.passes t famb (toSite ft) gaps)).map (Table.maskRow mask)) ∧
    (∀ upd, (a.filter t famb ft mask gaps upd).1.counts
        = (a.filter t famb ft false gaps upd).1.variants.map (Arr.cellCount famb)) ∧
    (∀ upd, (a.filter t famb ft mask gaps upd).2
        = (a.variants.filter (fun r => decide (Table.presentCount famb r > 0))).length
          - (a.variants.filter (Table.passes t famb (toSite ft) gaps)).length) ∧
    (a.filter t famb ft mask gaps true).1.WF := by
  refine ⟨T06_filter a hc t famb ft mask gaps,
    fun upd => T06_filter_variants a hc t famb ft mask gaps upd,
    fun upd => ?_, fun upd => ?_, fun upd => ?_, T06_filter_WF a hwf t famb ft mask gaps⟩
  · rw [T06_filter_variants a hc, Table.alignColumns, Arr.abs_rows_snd a hwf.lenV]
  · rw [filter_counts, filter_variants, List.map_map]
    rfl
  · rw [T06_filter_removed a hc, ← Arr.abs_rows_snd a hwf.lenV, List.filter_map, List.filter_map,
      List.length_map, List.length_map]
    rfl

/-- three samples, three split k-mers: a constant site, a site with a gap, a site with `R` -/
def exArr : Arr :=
  { k := 3, rc := true, names := ["s1", "s2", "s3"], kmers := [1, 2, 3]
    variants := [[65, 65, 65], [65, 67, 45], [82, 65, 71]]
    counts := [3, 2, 3], kBits := 64 }

theorem exArr_WF : exArr.WF := ⟨rfl, rfl, by decide, by decide⟩
theorem exArr_cells : CellsGe45 exArr.variants := by decide +kernel
theorem exArr_rowsPresent : exArr.RowsPresent := by unfold Arr.RowsPresent; decide

-- min count 3: the gap site goes
example : (exArr.filter 3 false .noFilter false false true).1.kmers = [1, 3] := by decide +kernel
example : (exArr.filter 3 false .noFilter false false true).1.variants = [[65, 65, 65], [82, 65, 71]] := by decide +kernel
example : (exArr.filter 3 false .noFilter false false true).2 = 1 := by decide +kernel
-- ambiguity as missing: the `R` site has count 2
example : (exArr.filter 3 true .noFilter false false true).1.kmers = [1] := by decide +kernel
example : (exArr.filter 0 true .noFilter false false true).1.counts = [3, 2, 2] := by decide +kernel
-- no constant sites, masked
example : (exArr.filter 0 false .noConst true false true).1.variants = [[65, 67, 45], [78, 65, 71]] := by decide +kernel
-- gap-only variation ignored: `A C -` still varies, so does `R A G`
example : (exArr.filter 0 false .noConst false true true).1.kmers = [2, 3] := by decide +kernel
-- no ambiguous sites
example : (exArr.filter 0 false .noAmbig false false true).1.kmers = [1, 2] := by decide +kernel
-- `noAmbigOrConst` keeps the `R A G` site (two distinct unambiguous bases)
example : (exArr.filter 0 false .noAmbigOrConst true false true).1.variants = [[65, 67, 45], [78, 65, 71]] := by decide +kernel
example : (exArr.filter 0 false .noAmbigOrConst true true true).1.variants = [[65, 67, 45], [78, 65, 71]] := by decide +kernel
-- the alignment: one record per sample, one character per column
example : Modes.align exArr 0 .noConst true false false
    = [("s1", [65, 78]), ("s2", [67, 65]), ("s3", [45, 71])] := by decide +kernel
-- the specification side gives the same columns
example : exArr.abs.alignColumns 0 false .noConst true false = [[65, 67, 45], [78, 65, 71]] := by decide +kernel

/-- the removed count does NOT count rows that `update_counts` drops: with
`filter_ambig_as_missing` an all-`N` row disappears but is not reported as removed -/
def exAllN : Arr :=
  { k := 3, rc := true, names := ["s1", "s2", "s3"], kmers := [7]
    variants := [[78, 78, 78]], counts := [3], kBits := 64 }

theorem removed_counterexample :
    exAllN.WF ∧ exAllN.RowsPresent ∧ CellsGe45 exAllN.variants ∧
    (exAllN.filter 0 true .noFilter false false true).1.kmers = [] ∧
    (exAllN.filter 0 true .noFilter false false true).2 = 0 ∧
    exAllN.kmers.length
      - (exAllN.abs.rows.filter (fun r => Table.passes 0 true .noFilter false r.2)).length = 1 :=
  ⟨⟨rfl, rfl, by decide, by decide⟩, by unfold Arr.RowsPresent; decide, by decide, by decide, by decide,
   by decide⟩

end SkaModel.Props.C06
