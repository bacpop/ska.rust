/-
C17 / C18, `build_graph` after the fix "the sample sets of a k-mer entered several times are merged"
(`SkaModel/Impl/SkaloUnion.lean`: `unionSorted`, `addColourU`, `buildGraphU`; before the fix the first
insertion won: `addColour`, `buildGraph`).  For every table the colour set of a k-mer is the union of the
sample sets of all rows that yield it (`T17U_lookup`), whatever the order of the rows (`T17U_order`; before
the fix it depended on it, `T17U_old_order_dependent`: the two strands of one split k-mer as two rows, as in
a file built with `--single-strand`).  Where those sets are all equal (`ColourCons`, decidable; it holds for
the tables of `T17_colour_exact`, `T17_complete` and `T18_complete`) nothing changes (`T17U_eq_of_cons`), so
what is proved of `buildGraph` and the pipeline `lo` holds of `buildGraphU` and `loU` (`T17U_transfer`,
`T17U_lo_eq`).  The two completeness theorems are carried over where they are proved (`T17U_complete` at the end of
`Props/C17Complete`, `T18U_complete` at the end of `Props/C18Complete`): this module rests on neither chain.
-/
import SkaModel.Lemmas.LOUTables
import SkaModel.Props.C17Real
import SkaModel.Lemmas.LOCGraph

namespace SkaModel.Props.C17U

open SkaModel SkaModel.Skalo SkaModel.Spec SkaModel.Props.C16 SkaModel.Props.C17G SkaModel.LOG
open SkaModel.LORL SkaModel.LOC

theorem T17U_union_sorted (xs ys : List Nat) (hx : xs.Pairwise (· < ·)) (hy : ys.Pairwise (· < ·)) :
    (unionSorted xs ys).Pairwise (· < ·) :=
  LOU.unionSorted_sorted xs ys hx hy

/-- (holds for any two lists) -/
theorem T17U_union_mem (xs ys : List Nat) (i : Nat) : i ∈ unionSorted xs ys ↔ i ∈ xs ∨ i ∈ ys :=
  LOU.mem_unionSorted xs ys i

/-- (holds for any list) -/
theorem T17U_union_self (xs : List Nat) : unionSorted xs xs = xs :=
  LOU.unionSorted_self xs

/-- strictly increasing lists with the same members are equal -/
theorem T17U_sorted_ext (xs ys : List Nat) (hx : xs.Pairwise (· < ·)) (hy : ys.Pairwise (· < ·))
    (h : ∀ i, i ∈ xs ↔ i ∈ ys) : xs = ys :=
  eq_of_sorted_mem hx hy h

theorem T17U_union_comm (xs ys : List Nat) (hx : xs.Pairwise (· < ·)) (hy : ys.Pairwise (· < ·)) :
    unionSorted xs ys = unionSorted ys xs := by
  apply eq_of_sorted_mem (LOU.unionSorted_sorted _ _ hx hy) (LOU.unionSorted_sorted _ _ hy hx)
  intro i
  rw [LOU.mem_unionSorted, LOU.mem_unionSorted]
  exact Or.comm

theorem T17U_union_assoc (xs ys zs : List Nat) (hx : xs.Pairwise (· < ·)) (hy : ys.Pairwise (· < ·))
    (hz : zs.Pairwise (· < ·)) :
    unionSorted (unionSorted xs ys) zs = unionSorted xs (unionSorted ys zs) := by
  apply eq_of_sorted_mem (LOU.unionSorted_sorted _ _ (LOU.unionSorted_sorted _ _ hx hy) hz)
    (LOU.unionSorted_sorted _ _ hx (LOU.unionSorted_sorted _ _ hy hz))
  intro i
  simp only [LOU.mem_unionSorted]
  exact or_assoc

theorem T17U_row_samples_sorted (W k key : Nat) (cells : List UInt8) :
    ∀ e ∈ (rowGraph W k key cells).2, e.2.Pairwise (· < ·) :=
  LOU.rowGraph_samples_sorted W k key cells

/-- **T17U_graph**: the graph does not depend on the colours -/
theorem T17U_graph (W : Nat) (a : Arr) : (buildGraphU W a).1 = (buildGraph W a).1 :=
  (LOU.buildGraphU_fst W a).trans (LOC.buildGraph_fst W a).symm

/-- **T17U_lookup**: `f` is not a key iff no row yields it; the set of a key is strictly increasing and
holds exactly the samples of all coloured k-mers `(f, _)` of all rows -/
theorem T17U_lookup (W : Nat) (a : Arr) (f : Nat) :
    (Assoc.lookup (buildGraphU W a).2 f = none ↔ ∀ e ∈ colourEntries W a, e.1 ≠ f) ∧
    ∀ S, Assoc.lookup (buildGraphU W a).2 f = some S →
      S.Pairwise (· < ·) ∧ ∀ i, i ∈ S ↔ ∃ e ∈ colourEntries W a, e.1 = f ∧ i ∈ e.2 :=
  ⟨LOU.buildGraphU_lookup_none W a f, fun S h => LOU.buildGraphU_lookup_some W a f S h⟩

/-- a k-mer that some row yields is a key -/
theorem T17U_lookup_some (W : Nat) (a : Arr) (e : Nat × List Nat) (he : e ∈ colourEntries W a) :
    ∃ S, Assoc.lookup (buildGraphU W a).2 e.1 = some S ∧ ∀ i ∈ e.2, i ∈ S := by
  cases h : Assoc.lookup (buildGraphU W a).2 e.1 with
  | none => exact absurd rfl ((LOU.buildGraphU_lookup_none W a e.1).mp h e he)
  | some S =>
    exact ⟨S, rfl, fun i hi => ((LOU.buildGraphU_lookup_some W a e.1 S h).2 i).mpr ⟨e, he, rfl, hi⟩⟩

/-- the colour map as one fold over the coloured k-mers of all rows -/
theorem T17U_fold (W : Nat) (a : Arr) :
    (buildGraphU W a).2 = (colourEntries W a).foldl (fun c e => addColourU c e.1 e.2) [] :=
  LOU.buildGraphU_snd W a

/-- **T17U_order**: the same rows in another order give the same colour sets -/
theorem T17U_order (W : Nat) (a a' : Arr) (hk : a'.k = a.k)
    (hp : (a'.kmers.zip a'.variants).Perm (a.kmers.zip a.variants)) (f : Nat) :
    Assoc.lookup (buildGraphU W a').2 f = Assoc.lookup (buildGraphU W a).2 f :=
  LOU.buildGraphU_lookup_congr W a a' (fun _ => (LOU.colourEntries_perm W a a' hk hp).mem_iff) f

/-- k = 5, two samples; row 0: arms AC / TG (key 27), sample 0 shows A: the k-mer ACATG = 75, its reverse
complement CATGT = 302; row 1: arms CA / GT (key 78 = the reverse complement of key 27), sample 1 shows T: the
k-mer CATGT = 302, its reverse complement ACATG = 75 -/
def exA : Arr :=
  { k := 5, rc := false, names := ["s", "t"], kmers := [27, 78], variants := [[65, 45], [45, 84]],
    counts := [], kBits := 64 }

/-- the rows of `exA` in the other order -/
def exB : Arr :=
  { k := 5, rc := false, names := ["s", "t"], kmers := [78, 27], variants := [[45, 84], [65, 45]],
    counts := [], kBits := 64 }

theorem exAB_perm : exB.k = exA.k ∧ (exB.kmers.zip exB.variants).Perm (exA.kmers.zip exA.variants) :=
  ⟨rfl, List.Perm.swap _ _ _⟩

theorem exA_key : LORL.rcKey 5 27 = 78 := by decide +kernel

/-- **T17U_old_order_dependent**: before the fix the colour set depended on the order of the rows -/
theorem T17U_old_order_dependent :
    Assoc.lookup (buildGraph 64 exA).2 75 = some [0] ∧ Assoc.lookup (buildGraph 64 exB).2 75 = some [1] ∧
    Assoc.lookup (buildGraph 64 exA).2 75 ≠ Assoc.lookup (buildGraph 64 exB).2 75 := by decide +kernel

/-- after the fix both orders give both samples -/
theorem T17U_new_order_example :
    Assoc.lookup (buildGraphU 64 exA).2 75 = some [0, 1] ∧ Assoc.lookup (buildGraphU 64 exB).2 75 = some [0, 1] ∧
    Assoc.lookup (buildGraphU 64 exA).2 302 = some [0, 1] ∧ Assoc.lookup (buildGraphU 64 exB).2 302 = some [0, 1] := by
  decide +kernel

example : Assoc.lookup (buildGraphU 64 exB).2 75 = Assoc.lookup (buildGraphU 64 exA).2 75 :=
  T17U_order 64 exA exB exAB_perm.1 exAB_perm.2 75

/-- **ColourCons**: coloured k-mers of the rows with the same key carry the same sample set:
`∀ e1 ∈ colourEntries W a, ∀ e2 ∈ colourEntries W a, e1.1 = e2.1 → e1.2 = e2.2` (decidable) -/
abbrev ColourCons (W : Nat) (a : Arr) : Prop := LOU.ColourCons W a

theorem ColourCons_def (W : Nat) (a : Arr) :
    ColourCons W a ↔ ∀ e1 ∈ colourEntries W a, ∀ e2 ∈ colourEntries W a, e1.1 = e2.1 → e1.2 = e2.2 :=
  Iff.rfl

abbrev colourConsB (W : Nat) (a : Arr) : Bool := LOU.colourConsB W a

theorem T17U_consB_iff (W : Nat) (a : Arr) : colourConsB W a = true ↔ ColourCons W a := by
  unfold colourConsB LOU.colourConsB ColourCons LOU.ColourCons
  simp only [List.all_eq_true, Bool.or_eq_true, bne_iff_ne, ne_eq, beq_iff_eq]
  exact forall₂_congr fun e1 _ => forall₂_congr fun e2 _ => Decidable.imp_iff_not_or.symm

/-- **T17U_eq_of_cons**: on a consistent table the result of `build_graph` is unchanged by the fix -/
theorem T17U_eq_of_cons (W : Nat) (a : Arr) (h : ColourCons W a) : buildGraphU W a = buildGraph W a :=
  Prod.ext (T17U_graph W a) (LOU.buildGraphU_snd_eq W a h)

/-- **T17U_transfer**: on a consistent table everything that holds for `buildGraph` holds for `buildGraphU` -/
theorem T17U_transfer (W : Nat) (a : Arr) (h : ColourCons W a) (P : Graph × Colours → Prop)
    (hp : P (buildGraph W a)) : P (buildGraphU W a) := by
  rw [T17U_eq_of_cons W a h]; exact hp

/-- the reference-free pipeline (`LOC.lo`) on the merged colours -/
def loU (W k n mNum mDen ik maxDepth : Nat) (a : Arr) : Option (List (List UInt8) × List IndelRec) := do
  let (g, col) := buildGraphU W a
  let (st, en) ← identifyGoodKmers W (k - 1) g col
  analyse W (k - 1) n mNum mDen ik col (buildVariantGroups W (k - 1) g st en maxDepth)

/-- **T17U_lo_eq**: on a consistent table the pipeline is unchanged by the fix -/
theorem T17U_lo_eq (W k n mNum mDen ik maxDepth : Nat) (a : Arr) (h : ColourCons W a) :
    loU W k n mNum mDen ik maxDepth a = LOC.lo W k n mNum mDen ik maxDepth a := by
  unfold loU LOC.lo
  rw [T17U_eq_of_cons W a h]

/-- `LORL.colour_sound` for the merged colours of a consistent table -/
theorem T17U_colour_sound (W : Nat) (a : Arr) (hc : ColourCons W a) (hk : ValidK a.k) (hw : WidthOk W a.k)
    (hkeys : ∀ key ∈ a.kmers, key < 4 ^ (a.k - 1)) (f : Nat) (S : List Nat)
    (h : Assoc.lookup (buildGraphU W a).2 f = some S) :
    ∃ kv ∈ a.kmers.zip a.variants, ∃ u l, kv.1 = packL (u ++ l) ∧ u.length = halfK a.k ∧
      l.length = halfK a.k ∧ (∀ c ∈ u, c < 4) ∧ (∀ c ∈ l, c < 4) ∧ ∃ n ∈ C17.shownBases kv.2,
        (f = packL (u ++ [code n] ++ l) ∨ f = packL (rcCodes (u ++ [code n] ++ l))) ∧
        S = C17.samplesOf kv.2 n ∧ S ≠ [] ∧
        ∀ i ∈ S, i < kv.2.length ∧ kv.2.getD i 45 ≠ 45 ∧ n ∈ degenerate (kv.2.getD i 45) := by
  rw [T17U_eq_of_cons W a hc] at h
  exact LORL.colour_sound W a hk hw hkeys f S h

/-- `LORL.colour_complete` for the merged colours (no consistency needed) -/
theorem T17U_colour_complete (W : Nat) (a : Arr) (hk : ValidK a.k) (hw : WidthOk W a.k)
    (hkeys : ∀ key ∈ a.kmers, key < 4 ^ (a.k - 1)) (kv : Nat × List UInt8)
    (hkv : kv ∈ a.kmers.zip a.variants) (u l : List Nat) (e : kv.1 = packL (u ++ l))
    (hu : u.length = halfK a.k) (hl : l.length = halfK a.k) (hcu : ∀ c ∈ u, c < 4) (hcl : ∀ c ∈ l, c < 4)
    (n : UInt8) (hn : n ∈ C17.shownBases kv.2) :
    (∃ S, Assoc.lookup (buildGraphU W a).2 (packL (u ++ [code n] ++ l)) = some S ∧
      ∀ i ∈ C17.samplesOf kv.2 n, i ∈ S) ∧
    (∃ S, Assoc.lookup (buildGraphU W a).2 (packL (rcCodes (u ++ [code n] ++ l))) = some S ∧
      ∀ i ∈ C17.samplesOf kv.2 n, i ∈ S) := by
  have key : ∀ f, (f = packL (u ++ [code n] ++ l) ∨ f = packL (rcCodes (u ++ [code n] ++ l))) →
      ∃ S, Assoc.lookup (buildGraphU W a).2 f = some S ∧ ∀ i ∈ C17.samplesOf kv.2 n, i ∈ S := fun f hf =>
    T17U_lookup_some W a (f, C17.samplesOf kv.2 n)
      ((mem_colourEntries W a hk hw hkeys _ _).mpr ⟨kv, u, l, n, ⟨hkv, e, hu, hl, hcu, hcl, hn⟩, hf, rfl⟩)
  exact ⟨key _ (Or.inl rfl), key _ (Or.inr rfl)⟩

/-- the cells of every palindromic row (its key is its own reverse complement) are symmetric: a base and
its complement (`code n = code n' ^^^ 2`) are shown by the same samples -/
abbrev PalinSym (a : Arr) : Prop := LOU.PalinSym a

theorem PalinSym_def (a : Arr) :
    PalinSym a ↔ ∀ kv ∈ a.kmers.zip a.variants, kv.1 = LORL.rcKey a.k kv.1 →
      ∀ n ∈ C17.shownBases kv.2, ∀ n' ∈ C17.shownBases kv.2, code n = code n' ^^^ 2 →
        C17.samplesOf kv.2 n = C17.samplesOf kv.2 n' :=
  Iff.rfl

/-- **T17U_cons_of_canon**: distinct canonical keys (a table built with both strands), palindromic rows
symmetric -/
theorem T17U_cons_of_canon (W : Nat) (a : Arr) (hk : ValidK a.k) (hw : WidthOk W a.k)
    (hkeys : ∀ key ∈ a.kmers, key < 4 ^ (a.k - 1))
    (hnd : a.kmers.Nodup) (hcanon : ∀ key ∈ a.kmers, key ≤ LORL.rcKey a.k key) (hpal : PalinSym a) :
    ColourCons W a := by
  apply LOU.colourCons_of_rows W a hk hw hkeys
  intro kv hkv kv' hkv' u l u' l' e e' hu hl hu' hl' hcu hcl hcu' hcl' n hn n' hn' h
  -- the two k-mers come from the same row
  obtain rfl : kv = kv' :=
    C17Q.T17_colour_row_unique W a hk hw hnd hcanon kv kv' hkv hkv' u l u' l' e e' hu hl hu' hl'
      hcu hcl hcu' hcl' n n' _ (Or.inl rfl) (h.imp (congrArg packL) (congrArg packL))
  obtain ⟨rfl, rfl⟩ := List.append_inj
    (packL_inj (Codes.append hcu hcl) (Codes.append hcu' hcl') (by simp [hu, hl, hu', hl']) (e.symm.trans e'))
    (by rw [hu, hu'])
  rcases h with h | h
  · obtain ⟨_, hc, _⟩ := split_full rfl h
    rw [code_inj_shown kv.2 kv.2 n n' hn hn' hc]
  -- the other strand of the same row: the row is palindromic and the bases are complementary
  · obtain ⟨_, hkh, _⟩ := validK_bounds hk hw
    rw [rcCodes_full] at h
    obtain ⟨h1, hc, h3⟩ := split_full (by rw [hu, rcCodes_length, hl]) h
    apply hpal kv hkv _ n hn n' hn' hc
    rw [e, rcKey_arms a.k u l hcu hcl (by rw [List.length_append, hu, hl]; omega), ← h1, ← h3]

/-- **T17U_cons_of_strict**: distinct strictly canonical keys (the hypotheses of `T17_colour_exact`) -/
theorem T17U_cons_of_strict (W : Nat) (a : Arr) (hk : ValidK a.k) (hw : WidthOk W a.k)
    (hkeys : ∀ key ∈ a.kmers, key < 4 ^ (a.k - 1))
    (hnd : a.kmers.Nodup) (hcanon : ∀ key ∈ a.kmers, key < LORL.rcKey a.k key) : ColourCons W a := by
  apply T17U_cons_of_canon W a hk hw hkeys hnd (fun key h => Nat.le_of_lt (hcanon key h))
  intro kv hkv hp
  have := hcanon kv.1 (List.of_mem_zip hkv).1
  omega

/-- **T17U_cons_var**: the joint build (both strands) of a family of samples of A/C/G/T of any lengths, rows in
any order, palindromic split k-mers allowed -/
theorem T17U_cons_var {a : Arr} {k : Nat} {names : List String} {S : List (List UInt8)}
    (ha : LOC.IsArrOf a k names S) (h : LOC.VFam S) (hk : ValidK k) {W : Nat} (hw : WidthOk W k) :
    ColourCons W a := by
  obtain ⟨_, hkh, _⟩ := validK_bounds hk hw
  obtain rfl := ha.hk
  apply LOU.colourCons_of_rows W a hk hw (LOC.IsArrOf.hkeys ha h hkh)
  intro kv hkv kv' hkv' u l u' l' e e' hu hl hu' hl' hcu hcl hcu' hcl' n hn n' hn' hF
  apply eq_of_sorted_mem (samplesOf_pairwise _ _) (samplesOf_pairwise _ _)
  intro i
  rw [LOC.IsArrOf.mem_samplesOf_row ha h hkh kv hkv u l e hu hl hcu hcl n ((mem_shownBases kv.2 n).mp hn).1 i,
    LOC.IsArrOf.mem_samplesOf_row ha h hkh kv' hkv' u' l' e' hu' hl' hcu' hcl' n' ((mem_shownBases kv'.2 n').mp hn').1 i]
  unfold LOC.Shows
  -- a window is a strand of `u n l` iff it is a strand of `u' n' l'`
  exact exists_congr fun s => and_congr_right fun _ => exists_congr fun j => and_congr_right fun _ =>
    (strands_iff hF).trans (strands_iff (Or.inl rfl)).symm

/-- **T17U_cons_fam**: the same for samples of one length (the setting of `colour_fam` / `T17_complete`) -/
theorem T17U_cons_fam {a : Arr} {k L : Nat} {names : List String} {S : List (List UInt8)}
    (ha : LOC.IsArrOf a k names S) (h : LOC.SFam L S) (hk : ValidK k) {W : Nat} (hw : WidthOk W k) :
    ColourCons W a :=
  T17U_cons_var ha h.base hk hw

/-- `T17_colour_exact` for the merged colours -/
theorem T17U_colour_exact (W : Nat) (a : Arr) (hk : ValidK a.k) (hw : WidthOk W a.k)
    (hkeys : ∀ key ∈ a.kmers, key < 4 ^ (a.k - 1))
    (hnd : a.kmers.Nodup) (hcanon : ∀ key ∈ a.kmers, key < LORL.rcKey a.k key)
    (kv : Nat × List UInt8) (hkv : kv ∈ a.kmers.zip a.variants)
    (u l : List Nat) (e : kv.1 = packL (u ++ l))
    (hu : u.length = halfK a.k) (hl : l.length = halfK a.k) (hcu : ∀ c ∈ u, c < 4) (hcl : ∀ c ∈ l, c < 4)
    (n : UInt8) (hn : n ∈ C17.shownBases kv.2) :
    Assoc.lookup (buildGraphU W a).2 (packL (u ++ [code n] ++ l)) = some (C17.samplesOf kv.2 n) ∧
    Assoc.lookup (buildGraphU W a).2 (packL (rcCodes (u ++ [code n] ++ l))) = some (C17.samplesOf kv.2 n) := by
  rw [T17U_eq_of_cons W a (T17U_cons_of_strict W a hk hw hkeys hnd hcanon)]
  exact C17Q.T17_colour_exact W a hk hw hkeys hnd hcanon kv hkv u l e hu hl hcu hcl n hn

/-- `colour_fam` for the merged colours -/
theorem T17U_colour_fam {a : Arr} {k L : Nat} {names : List String} {S : List (List UInt8)}
    (ha : LOC.IsArrOf a k names S) (h : LOC.SFam L S) (hk : ValidK k) {W : Nat} (hw : WidthOk W k)
    (s : List UInt8) (hs : s ∈ S) (j : Nat) (hj : j + k ≤ L) (F : List Nat)
    (hF : F = cds (win s j k) ∨ F = rcCodes (cds (win s j k))) :
    ∃ Cs : List Nat,
      Assoc.lookup (buildGraphU W a).2 (packL F) = some Cs ∧ Cs.Pairwise (· < ·) ∧
      ∀ i, i ∈ Cs ↔ ∃ t, S[i]? = some t ∧ ∃ j', j' + k ≤ L ∧
        (cds (win t j' k) = cds (win s j k) ∨ cds (win t j' k) = rcCodes (cds (win s j k))) := by
  rw [T17U_eq_of_cons W a (T17U_cons_fam ha h hk hw)]
  exact LOC.colour_fam ha h hk hw s hs j hj F hF

-- no k-mer of `exT` is entered twice, so the entries are the colour map of `exT_graph`; the evaluations
-- below rewrite with its value instead of each computing the entries again in the kernel
theorem exT_entries : colourEntries 64 C17Q.exT = (buildGraph 64 C17Q.exT).2 := by
  rw [C17Q.exT_graph]
  decide +kernel

/-- `ColourCons` holds for the table `exT` of `Props/C17Real.lean` (12 rows, 2 samples, 28 coloured k-mers) -/
theorem exT_cons : ColourCons 64 C17Q.exT := by
  rw [ColourCons_def, exT_entries, C17Q.exT_graph]
  decide +kernel
example : ColourCons 64 C17Q.exT := exT_cons
example : (colourEntries 64 C17Q.exT).length = 28 := by
  rw [exT_entries, C17Q.exT_graph]
  rfl
example : buildGraphU 64 C17Q.exT = buildGraph 64 C17Q.exT := T17U_eq_of_cons 64 C17Q.exT exT_cons
example : colourConsB 64 C17Q.exT = true := (T17U_consB_iff 64 C17Q.exT).mpr exT_cons
/-- and also by `T17U_cons_of_canon`: the keys of `exT` are distinct and canonical, its one palindromic row (key 225) shows
one base only -/
example : ColourCons 64 C17Q.exT :=
  T17U_cons_of_canon 64 C17Q.exT C17Q.exT_k C17Q.exT_w C17Q.exT_keys (by decide +kernel) (by decide +kernel) (by decide +kernel)
/-- `exT2` of `Props/C17Real.lean`: distinct strictly canonical keys -/
example : ColourCons 64 C17Q.exT2 :=
  T17U_cons_of_strict 64 C17Q.exT2 (by unfold ValidK; decide +kernel) (by unfold WidthOk; decide +kernel) (by decide +kernel)
    (by decide +kernel) (by decide +kernel)

/-- `ColourCons` fails for the counterexample of `T17U_old_order_dependent` (in both orders) -/
example : ¬ ColourCons 64 exA := by decide +kernel
example : ¬ ColourCons 64 exB := by decide +kernel
example : colourConsB 64 exA = false := by decide +kernel
/-- there `buildGraphU` and `buildGraph` differ -/
example : buildGraphU 64 exA ≠ buildGraph 64 exA := by
  intro h
  have h1 := T17U_new_order_example.1
  rw [h, T17U_old_order_dependent.1] at h1
  exact absurd h1 (by decide +kernel)
/-- the hypothesis of `T17U_cons_of_canon` that `exA` violates: key 78 is not canonical -/
example : ¬ (∀ key ∈ exA.kmers, key ≤ LORL.rcKey exA.k key) := by decide +kernel

/-- a palindromic row (arms AC / GT, key 30 = its own reverse complement) with symmetric cells (W = A or T in
sample 0, S = C or G in sample 1): `PalinSym` holds, `T17U_cons_of_canon` applies -/
def exP : Arr :=
  { k := 5, rc := true, names := ["s", "t"], kmers := [30], variants := [[87, 83]], counts := [], kBits := 64 }
example : LORL.rcKey exP.k 30 = 30 := by decide +kernel
example : ColourCons 64 exP :=
  T17U_cons_of_canon 64 exP (by unfold ValidK; decide +kernel) (by unfold WidthOk; decide +kernel) (by decide +kernel) (by decide +kernel)
    (by decide +kernel) (by decide +kernel)
/-- without the symmetry the palindromic row is inconsistent (sample 0 shows A only, sample 1 shows T only) -/
def exP2 : Arr :=
  { k := 5, rc := true, names := ["s", "t"], kmers := [30], variants := [[65, 84]], counts := [], kBits := 64 }
example : ¬ ColourCons 64 exP2 := by decide +kernel
example : PalinSym exP ∧ ¬ PalinSym exP2 := by decide +kernel

end SkaModel.Props.C17U

#print axioms SkaModel.Props.C17U.T17U_union_sorted
#print axioms SkaModel.Props.C17U.T17U_union_mem
#print axioms SkaModel.Props.C17U.T17U_union_self
#print axioms SkaModel.Props.C17U.T17U_sorted_ext
#print axioms SkaModel.Props.C17U.T17U_union_comm
#print axioms SkaModel.Props.C17U.T17U_union_assoc
#print axioms SkaModel.Props.C17U.T17U_row_samples_sorted
#print axioms SkaModel.Props.C17U.T17U_graph
#print axioms SkaModel.Props.C17U.T17U_lookup
#print axioms SkaModel.Props.C17U.T17U_lookup_some
#print axioms SkaModel.Props.C17U.T17U_fold
#print axioms SkaModel.Props.C17U.T17U_order
#print axioms SkaModel.Props.C17U.T17U_old_order_dependent
#print axioms SkaModel.Props.C17U.T17U_new_order_example
#print axioms SkaModel.Props.C17U.T17U_consB_iff
#print axioms SkaModel.Props.C17U.T17U_eq_of_cons
#print axioms SkaModel.Props.C17U.T17U_transfer
#print axioms SkaModel.Props.C17U.T17U_lo_eq
#print axioms SkaModel.Props.C17U.T17U_colour_sound
#print axioms SkaModel.Props.C17U.T17U_colour_complete
#print axioms SkaModel.Props.C17U.T17U_cons_of_canon
#print axioms SkaModel.Props.C17U.T17U_cons_of_strict
#print axioms SkaModel.Props.C17U.T17U_cons_var
#print axioms SkaModel.Props.C17U.T17U_cons_fam
#print axioms SkaModel.Props.C17U.T17U_colour_exact
#print axioms SkaModel.Props.C17U.T17U_colour_fam
