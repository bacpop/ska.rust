/-
C01 — `ska build` yields exactly the split k-mers of the input, IUPAC-merged per
k-mer: the iterator reports the specification's observations (`T01_iter`), the
dictionary loop never reaches its `panic!` and stores for every key the letter
of the union of the observed base sets (`T01_dict_lookup`), and the result of
`buildDict` is the specification's dictionary (`T01_build`, `T01_build_eq_spec`).
-/
import SkaModel.Impl.SkaDict
import SkaModel.Spec.Dict
import SkaModel.Props.C01Iter
import SkaModel.Props.C16Roll
import SkaModel.Lemmas.Assoc
import SkaModel.Lemmas.Windows
import SkaModel.Lemmas.DictFold

namespace SkaModel.Props.C01

open SkaModel SkaModel.Spec SkaModel.Props.C16

/-- the configuration `add_file_kmers` uses for a FASTA record -/
abbrev fastaConf (W k : Nat) (rc : Bool) (r : Array UInt8) : SKConf :=
  { W := W, k := k, rc := rc, seq := r }

theorem fasta_okAt (W k : Nat) (rc : Bool) (r : Array UInt8) :
    (fastaConf W k rc r).okAt = fun p => validBase (r.getD p 0) := by
  funext p
  unfold SKConf.okAt
  show (validBase (r.getD p 0) && (QualFilter.noFilter != QualFilter.strict || _)) = _
  have : (QualFilter.noFilter != QualFilter.strict) = true := by decide
  rw [this, Bool.true_or, Bool.and_true]

theorem fasta_windows (W k : Nat) (rc : Bool) (r : Array UInt8) :
    windowsBy k (fastaConf W k rc r).seqLen (fastaConf W k rc r).okAt = windows k r := by
  rw [fasta_okAt]; rfl

/-- **T01_iter.** On a FASTA record the iterator goes through exactly the valid
windows, in order, and reports for each the specification's observation, middle
position and palindrome flag. -/
theorem T01_iter (W k : Nat) (rc : Bool) (hk : ValidK k) (hw : WidthOk W k) (r : Array UInt8) :
    let c : SKConf := { W := W, k := k, rc := rc, seq := r }
    c.states.map (fun s => (c.currKmer s, c.middlePos s, c.selfPalindrome s))
      = (windows k r).map (fun j => (obs k rc r j, j + halfK k, isPalin k rc r j)) := by
  intro c
  rw [← fasta_windows W k rc r]
  refine states_map_start c hk.pos _ _ (fun s hs => ?_)
  obtain ⟨e1, e2, e3⟩ := T16_states_obs c hk hw s hs
  rw [e1, e2, e3]

theorem T01_iter_map {β : Type} (W k : Nat) (rc : Bool) (hk : ValidK k) (hw : WidthOk W k)
    (r : Array UInt8) (g : (Nat × Nat × Bool) × Nat × Bool → β) :
    (fastaConf W k rc r).states.map (fun s => g ((fastaConf W k rc r).currKmer s,
        (fastaConf W k rc r).middlePos s, (fastaConf W k rc r).selfPalindrome s))
      = (windows k r).map (fun j => g (obs k rc r j, j + halfK k, isPalin k rc r j)) := by
  have := congrArg (List.map g) (T01_iter W k rc hk hw r)
  rwa [List.map_map, List.map_map] at this

/-- **palin_of_key.** Two windows (of any two records) with the same canonical
key are both palindromic or both not. -/
theorem palin_of_key (k : Nat) (rc : Bool) (r r' : Array UInt8) (j j' : Nat)
    (hkey : (obs k rc r j).1 = (obs k rc r' j').1) :
    isPalin k rc r j = isPalin k rc r' j' := by
  rw [Bool.eq_iff_iff]
  exact ⟨palin_of_key_aux k rc r r' j j' hkey, palin_of_key_aux k rc r' r j' j hkey.symm⟩

def obsT (k : Nat) (rc : Bool) (recs : List (Array UInt8)) : List (Nat × Nat × Bool) :=
  recs.flatMap (fun r => (windows k r).map
    (fun j => ((obs k rc r j).1, (obs k rc r j).2.1, isPalin k rc r j)))

theorem observations_eq (k : Nat) (rc : Bool) (recs : List (Array UInt8)) :
    observations k rc recs = (obsT k rc recs).map maskO := by
  unfold observations obsT
  rw [List.map_flatMap]
  congr 1
  funext r
  rw [List.map_map]
  rfl

theorem addState_eq (c : SKConf) (d : Assoc Nat UInt8) (s : SKState) :
    addState c d s = stepO d ((c.currKmer s).1, (c.currKmer s).2.1, c.selfPalindrome s) := rfl

theorem addStates_eq (c : SKConf) (d : Assoc Nat UInt8) (ss : List SKState) :
    addStates c d ss
      = foldO d (ss.map (fun s => ((c.currKmer s).1, (c.currKmer s).2.1, c.selfPalindrome s))) := by
  induction ss generalizing d with
  | nil => rfl
  | cons s ss ih =>
    simp only [addStates, List.map_cons, foldO]
    rw [addState_eq]
    cases stepO d ((c.currKmer s).1, (c.currKmer s).2.1, c.selfPalindrome s) with
    | none => rfl
    | some d' => exact ih d'

theorem addRecords_eq (W k : Nat) (rc : Bool) (hk : ValidK k) (hw : WidthOk W k)
    (d : Assoc Nat UInt8) (recs : List (Array UInt8)) :
    addRecords W k rc d recs = foldO d (obsT k rc recs) := by
  induction recs generalizing d with
  | nil => rfl
  | cons r rs ih =>
    have hmap := T01_iter_map W k rc hk hw r (fun t => (t.1.1, t.1.2.1, t.2.2))
    unfold obsT
    rw [List.flatMap_cons, foldO_append]
    show (match addStates (fastaConf W k rc r) d (fastaConf W k rc r).states with
          | none => none
          | some d' => addRecords W k rc d' rs) = _
    rw [addStates_eq, hmap]
    cases foldO d ((windows k r).map
        (fun j => ((obs k rc r j).1, (obs k rc r j).2.1, isPalin k rc r j))) with
    | none => rfl
    | some d' => exact ih d'

def PalinKey (k : Nat) (rc : Bool) (key : Nat) : Prop :=
  ∃ (r : Array UInt8) (j : Nat), (obs k rc r j).1 = key ∧ isPalin k rc r j = true

/-- what `WF` asks of an observation, for the observation of any window -/
theorem obs_wf (k : Nat) (rc : Bool) (r : Array UInt8) (j : Nat) :
    (obs k rc r j).2.1 < 4 ∧ (isPalin k rc r j = true ↔ PalinKey k rc (obs k rc r j).1) :=
  ⟨obs_base_lt k rc r j, fun h => ⟨r, j, rfl, h⟩,
    fun ⟨r', j', hkey, hp⟩ => palin_of_key k rc r' r j' j hkey ▸ hp⟩

theorem obsT_wf (k : Nat) (rc : Bool) (recs : List (Array UInt8)) :
    WF (PalinKey k rc) (obsT k rc recs) := by
  intro o ho
  unfold obsT at ho
  obtain ⟨r, _, ho⟩ := List.mem_flatMap.1 ho
  obtain ⟨j, _, rfl⟩ := List.mem_map.1 ho
  exact obs_wf k rc r j

/-- **T01_dict_lookup.** The record loop never reaches the `panic!` of
`add_palindrome_to_dict`; the dictionary it returns has distinct keys and holds,
for every key, the IUPAC letter of the set of middle bases the specification
collects for that key (and nothing for keys that do not occur). -/
theorem T01_dict_lookup (W k : Nat) (rc : Bool) (hk : ValidK k) (hw : WidthOk W k)
    (recs : List (Array UInt8)) :
    ∃ d, addRecords W k rc [] recs = some d ∧ (d.map (·.1)).Nodup ∧
      ∀ key, Assoc.lookup d key
        = (if maskFor k rc recs key = 0 then none
           else some (letterOfMask (maskFor k rc recs key))) := by
  obtain ⟨d, hd, hnd, hl⟩ := foldO_inv (P := PalinKey k rc) (obsT k rc recs) [] []
    (obsT_wf k rc recs) DictInv.nil
  refine ⟨d, ?_, hnd, ?_⟩
  · rw [addRecords_eq W k rc hk hw]; exact hd
  · intro key
    unfold maskFor
    rw [observations_eq]
    exact hl key

theorem observations_mask_ne_zero (k : Nat) (rc : Bool) (recs : List (Array UInt8)) :
    ∀ o ∈ observations k rc recs, o.2 ≠ 0 := by
  intro o ho
  rw [observations_eq] at ho
  obtain ⟨t, ht, rfl⟩ := List.mem_map.1 ho
  exact maskO_ne_zero (obsT_wf k rc recs t ht).1

theorem maskFor_ne_zero_iff (k : Nat) (rc : Bool) (recs : List (Array UInt8)) (key : Nat) :
    maskFor k rc recs key ≠ 0 ↔ ∃ o ∈ observations k rc recs, o.1 = key :=
  maskOf_ne_zero_iff (observations_mask_ne_zero k rc recs) key

theorem observations_nil_iff (k : Nat) (rc : Bool) (recs : List (Array UInt8)) :
    observations k rc recs = [] ↔ ∀ key, maskFor k rc recs key = 0 := by
  constructor
  · intro h key
    unfold maskFor
    rw [h]
    rfl
  · intro h
    cases hobs : observations k rc recs with
    | nil => rfl
    | cons o os =>
      exfalso
      exact (maskFor_ne_zero_iff k rc recs o.1).2
        ⟨o, by rw [hobs]; exact List.mem_cons_self, rfl⟩ (h o.1)

theorem dict_nil_iff (k : Nat) (rc : Bool) (recs : List (Array UInt8)) (d : Assoc Nat UInt8)
    (hl : ∀ key, Assoc.lookup d key
        = (if maskFor k rc recs key = 0 then none
           else some (letterOfMask (maskFor k rc recs key)))) :
    d = [] ↔ observations k rc recs = [] := by
  rw [observations_nil_iff]
  constructor
  · intro hd key
    have := hl key
    rw [hd] at this
    by_cases h0 : maskFor k rc recs key = 0
    · exact h0
    · rw [if_neg h0] at this
      cases this
  · intro h
    exact Assoc.eq_nil_of_lookup_none d fun key => by rw [hl key, if_pos (h key)]

/-- **T01_build.** `buildDict` never panics; it reports "no valid sequence"
exactly when there is no window; otherwise it returns a list whose entries are
exactly the keys that occur, each with the letter of its base set. -/
theorem T01_build (W k : Nat) (rc : Bool) (hk : ValidK k) (hw : WidthOk W k)
    (recs : List (Array UInt8)) :
    (buildDict W k rc recs = .noValid ↔ observations k rc recs = []) ∧
    buildDict W k rc recs ≠ .panicked ∧
    (observations k rc recs ≠ [] →
      ∃ d, buildDict W k rc recs = .dict d ∧
        ∀ key letter, (key, letter) ∈ d ↔
          (maskFor k rc recs key ≠ 0 ∧ letter = letterOfMask (maskFor k rc recs key))) := by
  obtain ⟨d, hd, hnd, hl⟩ := T01_dict_lookup W k rc hk hw recs
  have hnil := dict_nil_iff k rc recs d hl
  unfold buildDict
  rw [hd]
  cases d with
  | nil =>
    have hobs := hnil.1 rfl
    refine ⟨⟨fun _ => hobs, fun _ => rfl⟩, by simp, fun h => absurd hobs h⟩
  | cons p rest =>
    have hobs : observations k rc recs ≠ [] := fun h => by cases hnil.2 h
    refine ⟨⟨fun h => (by cases h), fun h => absurd h hobs⟩, by simp, fun _ => ?_⟩
    refine ⟨_, rfl, ?_⟩
    intro key letter
    rw [mem_sortByKey, Assoc.mem_iff_lookup _ hnd, hl key]
    by_cases h0 : maskFor k rc recs key = 0
    · simp [h0]
    · simp [h0, eq_comm]

/-- **T01_build_eq_spec.** The result of `buildDict` *is* the specification's
dictionary (a key-sorted list), or "no valid sequence" when there is no window. -/
theorem T01_build_eq_spec (W k : Nat) (rc : Bool) (hk : ValidK k) (hw : WidthOk W k)
    (recs : List (Array UInt8)) :
    buildDict W k rc recs
      = (if observations k rc recs = [] then .noValid else .dict (specDict k rc recs)) := by
  obtain ⟨d, hd, hnd, hl⟩ := T01_dict_lookup W k rc hk hw recs
  have hnil := dict_nil_iff k rc recs d hl
  unfold buildDict
  rw [hd]
  cases d with
  | nil => rw [if_pos (hnil.1 rfl)]
  | cons p rest =>
    rw [if_neg fun h => List.cons_ne_nil p rest (hnil.2 h)]
    exact congrArg BuildResult.dict
      (dict_sorted_eq (ms := observations k rc recs) ⟨hnd, hl⟩ (observations_mask_ne_zero k rc recs))

end SkaModel.Props.C01
