/-
C19 — the truncation theorem with its hypothesis discharged by C09's
prefix-freeness theorem: no condition on the decompressor.
-/
import SkaModel.Props.C19
import SkaModel.Props.C09

namespace SkaModel.Props.C19

open SkaModel

/-- **Truncation.** Let `file` be any byte string whose frames decode (with any block
decompressor) to the serialisation of a valid array written at width `W`. Then every
proper prefix of `file` — what an interrupted save or in-place overwrite leaves behind —
is, at every integer width `W'`, either rejected or decoded to exactly the original content;
it is never accepted as different data. -/
theorem T19_trunc_final (decomp : List UInt8 → Option (List UInt8)) {W : Nat} (f : SkfFile)
    (hv : C09.SkfFile.Valid W f) (file : List UInt8) (hok : unframe decomp file = .ok f.encode)
    (p : List UInt8) (hp : p <+: file) (hne : p ≠ file) (W' : Nat) :
    load decomp W' p = none ∨ load decomp W' p = load decomp W' file :=
  T19_trunc decomp f file (fun W'' q hq hqne => C09.T09_prefix hv W'' q hq hqne) hok p hp hne W'

end SkaModel.Props.C19
