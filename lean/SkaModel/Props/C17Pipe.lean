/-
C17 / C11 / C18 on the model of the whole reference-free `ska lo` pipeline
(`SkaModel/Impl/SkaloPipe.lean`): the SNP columns `analyse` emits are well formed (C17), its result
does not depend on the order in which the two group maps are iterated (C11), and every indel record
is the genotyping of a kept (de-replicated) group from the colours of its paths (C18).
The lemmas behind them: `SkaModel/Lemmas/LOPipe.lean`; the record of one indel group (`recOf_spec`) is read here, next to
`Genotyped`.
-/
import SkaModel.Lemmas.LOPipe
import SkaModel.Lemmas.LOPathGroups
import SkaModel.Lemmas.LOIdentify
import SkaModel.Props.C18

namespace SkaModel.Props.C17P

open SkaModel SkaModel.Skalo

/-- **T17_columns_wf**: in every run all columns have one entry per sample (so all output sequences
have equal length), at least two distinct A/C/G/T alleles and at most the allowed fraction of
missing samples -/
theorem T17_columns_wf (W kGraph nSamples mNum mDen ik : Nat) (col : Colours) (gr : Groups)
    (cols : List (List UInt8)) (recs : List IndelRec)
    (h : analyse W kGraph nSamples mNum mDen ik col gr = some (cols, recs)) :
    ∀ c ∈ cols, c.length = nSamples ∧ (checkMissingData c).1 = true ∧
      ratioLe (checkMissingData c).2 nSamples mNum mDen = true := by
  intro c hc
  obtain ⟨hwf, h1, h2⟩ := LOP.analyse_cols W kGraph nSamples mNum mDen ik col gr cols recs h c hc
  exact ⟨hwf.1, h1, h2⟩

/-- the same in plain words: every entry is one of '-', N, A, C, G, T; two different letters among
A, C, G, T occur; the number of entries that are not A/C/G/T, as a fraction of the samples, is at
most `mNum / mDen` -/
theorem T17_columns_readable (W kGraph nSamples mNum mDen ik : Nat) (col : Colours) (gr : Groups)
    (cols : List (List UInt8)) (recs : List IndelRec)
    (h : analyse W kGraph nSamples mNum mDen ik col gr = some (cols, recs)) :
    ∀ c ∈ cols,
      c.length = nSamples ∧
      (∀ b ∈ c, b = 45 ∨ b = 78 ∨ b = 65 ∨ b = 67 ∨ b = 71 ∨ b = 84) ∧
      (∃ a b : UInt8, a ≠ b ∧ (a = 65 ∨ a = 67 ∨ a = 71 ∨ a = 84) ∧ (b = 65 ∨ b = 67 ∨ b = 71 ∨ b = 84) ∧
        a ∈ c ∧ b ∈ c) ∧
      (checkMissingData c).2 =
        (c.filter (fun b => !(b == 65 || b == 67 || b == 71 || b == 84))).length ∧
      (c.filter (fun b => !(b == 65 || b == 67 || b == 71 || b == 84))).length * mDen ≤ mNum * nSamples := by
  intro c hc
  obtain ⟨hwf, h1, h2⟩ := LOP.analyse_cols W kGraph nSamples mNum mDen ik col gr cols recs h c hc
  refine ⟨hwf.1, hwf.2, ?_, rfl, of_decide_eq_true h2⟩
  obtain ⟨a, b, hab, ha, hb, hac, hbc⟩ := (LO.check_fst_exists c).mp h1
  exact ⟨a, b, hab, (LO.isACGT_cases a).mp ha, (LO.isACGT_cases b).mp hb, hac, hbc⟩

/-- all output sequences have equal length: any two columns have the same number of entries -/
theorem T17_columns_equal_length (W kGraph nSamples mNum mDen ik : Nat) (col : Colours) (gr : Groups)
    (cols : List (List UInt8)) (recs : List IndelRec)
    (h : analyse W kGraph nSamples mNum mDen ik col gr = some (cols, recs)) :
    ∀ c ∈ cols, ∀ c' ∈ cols, c.length = c'.length := by
  intro c hc c' hc'
  rw [(T17_columns_wf _ _ _ _ _ _ _ _ _ _ h c hc).1, (T17_columns_wf _ _ _ _ _ _ _ _ _ _ h c' hc').1]

/-- a lookup in a map does not depend on the iteration order (keys distinct) -/
theorem T17_lookup_order {ν : Type} (l l' : Assoc (Nat × Nat) ν) (hp : l.Perm l')
    (hnd : (l.map (·.1)).Nodup) (k : Nat × Nat) : Assoc.lookup l k = Assoc.lookup l' k :=
  Assoc.lookup_eq_of_perm hp hnd k

/-- `process_indels` does not depend on the order of the indel groups -/
theorem T17_processIndels_order (W kGraph nSamples mNum mDen : Nat) (col : Colours)
    (ig ig' : List ((Nat × Nat) × List Variant)) (hp : ig.Perm ig') (hnd : (ig.map (·.1)).Nodup) :
    processIndels W kGraph nSamples mNum mDen col ig = processIndels W kGraph nSamples mNum mDen col ig' := by
  have hl : ∀ key, Assoc.lookup ig key = Assoc.lookup ig' key := fun key => Assoc.lookup_eq_of_perm hp hnd key
  rw [LOP.processIndels_eq, LOP.processIndels_eq, C18.T18_derep_order W kGraph _ _ (hp.map LOP.toGroup)]
  simp only [hl]

/-- **T17_analyse_order**: the two group lists stand for hash maps (distinct keys); whatever their
iteration orders, `analyse` returns the same columns in the same order and the same records -/
theorem T17_analyse_order (W kGraph nSamples mNum mDen ik : Nat) (col : Colours) (gr gr' : Groups)
    (hs : gr.snpGroups.Perm gr'.snpGroups) (hi : gr.indelGroups.Perm gr'.indelGroups)
    (hsn : (gr.snpGroups.map (·.1)).Nodup) (hin : (gr.indelGroups.map (·.1)).Nodup) :
    analyse W kGraph nSamples mNum mDen ik col gr = analyse W kGraph nSamples mNum mDen ik col gr' := by
  rw [LOP.analyse_eq, LOP.analyse_eq, T17_processIndels_order W kGraph nSamples mNum mDen col _ _ hi hin]
  simp only [fun ext => LOP.sortedGroups_perm W kGraph ik ext _ _ hs hsn]

/-- the groups of the pipeline, handed to `analyse` in any two orders, give the same result -/
theorem T17_pipeline_order (W kGraph nSamples mNum mDen ik maxDepth : Nat) (col : Colours)
    (g0 : Graph) (starts ends : List Nat) (hst : starts.Nodup) (gr' : Groups)
    (hs : (buildVariantGroups W kGraph g0 starts ends maxDepth).snpGroups.Perm gr'.snpGroups)
    (hi : (buildVariantGroups W kGraph g0 starts ends maxDepth).indelGroups.Perm gr'.indelGroups) :
    analyse W kGraph nSamples mNum mDen ik col (buildVariantGroups W kGraph g0 starts ends maxDepth) =
      analyse W kGraph nSamples mNum mDen ik col gr' :=
  T17_analyse_order W kGraph nSamples mNum mDen ik col _ gr' hs hi
    (LOP.groups_keys_nodup W kGraph g0 starts ends maxDepth hst).1
    (LOP.groups_keys_nodup W kGraph g0 starts ends maxDepth hst).2

/-- the whole reference-free pipeline from the merged table: graph, entry nodes, groups.  The entry
nodes are distinct (the graph is a map), so the group maps have distinct keys and the result of
`analyse` is the same for every iteration order of the two group maps -/
theorem T17_lo_order (W kGraph nSamples mNum mDen ik maxDepth : Nat) (a : Arr)
    (starts ends : List Nat)
    (hid : identifyGoodKmers W kGraph (buildGraph W a).1 (buildGraph W a).2 = some (starts, ends))
    (gr' : Groups)
    (hs : (buildVariantGroups W kGraph (buildGraph W a).1 starts ends maxDepth).snpGroups.Perm gr'.snpGroups)
    (hi : (buildVariantGroups W kGraph (buildGraph W a).1 starts ends maxDepth).indelGroups.Perm gr'.indelGroups) :
    starts.Nodup ∧
    analyse W kGraph nSamples mNum mDen ik (buildGraph W a).2
        (buildVariantGroups W kGraph (buildGraph W a).1 starts ends maxDepth) =
      analyse W kGraph nSamples mNum mDen ik (buildGraph W a).2 gr' := by
  have hst := LOP.identifyGoodKmers_nodup W kGraph _ _ starts ends hid (LOP.buildGraph_keys_nodup W a)
  exact ⟨hst, T17_pipeline_order W kGraph nSamples mNum mDen ik maxDepth _ _ starts ends hst gr' hs hi⟩

/-- allele 0 (insert `i0`, samples `s0`) is the one reported as REF: it is carried by more samples,
or by as many and its insert is not the bytewise larger one -/
def RefIsFirst (i0 i1 : List UInt8) (s0 s1 : List Nat) : Prop :=
  s1.eraseDups.length < s0.eraseDups.length ∨
    (s0.eraseDups.length = s1.eraseDups.length ∧ bytesLt i1 i0 = false)

/-- record `r` genotypes the two alleles (`i0` carried by the samples `s0`, `i1` by `s1`) over `n`
samples: REF/ALT are the two inserts, sample `i` is called "0" iff it carries only REF, "1" iff only
ALT, "0/1" iff both, "." iff neither; the both-or-neither samples are at most the allowed fraction,
and a pure REF and a pure ALT sample exist -/
def Genotyped (n mNum mDen : Nat) (i0 i1 : List UInt8) (s0 s1 : List Nat) (r : IndelRec) : Prop :=
  ∃ (refI altI : List UInt8) (refS altS : List Nat),
    ((RefIsFirst i0 i1 s0 s1 ∧ (refI, altI, refS, altS) = (i0, i1, s0, s1)) ∨
     (¬ RefIsFirst i0 i1 s0 s1 ∧ (refI, altI, refS, altS) = (i1, i0, s1, s0))) ∧
    r.ref = refI ∧ r.alt = altI ∧ r.calls.length = n ∧
    (∀ i, i < n → ∃ g, r.calls[i]? = some g ∧
      (g = "0" ↔ i ∈ refS ∧ i ∉ altS) ∧ (g = "1" ↔ i ∉ refS ∧ i ∈ altS) ∧
      (g = "0/1" ↔ i ∈ refS ∧ i ∈ altS) ∧ (g = "." ↔ i ∉ refS ∧ i ∉ altS)) ∧
    ratioLe ((List.range n).filter
      (fun i => decide ((i ∈ refS ∧ i ∈ altS) ∨ (i ∉ refS ∧ i ∉ altS)))).length n mNum mDen = true ∧
    (∃ i, i < n ∧ r.calls[i]? = some "0") ∧ (∃ i, i < n ∧ r.calls[i]? = some "1")

theorem genotyped_of_gtStrings (n mNum mDen : Nat) (i0 i1 : List UInt8) (s0 s1 : List Nat)
    (hst : (ratioLe (indelStats n s0 s1).1 n mNum mDen && (indelStats n s0 s1).2.1 && (indelStats n s0 s1).2.2) = true)
    (b : Bool) (hb : b = true ↔ RefIsFirst i0 i1 s0 s1) (before after : List UInt8) :
    Genotyped n mNum mDen i0 i1 s0 s1
      { ref := if b then i0 else i1, alt := if b then i1 else i0, before := before, after := after,
        calls := LO.gtStrings n (if b then s0 else s1) (if b then s1 else s0) } := by
  obtain ⟨h1, h2, h3⟩ := C18.T18_stats n s0 s1
  simp only [Bool.and_eq_true] at hst
  obtain ⟨⟨hm, hr⟩, ha⟩ := hst
  rw [h1] at hm
  obtain ⟨p0, hp0, hp0a, hp0b⟩ := h2.mp hr
  obtain ⟨p1, hp1, hp1a, hp1b⟩ := h3.mp ha
  have hpure : ∀ refS altS p, p < n → p ∈ refS → p ∉ altS →
      (LO.gtStrings n refS altS)[p]? = some "0" ∧ (LO.gtStrings n altS refS)[p]? = some "1" := by
    intro refS altS p hp hr ha
    obtain ⟨g, hg, g0, _⟩ := LO.gtStrings_spec n refS altS p hp
    obtain ⟨g', hg', _, g1, _⟩ := LO.gtStrings_spec n altS refS p hp
    exact ⟨by rw [hg, g0.mpr ⟨hr, ha⟩], by rw [hg', g1.mpr ⟨ha, hr⟩]⟩
  cases b with
  | true =>
    exact ⟨i0, i1, s0, s1, Or.inl ⟨hb.mp rfl, rfl⟩, rfl, rfl, LO.gtStrings_length _ _ _,
      LO.gtStrings_spec n s0 s1, hm, ⟨p0, hp0, (hpure s0 s1 p0 hp0 hp0a hp0b).1⟩,
      ⟨p1, hp1, (hpure s1 s0 p1 hp1 hp1b hp1a).2⟩⟩
  | false =>
    refine ⟨i1, i0, s1, s0, Or.inr ⟨fun h => Bool.false_ne_true (hb.mpr h), rfl⟩, rfl, rfl,
      LO.gtStrings_length _ _ _, LO.gtStrings_spec n s1 s0, ?_, ⟨p1, hp1, (hpure s1 s0 p1 hp1 hp1b hp1a).1⟩,
      ⟨p0, hp0, (hpure s0 s1 p0 hp0 hp0a hp0b).2⟩⟩
    simpa only [and_comm] using hm

theorem recOf_spec (W kGraph n mNum mDen : Nat) (col : Colours) (vs : List Variant) (r : IndelRec)
    (h : LOP.recOf W kGraph n mNum mDen col vs = some (some r)) :
    ∃ s0 s1,
      (vs.filterMap (fun v => Assoc.lookup col (encodeKmer W (v.1.take (kGraph + 1)))))[0]? = some s0 ∧
      (vs.filterMap (fun v => Assoc.lookup col (encodeKmer W (v.1.take (kGraph + 1)))))[1]? = some s1 ∧
      r.before = ((vs.map (·.1)).headD []).take kGraph ∧
      r.after = (extractMiddleBases (vs.map (·.1)) kGraph).2 ∧
      Genotyped n mNum mDen ((extractMiddleBases (vs.map (·.1)) kGraph).1.getD 0 [])
        ((extractMiddleBases (vs.map (·.1)) kGraph).1.getD 1 []) s0 s1 r := by
  rw [LOP.recOf_eq] at h
  simp only [Option.bind_eq_some_iff] at h
  obtain ⟨s0, hs0, s1, hs1, h⟩ := h
  refine ⟨s0, s1, hs0, hs1, ?_⟩
  split at h
  · rename_i hst
    simp only [Option.some.injEq] at h
    generalize hi0 : (extractMiddleBases (vs.map (·.1)) kGraph).1.getD 0 [] = i0 at h ⊢
    generalize hi1 : (extractMiddleBases (vs.map (·.1)) kGraph).1.getD 1 [] = i1 at h ⊢
    -- the two tie-breaks (by insert in `processIndels`, by count in `indelCalls`) amount to `RefIsFirst`
    obtain ⟨b, hb, key⟩ : ∃ b : Bool, (b = true ↔ RefIsFirst i0 i1 s0 s1) ∧
        (if bytesLt i1 i0 then indelCalls n i1 i0 s1 s0 else indelCalls n i0 i1 s0 s1) =
          (if b then i0 else i1, if b then i1 else i0,
            LO.gtStrings n (if b then s0 else s1) (if b then s1 else s0)) := by
      rw [LO.indelCalls_eq, LO.indelCalls_eq]
      unfold RefIsFirst
      by_cases hlt : bytesLt i1 i0 = true
      · rw [if_pos hlt]
        by_cases hc : s1.eraseDups.length < s0.eraseDups.length
        · exact ⟨true, by simp [hc], by simp [hc]⟩
        · exact ⟨false, by simp [hc, hlt], by simp [hc]⟩
      · rw [if_neg hlt]
        by_cases hc : s0.eraseDups.length < s1.eraseDups.length
        · exact ⟨false, by simp; omega, by simp [hc]⟩
        · exact ⟨true, by simp [hlt]; omega, by simp [hc]⟩
    have hg := genotyped_of_gtStrings n mNum mDen i0 i1 s0 s1 hst b hb
      (((vs.map (·.1)).headD []).take kGraph) (extractMiddleBases (vs.map (·.1)) kGraph).2
    rw [key] at h
    subst h
    exact ⟨rfl, rfl, hg⟩
  · simp at h

theorem recOf_two (W kGraph n mNum mDen : Nat) (col : Colours) (v0 v1 : Variant) (r : IndelRec)
    (h : LOP.recOf W kGraph n mNum mDen col [v0, v1] = some (some r)) :
    ∃ s0 s1, Assoc.lookup col (encodeKmer W (v0.1.take (kGraph + 1))) = some s0 ∧
      Assoc.lookup col (encodeKmer W (v1.1.take (kGraph + 1))) = some s1 ∧
      r.before = v0.1.take kGraph ∧
      r.after = (extractMiddleBases [v0.1, v1.1] kGraph).2 ∧
      ∃ i0 i1, (extractMiddleBases [v0.1, v1.1] kGraph).1 = [i0, i1] ∧
        Genotyped n mNum mDen i0 i1 s0 s1 r := by
  obtain ⟨s0, s1, h0, h1, hb, ha, hg⟩ := recOf_spec W kGraph n mNum mDen col [v0, v1] r h
  cases hl0 : Assoc.lookup col (encodeKmer W (v0.1.take (kGraph + 1))) with
  | none =>
    cases hl1 : Assoc.lookup col (encodeKmer W (v1.1.take (kGraph + 1))) <;>
      simp [hl0, hl1] at h1
  | some a0 =>
    cases hl1 : Assoc.lookup col (encodeKmer W (v1.1.take (kGraph + 1))) with
    | none => simp [hl0, hl1] at h1
    | some a1 =>
      simp [hl0, hl1] at h0 h1
      subst h0; subst h1
      refine ⟨a0, a1, rfl, rfl, hb, ha, _, _, ?_, hg⟩
      simp [extractMiddleBases]

/-- the group record handed to `dereplicate` for one entry of the indel map -/
abbrev toGroup (kv : (Nat × Nat) × List Variant) : IndelGroup :=
  { entry := kv.1.1, exit := kv.1.2, len := (kv.2.map (·.1.length)).sum }

/-- **T18_indel_records** (general form, groups with any number of paths): the extremities are those
of the de-replication; every record comes from a kept group, whose paths `vs` are the entry of the
indel map at its key; with `sets` the colour sets of the paths that have one (in path order), the
record genotypes insert 0 with `sets[0]` and insert 1 with `sets[1]`; conversely every kept group
yields a record or is filtered out.
When a group has more than two paths or a path without colours, `sets[0]`, `sets[1]` need not be the
colours of paths 0 and 1 (see the counterexample below); `T18_indel_records_two` is the statement
for groups of exactly two paths, which is what `buildVariantGroups` produces (`T17_groups`). -/
theorem T18_indel_records (W kGraph n mNum mDen : Nat) (col : Colours)
    (ig : List ((Nat × Nat) × List Variant)) (recs : List IndelRec) (ext : List Nat)
    (h : processIndels W kGraph n mNum mDen col ig = some (recs, ext)) :
    ext = (dereplicate W kGraph (ig.map toGroup)).2 ∧
    (∀ r ∈ recs, ∃ kg ∈ (dereplicate W kGraph (ig.map toGroup)).1, ∃ (vs : List Variant) (s0 s1 : List Nat),
      Assoc.lookup ig (kg.entry, kg.exit) = some vs ∧ ((kg.entry, kg.exit), vs) ∈ ig ∧
      (vs.filterMap (fun v => Assoc.lookup col (encodeKmer W (v.1.take (kGraph + 1)))))[0]? = some s0 ∧
      (vs.filterMap (fun v => Assoc.lookup col (encodeKmer W (v.1.take (kGraph + 1)))))[1]? = some s1 ∧
      r.before = ((vs.map (·.1)).headD []).take kGraph ∧
      r.after = (extractMiddleBases (vs.map (·.1)) kGraph).2 ∧
      Genotyped n mNum mDen ((extractMiddleBases (vs.map (·.1)) kGraph).1.getD 0 [])
        ((extractMiddleBases (vs.map (·.1)) kGraph).1.getD 1 []) s0 s1 r) ∧
    (∀ kg ∈ (dereplicate W kGraph (ig.map toGroup)).1, ∃ o,
      LOP.recOf W kGraph n mNum mDen col ((Assoc.lookup ig (kg.entry, kg.exit)).getD []) = some o ∧
      ∀ r, o = some r → r ∈ recs) := by
  obtain ⟨he, hr, hk⟩ := LOP.processIndels_spec W kGraph n mNum mDen col ig recs ext h
  refine ⟨he, ?_, hk⟩
  intro r hrm
  obtain ⟨kg, hkg, hrec⟩ := hr r hrm
  obtain ⟨vs, hvs, hmem⟩ := LOP.kept_lookup W kGraph ig kg hkg
  rw [hvs, Option.getD_some] at hrec
  obtain ⟨s0, s1, h0, h1, hb, ha, hg⟩ := recOf_spec W kGraph n mNum mDen col vs r hrec
  exact ⟨kg, hkg, vs, s0, s1, hvs, hmem, h0, h1, hb, ha, hg⟩

/-- **T18_indel_records_two**: when every indel group has exactly two paths (as `buildVariantGroups`
guarantees), every record `r` comes from a kept group whose two paths `v0`, `v1` both have a colour
set (`s0`, `s1`, looked up by their first k-mer), `before` is the first (k-1)-mer of `v0`, `after` the
shared last k-mer of `extractMiddleBases`, REF/ALT are the two inserts, and the genotype strings say
exactly which of the two paths each sample carries: no sample is genotyped for an allele it does
not carry. -/
theorem T18_indel_records_two (W kGraph n mNum mDen : Nat) (col : Colours)
    (ig : List ((Nat × Nat) × List Variant)) (recs : List IndelRec) (ext : List Nat)
    (h2 : ∀ kv ∈ ig, kv.2.length = 2)
    (h : processIndels W kGraph n mNum mDen col ig = some (recs, ext)) :
    ext = (dereplicate W kGraph (ig.map toGroup)).2 ∧
    ∀ r ∈ recs, ∃ kg ∈ (dereplicate W kGraph (ig.map toGroup)).1,
      ∃ (v0 v1 : Variant) (s0 s1 : List Nat) (i0 i1 : List UInt8),
        Assoc.lookup ig (kg.entry, kg.exit) = some [v0, v1] ∧
        Assoc.lookup col (encodeKmer W (v0.1.take (kGraph + 1))) = some s0 ∧
        Assoc.lookup col (encodeKmer W (v1.1.take (kGraph + 1))) = some s1 ∧
        (extractMiddleBases [v0.1, v1.1] kGraph).1 = [i0, i1] ∧
        r.before = v0.1.take kGraph ∧
        r.after = (extractMiddleBases [v0.1, v1.1] kGraph).2 ∧
        Genotyped n mNum mDen i0 i1 s0 s1 r := by
  obtain ⟨he, hr, _⟩ := LOP.processIndels_spec W kGraph n mNum mDen col ig recs ext h
  refine ⟨he, ?_⟩
  intro r hrm
  obtain ⟨kg, hkg, hrec⟩ := hr r hrm
  obtain ⟨vs, hvs, hmem⟩ := LOP.kept_lookup W kGraph ig kg hkg
  rw [hvs, Option.getD_some] at hrec
  have hlen := h2 _ hmem
  match vs, hlen with
  | [v0, v1], _ =>
    obtain ⟨s0, s1, h0, h1, hb, ha, i0, i1, hi, hg⟩ := recOf_two W kGraph n mNum mDen col v0 v1 r hrec
    exact ⟨kg, hkg, v0, v1, s0, s1, i0, i1, hvs, h0, h1, hi, hb, ha, hg⟩

/-- **T17_groups**: every indel group has exactly two variants, of different sequence length, one of
them at most `2 * kGraph` long; every SNP group has at least two variants; no key is in both maps -/
theorem T17_groups (W kGraph : Nat) (g0 : Graph) (starts ends : List Nat) (maxDepth : Nat) :
    (∀ kv ∈ (buildVariantGroups W kGraph g0 starts ends maxDepth).indelGroups,
      ∃ v0 v1 : Variant, kv.2 = [v0, v1] ∧ v0.1.length ≠ v1.1.length ∧
        (v0.1.length ≤ 2 * kGraph ∨ v1.1.length ≤ 2 * kGraph)) ∧
    (∀ kv ∈ (buildVariantGroups W kGraph g0 starts ends maxDepth).snpGroups, 2 ≤ kv.2.length) ∧
    (∀ kv ∈ (buildVariantGroups W kGraph g0 starts ends maxDepth).snpGroups,
      ∀ kv' ∈ (buildVariantGroups W kGraph g0 starts ends maxDepth).indelGroups, kv.1 ≠ kv'.1) := by
  rw [LOP.buildVariantGroups_eq]
  refine ⟨?_, ?_, ?_⟩
  · intro kv hkv
    exact LOP.clsIndel_spec kGraph kv.2 (List.mem_filter.mp hkv).2
  · intro kv hkv
    exact LOP.clsSnp_spec kv.2 (List.mem_filter.mp hkv).2
  · intro kv hkv kv' hkv' heq
    obtain ⟨hm, hc⟩ := List.mem_filter.mp hkv
    obtain ⟨hm', hc'⟩ := List.mem_filter.mp hkv'
    have := LOP.built_key_unique W kGraph g0 starts ends maxDepth kv kv' hm hm' heq
    subst this
    have hd := LOP.cls_disjoint kGraph kv.2 hc
    rw [hd] at hc'
    exact Bool.false_ne_true hc'

/-- the indel groups of `buildVariantGroups` satisfy the hypothesis of `T18_indel_records_two` -/
theorem T17_groups_two (W kGraph : Nat) (g0 : Graph) (starts ends : List Nat) (maxDepth : Nat) :
    ∀ kv ∈ (buildVariantGroups W kGraph g0 starts ends maxDepth).indelGroups, kv.2.length = 2 := by
  intro kv hkv
  obtain ⟨v0, v1, h, _⟩ := (T17_groups W kGraph g0 starts ends maxDepth).1 kv hkv
  rw [h]; rfl

/-- an SNP bubble  A[C|G]A  over two samples (k-1 = 1): one column "CG" -/
def exCol : Colours := [(1, [0]), (3, [1])]
def exGr : Groups :=
  { snpGroups := [((1, 2), [([65, 67, 65], [1]), ([65, 71, 65], [1])])], indelGroups := [] }

theorem ex_analyse : analyse 64 1 2 0 1 5 exCol exGr = some ([[67, 71]], []) := by
  unfold analyse
  simp only [exGr, LOP.processIndels_nil, List.map_cons, List.map_nil, List.mergeSort_singleton]
  decide +kernel

/-- `T17_columns_wf` applies to a run that emits a column -/
example : ∀ c ∈ [([67, 71] : List UInt8)], c.length = 2 ∧ (checkMissingData c).1 = true ∧
    ratioLe (checkMissingData c).2 2 0 1 = true :=
  T17_columns_wf 64 1 2 0 1 5 exCol exGr _ _ ex_analyse

/-- `T17_analyse_order`: two SNP groups and two indel groups in both orders -/
example :
    let a : (Nat × Nat) × List Variant := ((1, 2), [([65, 67, 65], [1]), ([65, 71, 65], [1])])
    let b : (Nat × Nat) × List Variant := ((5, 2), [([67, 67, 65], [1]), ([67, 71, 65], [1])])
    let c : (Nat × Nat) × List Variant := ((7, 9), [([65, 67, 65], []), ([65, 65], [])])
    let d : (Nat × Nat) × List Variant := ((8, 9), [([67, 67, 65], []), ([67, 65], [])])
    analyse 64 1 2 0 1 5 exCol { snpGroups := [a, b], indelGroups := [c, d] } =
      analyse 64 1 2 0 1 5 exCol { snpGroups := [b, a], indelGroups := [d, c] } := by
  intro a b c d
  exact T17_analyse_order 64 1 2 0 1 5 exCol _ _ (List.Perm.swap _ _ _) (List.Perm.swap _ _ _)
    (by decide) (by decide)

/-- an indel bubble  A[C|-]A  over three samples: path 0 carried by samples 0 and 2, path 1 by 1 -/
def exColI : Colours := [(1, [0, 2]), (0, [1])]
def exIg : List ((Nat × Nat) × List Variant) := [((7, 9), [([65, 67, 65], []), ([65, 65], [])])]

theorem ex_processIndels : processIndels 64 1 3 0 1 exColI exIg =
    some ([{ ref := [67], alt := [45], before := [65], after := [65], calls := ["0", "1", "0"] }],
      [7, 1, 9, 3]) := by
  have hd : dereplicate 64 1 (exIg.map LOP.toGroup) = ([⟨7, 9, 5⟩], [7, 1, 9, 3]) := by
    simp only [exIg, List.map_cons, List.map_nil, dereplicate, List.mergeSort_singleton]
    decide +kernel
  rw [LOP.processIndels_eq, hd]
  simp only [List.mergeSort_singleton]
  decide +kernel

/-- `T18_indel_records_two` applies to it -/
example := T18_indel_records_two 64 1 3 0 1 exColI exIg _ _ (by decide) ex_processIndels

/-- counterexample to the two-path reading of `T18_indel_records` for a group with three paths, the
first without colours: REF "G" (insert of path 0, which no sample carries) is genotyped with the
samples of path 1 (insert "C"), so samples 0 and 2 are called for an allele they do not carry.
`buildVariantGroups` never produces such a group (`T17_groups`). -/
example : processIndels 64 1 3 0 1 exColI
      [((7, 9), [([65, 71, 65], []), ([65, 67, 65], []), ([65, 65], [])])] =
    some ([{ ref := [71], alt := [67], before := [65], after := [65], calls := ["0", "1", "0"] }],
      [7, 1, 9, 3]) := by
  have hd : dereplicate 64 1
      (([((7, 9), [([65, 71, 65], []), ([65, 67, 65], []), ([65, 65], [])])] :
        List ((Nat × Nat) × List Variant)).map LOP.toGroup) = ([⟨7, 9, 8⟩], [7, 1, 9, 3]) := by
    simp only [List.map_cons, List.map_nil, dereplicate, List.mergeSort_singleton]
    decide +kernel
  rw [LOP.processIndels_eq, hd]
  simp only [List.mergeSort_singleton]
  decide +kernel

/-- `T17_groups`: a graph with an indel bubble (entry 4, exit 10) and an SNP bubble (entry 15, exit 13) -/
def exGraph : Graph :=
  [(4, [1, 2]), (1, [6]), (6, [10]), (2, [10]), (15, [12, 14]), (12, [3]), (14, [11]), (3, [13]), (11, [13])]

example : (buildVariantGroups 64 2 exGraph [4, 15] [10, 13] 4).snpGroups =
      [((15, 13), [([71, 71, 65, 71, 67], [2, 2]), ([71, 71, 84, 71, 67], [2, 2])])] ∧
    (buildVariantGroups 64 2 exGraph [4, 15] [10, 13] 4).indelGroups =
      [((4, 10), [([67, 65, 67, 84, 84], [2, 2]), ([67, 65, 84, 84], [2, 1])])] := by decide +kernel

/-- `T17_lo_order`: a merged table of two samples (CACT and CAGT, k = 3) whose graph has the entry
node CA -/
def exArr : Arr :=
  { k := 3, rc := true, names := ["a", "b"], kmers := [2, 5, 7],
    variants := [[67, 71], [65, 45], [45, 65]], counts := [2, 1, 1], kBits := 64 }

example : identifyGoodKmers 64 2 (buildGraph 64 exArr).1 (buildGraph 64 exArr).2 = some ([4], [11]) := by
  decide

end SkaModel.Props.C17P
