/-
End-to-end statements about the MODELLED pipelines of ska.rust, composed from the
per-layer theorems (C01, C02, C03, C06, C07, C08, C10, C11, C13):

  FASTA records --buildDict--> per-sample dictionaries --buildAndMerge/ofDict--> array
     --merge / delete / weed--> array --align--> FASTA records

The hinge is `T_build_table`: the joint build of several samples denotes `Spec.specTable`, up to
row order. Through it the table-level results (C03, `T07_build`, `T08_build`) become statements
about what `align`, `merge` and `delete` return on built arrays. What is composed is the model
of each stage; reading and writing of files between the stages is not part of these statements.

Standing hypotheses: `ValidK k` (5 ≤ k ≤ 63 odd) and `WidthOk W k` (C16).
-/
import SkaModel.Lemmas.E2EMerge
import SkaModel.Props.C02
import SkaModel.Props.C03
import SkaModel.Props.C10

namespace SkaModel.Props.E2E

open SkaModel SkaModel.Spec SkaModel.Props.C16 SkaModel.E2E

/-! ## 1. invariance of the modelled build (C01 ∘ C02) -/

/-- `buildDict` depends on the records only through the function
`key ↦ maskFor k rc recs key`: equal base sets for every key give the same result (the same
key-sorted dictionary, or "no valid sequence" on both sides). -/
theorem T02_build (W k : Nat) (rc : Bool) (hk : ValidK k) (hw : WidthOk W k)
    (recs recs' : List (Array UInt8))
    (h : ∀ key, maskFor k rc recs' key = maskFor k rc recs key) :
    buildDict W k rc recs' = buildDict W k rc recs := by
  rw [C01.T01_build_eq_spec W k rc hk hw recs', C01.T01_build_eq_spec W k rc hk hw recs]
  have hc : observations k rc recs' = [] ↔ observations k rc recs = [] := by
    rw [C01.observations_nil_iff, C01.observations_nil_iff]
    constructor
    · intro h1 key; rw [← h key]; exact h1 key
    · intro h1 key; rw [h key]; exact h1 key
  by_cases h0 : observations k rc recs = []
  · rw [if_pos h0, if_pos (hc.2 h0)]
  · rw [if_neg h0, if_neg (fun e => h0 (hc.1 e)), specDict_congr k rc recs recs' h]

/-- the build does not depend on the order of the records -/
theorem T02_build_perm (W k : Nat) (rc : Bool) (hk : ValidK k) (hw : WidthOk W k)
    {recs recs' : List (Array UInt8)} (hp : recs.Perm recs') :
    buildDict W k rc recs' = buildDict W k rc recs :=
  T02_build W k rc hk hw recs recs' (fun key => (C02.T02_perm k rc hp key).symm)

/-- the build does not depend on letter case (one case mask per record) -/
theorem T02_build_case (W k : Nat) (rc : Bool) (hk : ValidK k) (hw : WidthOk W k)
    (recs : List (Array UInt8)) (ms : List (List Bool)) (hlen : ms.length = recs.length) :
    buildDict W k rc (List.zipWith applyCase ms recs) = buildDict W k rc recs :=
  T02_build W k rc hk hw recs _ (C02.T02_case k rc recs ms hlen)

/-- the build (both strands in use, input over A C G T N a c g t n) does not depend on the strand each record
is given on -/
theorem T02_build_revcomp (W k : Nat) (hk : ValidK k) (hw : WidthOk W k)
    (recs : List (Array UInt8)) (hd : C02.DnaInput recs) (sel : List Bool) :
    buildDict W k true
        (List.zipWith (fun b r => if b then revCompSeq r else r) sel recs ++ recs.drop sel.length)
      = buildDict W k true recs :=
  T02_build W k true hk hw recs _ (C02.T02_revcomp k hk.2.2 recs hd sel)

/-- all three at once: reorder the records, give any of them on the other strand, write any
letters in the other case -/
theorem T02_build_all (W k : Nat) (hk : ValidK k) (hw : WidthOk W k)
    (recs recs' recs'' : List (Array UInt8)) (hd : C02.DnaInput recs)
    (hv : Pointwise C02.StrandCaseVariant recs recs') (hp : recs'.Perm recs'') :
    buildDict W k true recs'' = buildDict W k true recs :=
  T02_build W k true hk hw recs recs'' (C02.T02 k hk.2.2 recs recs' recs'' hd hv hp)

/-! ## 2. weeding with a FASTA file (C01 ∘ C13) -/

/-- the weed k-mers `RefSka::new(..).kmer_iter()` lists for a FASTA file are
the keys of the specification's observations, in order -/
theorem T13_refKmers (W k : Nat) (rc : Bool) (hk : ValidK k) (hw : WidthOk W k)
    (recs : List (Array UInt8)) :
    Modes.refKmers W k rc recs = (observations k rc recs).map (·.1) := by
  unfold Modes.refKmers observations
  rw [List.map_flatMap]
  congr 1
  funext r
  have hiter := Props.C01.T01_iter W k rc hk hw r
  simp only at hiter
  have := congrArg (List.map (fun t : (Nat × Nat × Bool) × Nat × Bool => t.1.1)) hiter
  rw [List.map_map, List.map_map] at this
  rw [List.map_map]
  exact this

/-- weeding a well-formed array with a FASTA file is the table operation
"keep the rows whose key is a split k-mer of the weed sequences exactly when `rev`" -/
theorem T13_weed_fasta (W k : Nat) (rc : Bool) (hk : ValidK k) (hw : WidthOk W k)
    (a : Arr) (ha : a.WF) (recs : List (Array UInt8)) (rev : Bool) :
    (a.weed (Modes.refKmers W k rc recs) rev).abs
        = a.abs.weed ((observations k rc recs).map (·.1)) rev
    ∧ (a.weed (Modes.refKmers W k rc recs) rev).WF := by
  rw [T13_refKmers W k rc hk hw]
  exact ⟨(C13.T13_exact a ha _ rev).1, (C13.T13_exact a ha _ rev).2.1⟩

/-- the same, row by row: a row survives iff it was there and ("its key is a split k-mer of the
weed sequences" = `rev`) -/
theorem T13_weed_fasta_mem (W k : Nat) (rc : Bool) (hk : ValidK k) (hw : WidthOk W k)
    (a : Arr) (ha : a.WF) (recs : List (Array UInt8)) (rev : Bool) (r : Nat × List UInt8) :
    r ∈ (a.weed (Modes.refKmers W k rc recs) rev).abs.rows
      ↔ r ∈ a.abs.rows ∧ (decide (maskFor k rc recs r.1 ≠ 0) = rev) := by
  rw [(T13_weed_fasta W k rc hk hw a ha recs rev).1]
  unfold Table.weed Table.filterRows
  simp only [List.mem_filter]
  have hc : ((observations k rc recs).map (·.1)).contains r.1
      = decide (maskFor k rc recs r.1 ≠ 0) := by
    rw [Bool.eq_iff_iff, List.contains_iff_mem, decide_eq_true_iff,
      C01.maskFor_ne_zero_iff, List.mem_map]
  rw [hc, beq_iff_eq]

/-- the `weed` mode with a weed file, threshold 0 and default flags is this `weed` -/
theorem T13_weed_fasta_mode (W k : Nat) (rc : Bool) (hk : ValidK k) (hw : WidthOk W k)
    (a : Arr) (ha : a.WF) (recs : List (Array UInt8)) (rev famb : Bool) :
    (Modes.weed a (some (Modes.refKmers W k rc recs)) rev 0 famb .noFilter false false).abs
      = a.abs.weed ((observations k rc recs).map (·.1)) rev := by
  rw [(C13.T13_mode a _ rev famb).1]
  exact (T13_weed_fasta W k rc hk hw a ha recs rev).1

/-! ## 3. the joint build denotes `specTable` (C01 ∘ C11) -/

/-- `sds` are the per-sample dictionaries of `samples` (`BuiltFrom`: sample `i`
is `{ k, rc, idx := i, name := names[i], kmers := dᵢ }` with `buildDict W k rc samples[i] = .dict dᵢ`;
in particular no sample is empty of k-mers). For every thread count `build_and_merge` succeeds and
the array `MergeSkaArray::new` makes of it denotes, up to row order, the specification table
`specTable k rc names samples`; the array is well formed with cells `≥ '-'`. -/
theorem T_build_table (W k : Nat) (rc : Bool) (hk : ValidK k) (hw : WidthOk W k)
    (names : List String) (samples : List (List (Array UInt8))) (sds : List SampleDict)
    (hb : BuiltFrom W k rc names samples sds) (threads : Nat) :
    ∃ md, buildAndMerge k rc threads sds = .ok md
      ∧ (Arr.ofDict W md).abs.Equiv (specTable k rc names samples)
      ∧ (Arr.ofDict W md).WF ∧ (Arr.ofDict W md).CellsGE
      ∧ (Arr.ofDict W md).k = k ∧ (Arr.ofDict W md).rc = rc ∧ (Arr.ofDict W md).names = names := by
  have hs := hb.sliceWF hk hw
  have hne := hb.allNonempty hk hw
  obtain ⟨md, hmd, hrep⟩ := C11.buildAndMerge_rep hs hne threads
  obtain ⟨hnames, hcells, _⟩ := hrep.columns hs
  have hnames' : md.names = names := hnames.trans hb.names_eq
  have hwf : C11.MWF samples.length md := hb.lenS ▸ hrep.wf
  refine ⟨md, hmd, ⟨hnames', ?_⟩, ofDict_wf W md hrep.wf.toWF, ofDict_cellsGE W md, hrep.hk, hrep.hrc,
    hnames'⟩
  apply ofDict_rows_perm W md k rc names samples hwf
  · intro i hi key
    have hi' : i < sds.length := hb.lenS ▸ hi
    rw [hcells i hi' key, hb.lookup hk hw i hi' key]
  · intro key
    exact (hrep.keys key).trans (hb.mem_keys hk hw key)

/-- the same with the built samples computed from the inputs: every sample has at least one
split k-mer, as many names as samples -/
theorem T_build_table_fn (W k : Nat) (rc : Bool) (hk : ValidK k) (hw : WidthOk W k)
    (names : List String) (samples : List (List (Array UInt8)))
    (hlen : names.length = samples.length)
    (hne : ∀ recs ∈ samples, observations k rc recs ≠ []) (threads : Nat) :
    ∃ md, buildAndMerge k rc threads (builtSamples W k rc names samples) = .ok md
      ∧ (Arr.ofDict W md).abs.Equiv (specTable k rc names samples)
      ∧ (Arr.ofDict W md).WF ∧ (Arr.ofDict W md).CellsGE
      ∧ (Arr.ofDict W md).k = k ∧ (Arr.ofDict W md).rc = rc ∧ (Arr.ofDict W md).names = names :=
  T_build_table W k rc hk hw names samples _
    (builtSamples_builtFrom W k rc hk hw names samples hlen hne) threads

/-! ## 4. `ska align <fastas>` (… ∘ C06 ∘ C03) -/

/-- build the samples jointly, then `align`: one output record per sample,
named as the inputs in input order, and the sequence of sample `i` is cell `i` of every column of
a list `cols` that is a permutation of the columns the specification table emits
(`Table.alignColumns` of `specTable`). -/
theorem T03_pipeline (W k : Nat) (rc : Bool) (hk : ValidK k) (hw : WidthOk W k)
    (names : List String) (samples : List (List (Array UInt8))) (sds : List SampleDict)
    (hb : BuiltFrom W k rc names samples sds) (threads : Nat)
    (t : Nat) (ft : FilterType) (mask gaps famb : Bool) :
    ∃ (md : MDict) (cols : List (List UInt8)), buildAndMerge k rc threads sds = .ok md
      ∧ cols.Perm ((specTable k rc names samples).alignColumns t famb (toSite ft) mask gaps)
      ∧ Modes.align (Arr.ofDict W md) t ft mask gaps famb
          = names.zipIdx.map (fun ni => (ni.1, cols.map (fun col => col.getD ni.2 GAP)))
      ∧ (Modes.align (Arr.ofDict W md) t ft mask gaps famb).map (·.1) = names := by
  obtain ⟨md, hmd, heq, _, hc, _, _, hn⟩ := T_build_table W k rc hk hw names samples sds hb threads
  refine ⟨md, (Arr.ofDict W md).abs.alignColumns t famb (toSite ft) mask gaps, hmd,
    Hist.alignColumns_perm heq t famb (toSite ft) mask gaps, ?_, ?_⟩
  · rw [C06.T06_align (Arr.ofDict W md) hc t ft mask gaps famb, hn]
  · rw [C06.T06_align_names, hn]

open SkaModel.SNP in
/-- under the hypotheses of `C03.T03_align_single` (single-contig samples of equal
length over A, C, G, T, repeat-free on both strands, isolated substitutions), the modelled
pipeline `ska build` (any thread count) then `ska align --min-freq 1 --filter no-const` outputs
one record per sample whose sequences, read column by column, are a permutation of exactly the
planted variable-site columns. -/
theorem T03_final (W k L : Nat) (rc : Bool) (hk : ValidK k) (hw : WidthOk W k)
    (names : List String) (S : List (Array UInt8)) (sds : List SampleDict)
    (hb : BuiltFrom W k rc names (S.map fun s => [s]) sds) (threads : Nat)
    (hF : Family L S) (hR : RepeatFree k rc L S) (hI : Isolated k L S) :
    ∃ (md : MDict) (cols : List (List UInt8)), buildAndMerge k rc threads sds = .ok md
      ∧ cols.Perm ((varSites L S).map fun p =>
          S.map fun s => decodeBase (obs k rc s (p - (k - 1) / 2)).2.1)
      ∧ Modes.align (Arr.ofDict W md) S.length .noConst false false false
          = names.zipIdx.map (fun ni => (ni.1, cols.map (fun col => col.getD ni.2 GAP))) := by
  obtain ⟨md, cols, hmd, hp, hal, _⟩ := T03_pipeline W k rc hk hw names _ sds hb threads
    S.length .noConst false false false
  exact ⟨md, cols, hmd, hp.trans (C03.T03_align_single names hk.2.2 hF hR hI), hal⟩

/-! ## 5. merging = building together (… ∘ C07) -/

/-- at table level: the column concatenation of two joint-build tables is, up to
row order, the joint-build table of all samples (rows keyed by the union of the keys, cells
concatenated, gaps where a side lacks the key) -/
theorem T07_build (k : Nat) (rc : Bool) (namesA namesB : List String)
    (A B : List (List (Array UInt8))) (hA : namesA.length = A.length) (hB : namesB.length = B.length) :
    ((specTable k rc namesA A).concat (specTable k rc namesB B)).Equiv
      (specTable k rc (namesA ++ namesB) (A ++ B)) := by
  have hk : ∀ n S, (specTable k rc n S).keys.Nodup := fun n S => specTable_keys k rc n S ▸ allKeys_nodup k rc S
  refine Table.equiv_of_lookup rfl (Table.concat_keys_nodup _ _ (hk _ _) (hk _ _)) (hk _ _) fun key => ?_
  rw [Table.concat_lookup, specTable_rowOrGaps k rc namesA A hA, specTable_rowOrGaps k rc namesB B hB,
    specTable_lookupRow, specTable_keys, specTable_keys, cellRow_append]
  simp only [mem_allKeys_append]

/-- `ska merge` of the builds of `A` and of `B` succeeds and denotes, up to
row order, the same table as the build of `A ++ B` (any thread counts). -/
theorem T07_merge_eq_build (W k : Nat) (rc : Bool) (hk : ValidK k) (hw : WidthOk W k)
    (namesA namesB : List String) (A B : List (List (Array UInt8)))
    (sdsA sdsB sdsAB : List SampleDict)
    (hA : BuiltFrom W k rc namesA A sdsA) (hB : BuiltFrom W k rc namesB B sdsB)
    (hAB : BuiltFrom W k rc (namesA ++ namesB) (A ++ B) sdsAB) (tA tB tAB : Nat) :
    ∃ mdA mdB mdAB r, buildAndMerge k rc tA sdsA = .ok mdA ∧ buildAndMerge k rc tB sdsB = .ok mdB
      ∧ buildAndMerge k rc tAB sdsAB = .ok mdAB
      ∧ Modes.merge W (Arr.ofDict W mdA) [Arr.ofDict W mdB] = .ok r
      ∧ r.abs.Equiv (Arr.ofDict W mdAB).abs
      ∧ r.abs.Equiv (specTable k rc (namesA ++ namesB) (A ++ B)) := by
  obtain ⟨mdA, hmA, heA, hwA, hcA, hkA, hrA, _⟩ := T_build_table W k rc hk hw namesA A sdsA hA tA
  obtain ⟨mdB, hmB, heB, hwB, hcB, hkB, hrB, _⟩ := T_build_table W k rc hk hw namesB B sdsB hB tB
  obtain ⟨mdAB, hmAB, heAB, _⟩ := T_build_table W k rc hk hw _ _ sdsAB hAB tAB
  obtain ⟨r, hr, habs, _⟩ := C07.T07_merge W (Arr.ofDict W mdA) [Arr.ofDict W mdB] hwA hcA
    (List.forall_mem_singleton.2 ⟨hwB, hcB, hkB.trans hkA.symm, hrB.trans hrA.symm⟩)
  have hspec : r.abs.Equiv (specTable k rc (namesA ++ namesB) (A ++ B)) := by
    rw [habs]
    show ((Arr.ofDict W mdA).abs.concat (Arr.ofDict W mdB).abs).Equiv _
    exact Table.Equiv.trans
      (Hist.concat_equiv heA heB (Arr.abs_wf hwA).2 (Arr.abs_wf hwB).2)
      (T07_build k rc namesA namesB A B hA.lenN hB.lenN)
  exact ⟨mdA, mdB, mdAB, r, hmA, hmB, hmAB, hr, Table.Equiv.trans hspec (Table.Equiv.symm heAB), hspec⟩

/-! ## 6. deleting = building the rest (… ∘ C08) -/

/-- for distinct names: deleting samples from the joint-build table is, up to row
order, the joint-build table of the entries whose name is not requested -/
theorem T08_build (k : Nat) (rc : Bool) (names : List String)
    (samples : List (List (Array UInt8))) (del : List String)
    (hn : names.Nodup) (hlen : names.length = samples.length) :
    ((specTable k rc names samples).deleteSamples del).Equiv
      (specTable k rc (names.filter (fun n => !del.contains n))
        (((names.zip samples).filter (fun p => !del.contains p.1)).map (·.2))) := by
  have h := specTable_selectCols k rc names samples (Table.keepIdx names del)
  rwa [keepIdx_names names del hn, keepIdx_select names del hn samples [] hlen] at h

/-- the modelled `ska delete` on a joint build: whenever it returns, the
array it returns denotes, up to row order, the same table as the joint build of the remaining
samples (`sds'` = the built samples of the remaining entries; any thread counts). -/
theorem T08_delete_eq_build (W k : Nat) (rc : Bool) (hk : ValidK k) (hw : WidthOk W k)
    (names : List String) (samples : List (List (Array UInt8))) (sds sds' : List SampleDict)
    (del : List String) (hn : names.Nodup)
    (hb : BuiltFrom W k rc names samples sds)
    (hb' : BuiltFrom W k rc (names.filter (fun n => !del.contains n))
      (((names.zip samples).filter (fun p => !del.contains p.1)).map (·.2)) sds')
    (t t' : Nat) :
    ∃ md md', buildAndMerge k rc t sds = .ok md ∧ buildAndMerge k rc t' sds' = .ok md'
      ∧ ∀ a', Modes.delete (Arr.ofDict W md) del = some a' →
          a'.abs.Equiv (Arr.ofDict W md').abs
          ∧ a'.abs.Equiv (specTable k rc (names.filter (fun n => !del.contains n))
              (((names.zip samples).filter (fun p => !del.contains p.1)).map (·.2))) := by
  obtain ⟨md, hmd, he, _⟩ := T_build_table W k rc hk hw names samples sds hb t
  obtain ⟨md', hmd', he', _⟩ := T_build_table W k rc hk hw _ _ sds' hb' t'
  refine ⟨md, md', hmd, hmd', ?_⟩
  intro a' ha'
  have habs := (C08.T08_delete_abs (Arr.ofDict W md) a' del ha').1
  have hspec : a'.abs.Equiv (specTable k rc (names.filter (fun n => !del.contains n))
      (((names.zip samples).filter (fun p => !del.contains p.1)).map (·.2))) := by
    rw [habs]
    exact Table.Equiv.trans (Hist.deleteSamples_equiv he del) (T08_build k rc names samples del hn hb.lenN)
  exact ⟨Table.Equiv.trans hspec (Table.Equiv.symm he'), hspec⟩

/-! ## 7. the same with the built samples computed from the inputs, and C03 for several contigs -/

open SkaModel.SNP in
/-- under the hypotheses of `C03.T03_align` (samples derived from a common
repeat-free set of contigs by isolated substitutions; each sample of `T` presents the contigs of
the corresponding sample of `A` in any order, on either strand, in any letter case), the modelled
pipeline `ska build` (both strands, any thread count) then `ska align --min-freq 1 --filter
no-const` on the presented samples `T` outputs, up to column order, exactly one column per
variable site `(c, p)` of `A`. -/
theorem T03_final_contigs (W k m : Nat) (L : Nat → Nat) (hk : ValidK k) (hw : WidthOk W k)
    (names : List String) (A T : List (List (Array UInt8))) (sds : List SampleDict)
    (hb : BuiltFrom W k true names T sds) (threads : Nat)
    (hF : FamilyM m L A) (hR : RepeatFreeM k true m L A)
    (hI : ∀ c, c < m → Isolated k (L c) (contig A c)) (hT : Pointwise C03.Presents A T) :
    ∃ (md : MDict) (cols : List (List UInt8)), buildAndMerge k true threads sds = .ok md
      ∧ cols.Perm ((List.range m).flatMap fun c => (varSites (L c) (contig A c)).map fun p =>
          (contig A c).map fun s => decodeBase (obs k true s (p - (k - 1) / 2)).2.1)
      ∧ Modes.align (Arr.ofDict W md) T.length .noConst false false false
          = names.zipIdx.map (fun ni => (ni.1, cols.map (fun col => col.getD ni.2 GAP))) := by
  obtain ⟨md, cols, hmd, hp, hal, _⟩ := T03_pipeline W k true hk hw names T sds hb threads
    T.length .noConst false false false
  exact ⟨md, cols, hmd, hp.trans (C03.T03_align names hk.2.2 hF hR hI hT), hal⟩

/-- `T07_merge_eq_build` for the built samples computed from the inputs -/
theorem T07_merge_eq_build_fn (W k : Nat) (rc : Bool) (hk : ValidK k) (hw : WidthOk W k)
    (namesA namesB : List String) (A B : List (List (Array UInt8)))
    (hlA : namesA.length = A.length) (hlB : namesB.length = B.length)
    (hnA : ∀ recs ∈ A, observations k rc recs ≠ []) (hnB : ∀ recs ∈ B, observations k rc recs ≠ [])
    (tA tB tAB : Nat) :
    ∃ mdA mdB mdAB r, buildAndMerge k rc tA (builtSamples W k rc namesA A) = .ok mdA
      ∧ buildAndMerge k rc tB (builtSamples W k rc namesB B) = .ok mdB
      ∧ buildAndMerge k rc tAB (builtSamples W k rc (namesA ++ namesB) (A ++ B)) = .ok mdAB
      ∧ Modes.merge W (Arr.ofDict W mdA) [Arr.ofDict W mdB] = .ok r
      ∧ r.abs.Equiv (Arr.ofDict W mdAB).abs
      ∧ r.abs.Equiv (specTable k rc (namesA ++ namesB) (A ++ B)) :=
  T07_merge_eq_build W k rc hk hw namesA namesB A B _ _ _
    (builtSamples_builtFrom W k rc hk hw namesA A hlA hnA)
    (builtSamples_builtFrom W k rc hk hw namesB B hlB hnB)
    (builtSamples_builtFrom W k rc hk hw _ _ (by rw [List.length_append, List.length_append, hlA, hlB])
      (by
        intro recs hr
        rcases List.mem_append.1 hr with h | h
        · exact hnA recs h
        · exact hnB recs h))
    tA tB tAB

/-- `T08_delete_eq_build` for the built samples computed from the inputs, with the conditions
under which `ska delete` does return: some but not all names requested, all of them present -/
theorem T08_delete_eq_build_fn (W k : Nat) (rc : Bool) (hk : ValidK k) (hw : WidthOk W k)
    (names : List String) (samples : List (List (Array UInt8))) (del : List String)
    (hn : names.Nodup) (hlen : names.length = samples.length)
    (hne : ∀ recs ∈ samples, observations k rc recs ≠ [])
    (h1 : del ≠ []) (h2 : del.eraseDups.length ≠ names.length) (h3 : ∀ n ∈ del, n ∈ names) (t t' : Nat) :
    ∃ md md' a', buildAndMerge k rc t (builtSamples W k rc names samples) = .ok md
      ∧ buildAndMerge k rc t' (builtSamples W k rc (names.filter (fun n => !del.contains n))
          (((names.zip samples).filter (fun p => !del.contains p.1)).map (·.2))) = .ok md'
      ∧ Modes.delete (Arr.ofDict W md) del = some a'
      ∧ a'.abs.Equiv (Arr.ofDict W md').abs
      ∧ a'.names = names.filter (fun n => !del.contains n) := by
  have hb := builtSamples_builtFrom W k rc hk hw names samples hlen hne
  have hlen' : (names.filter (fun n => !del.contains n)).length
      = (((names.zip samples).filter (fun p => !del.contains p.1)).map (·.2)).length := by
    rw [← keepIdx_names names del hn, ← keepIdx_select names del hn samples [] hlen, List.length_map,
      List.length_map]
  have hne' : ∀ recs ∈ ((names.zip samples).filter (fun p => !del.contains p.1)).map (·.2),
      observations k rc recs ≠ [] := by
    intro recs hr
    obtain ⟨p, hp, rfl⟩ := List.mem_map.1 hr
    exact hne _ (List.of_mem_zip (List.mem_filter.1 hp).1).2
  have hb' := builtSamples_builtFrom W k rc hk hw _ _ hlen' hne'
  obtain ⟨md, md', hmd, hmd', hdel⟩ :=
    T08_delete_eq_build W k rc hk hw names samples _ _ del hn hb hb' t t'
  obtain ⟨md₂, hmd₂, _, hwf, _, _, _, hnames⟩ := T_build_table W k rc hk hw names samples _ hb t
  have hmm : md₂ = md := by
    rw [hmd] at hmd₂
    exact (Except.ok.inj hmd₂).symm
  subst hmm
  obtain ⟨a', ha', _, _, _, _, han, _⟩ := C08.T08_delete (Arr.ofDict W md₂) del hwf
    (by rw [hnames]; exact hn) h1 (by rw [hnames]; exact h2) (by rw [hnames]; exact h3)
  refine ⟨md₂, md', a', hmd, hmd', ha', (hdel a' ha').1, ?_⟩
  rw [han, hnames]

/-! ## Non-vacuity: the hypotheses of `T03_final` hold for the example of C03 (k = 5, three
samples, two isolated SNPs), for the built samples computed from the inputs -/

theorem validK5 : ValidK 5 := by unfold ValidK; decide +kernel
theorem widthOk5 : WidthOk 64 5 := Or.inl (by decide +kernel)

theorem exS_nonempty : ∀ recs ∈ C03.exS.map (fun s => [s]), observations 5 true recs ≠ [] := by
  decide +kernel

example (threads : Nat) :
    ∃ (md : MDict) (cols : List (List UInt8)),
      buildAndMerge 5 true threads
          (builtSamples 64 5 true ["a", "b", "c"] (C03.exS.map fun s => [s])) = .ok md
      ∧ cols.Perm ((SNP.varSites 13 C03.exS).map fun p =>
          C03.exS.map fun s => decodeBase (obs 5 true s (p - (5 - 1) / 2)).2.1)
      ∧ Modes.align (Arr.ofDict 64 md) C03.exS.length .noConst false false false
          = ["a", "b", "c"].zipIdx.map (fun ni => (ni.1, cols.map (fun col => col.getD ni.2 GAP))) :=
  T03_final 64 5 13 true validK5 widthOk5 ["a", "b", "c"] C03.exS _
    (builtSamples_builtFrom 64 5 true validK5 widthOk5 _ _ rfl exS_nonempty) threads
    C03.exS_hyps.1 C03.exS_hyps.2.1 C03.exS_hyps.2.2

end SkaModel.Props.E2E
