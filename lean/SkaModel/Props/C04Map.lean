/-
C04 — `ska map`: the mapped sequence of every sample is the position-wise
specification `Spec.mapSeq`, given the writer refinement (`WriterRefines`, proved
separately) as a hypothesis.

`T04_map` needs `GapSafe d` when both strands are used:
a dictionary byte `x ≠ '-'` with `RC_IUPAC[x] = '-'` (any byte that is not an IUPAC
letter, e.g. `E`) is a match for the specification but is skipped by the code.
-/
import SkaModel.Lemmas.RMSelf
import SkaModel.Lemmas.RMBridge

namespace SkaModel.Props.C04

open SkaModel SkaModel.Spec SkaModel.Props.C16 SkaModel.RM

/-- the writer refinement, proved separately (`T04_writer`) -/
def WriterRefines (k : Nat) : Prop :=
  ∀ (ref : List (Array UInt8)) (ms : List Spec.Match) (maskAmbig : Bool) (reps : List Nat),
    Spec.MatchesOK ref (halfK k) ms →
    (AlnWriter.finalise ref (halfK k) reps
      (ms.foldl (fun w m => AlnWriter.writeSplitKmer ref (halfK k) maskAmbig w m.2.1 m.1 m.2.2)
        (AlnWriter.new ref k))).toList
      = Spec.writerSpec ref (halfK k) maskAmbig reps ms

/-- `toUpper` of the implementation is `upperByte` of the specification -/
theorem toUpper_eq_upperByte : toUpper = upperByte := rfl

/-- **contigKmers_spec.** The reference k-mers of a contig are the observations of its windows. -/
theorem contigKmers_spec (W k : Nat) (rc : Bool) (hk : ValidK k) (hw : WidthOk W k)
    (chrom : Nat) (r : Array UInt8) :
    RefSka.contigKmers W k rc chrom r = (windows k r).map (fun j =>
      let o := obs k rc r j
      { kmer := o.1, base := o.2.1, pos := j + halfK k, chrom := chrom, rc := o.2.2 }) :=
  RM.contigKmers_spec W k rc hk hw chrom r

/-- **T04_new_none.** `RefSka::new` reports "no valid sequence" exactly when the reference has no window. -/
theorem T04_new_none (W k : Nat) (rc : Bool) (hk : ValidK k) (hw : WidthOk W k) (names : List String)
    (ref : List (Array UInt8)) (amask rmask : Bool) :
    RefSka.new W k rc names ref amask rmask = none ↔ refKeys k rc ref = [] := by
  rw [new_eq W k rc hk hw, ← kmersFrom_keys k rc 0 ref]
  cases kmersFrom k rc 0 ref with
  | nil => simp
  | cons a l => simp

/-- the fields of a successfully built reference -/
theorem T04_new_fields (W k : Nat) (rc : Bool) (hk : ValidK k) (hw : WidthOk W k) (names : List String)
    (ref : List (Array UInt8)) (amask rmask : Bool) (r : RefSka)
    (hnew : RefSka.new W k rc names ref amask rmask = some r) :
    r.k = k ∧ r.ambigMask = amask ∧ r.chromNames = names ∧
    r.seq = ref.map (fun c => c.map toUpper) ∧
    r.kmers.map (·.kmer) = refKeys k rc ref ∧
    r.kmers = ref.zipIdx.flatMap (fun ci => (windows k ci.1).map (fun j =>
      { kmer := (obs k rc ci.1 j).1, base := (obs k rc ci.1 j).2.1, pos := j + halfK k, chrom := ci.2,
        rc := (obs k rc ci.1 j).2.2 })) := by
  rw [new_some W k rc hk hw names ref amask rmask r hnew]
  exact ⟨rfl, rfl, rfl, rfl, kmersFrom_keys k rc 0 ref, rfl⟩

/-- what the writer receives for sample `s`: the non-gap cells of the mapped rows -/
def matchesOf (r : RefSka) (d : MDict) (s : Nat) : List Spec.Match :=
  (r.map d).filterMap (fun m =>
    let b := m.2.getD s GAP
    if b != GAP then some (m.1.1, m.1.2, b) else none)

theorem matchesOf_eq (r : RefSka) (d : MDict) (s : Nat) :
    matchesOf r d s = r.kmers.filterMap (matchOf d s) := by
  show (r.kmers.filterMap (mapOne d)).filterMap (cellOf s) = _
  rw [List.filterMap_filterMap]
  rfl

/-- **T04_matches_wf.** For every dictionary and sample, the matches the writer receives are
in contig order, strictly increasing in position within a contig, and each has its whole
window inside its contig (`Spec.MatchesOK` on the upper-cased reference the writer uses). -/
theorem T04_matches_wf (W k : Nat) (rc : Bool) (hk : ValidK k) (hw : WidthOk W k) (names : List String)
    (ref : List (Array UInt8)) (amask rmask : Bool) (r : RefSka)
    (hnew : RefSka.new W k rc names ref amask rmask = some r) (d : MDict) (s : Nat) :
    Spec.MatchesOK r.seq (halfK k) (matchesOf r d s) := by
  rw [matchesOf_eq, new_some W k rc hk hw names ref amask rmask r hnew]
  exact matches_ok k rc hk d s ref

/-- **T04_pseudo.** The sequence `pseudoalignment` returns for sample `s` is `finalise` after
folding `writeSplitKmer` over the match list (gap cells are skipped). -/
theorem T04_pseudo (r : RefSka) (d : MDict) (n s : Nat) (hs : s < n) :
    (r.pseudoalignment n (r.map d)).getD s #[] =
      AlnWriter.finalise r.seq (halfK r.k) r.repeatCoors
        ((matchesOf r d s).foldl
          (fun w m => AlnWriter.writeSplitKmer r.seq (halfK r.k) r.ambigMask w m.2.1 m.1 m.2.2)
          (AlnWriter.new r.seq r.k)) :=
  pseudoalignment_getD r n (r.map d) s hs

/-- **T04_repeatsOf.** `track_repeats` ends with exactly the keys seen at least twice, each once. -/
theorem T04_repeatsOf (ks : List Nat) :
    (∀ x, x ∈ RefSka.repeatsOf ks ↔ 2 ≤ (ks.filter (· == x)).length) ∧ (RefSka.repeatsOf ks).Nodup := by
  refine ⟨fun x => ?_, repeatsOf_nodup ks⟩
  rw [mem_repeatsOf, List.count_eq_length_filter]

/-- **T04_repeat.** With `repeat_mask`, the absolute index `q` is in `repeat_coors` iff it lies
within `h` of a repeat centre `p` of some contig `c` (on that contig: the range
`[p - h, p + h]` never leaves the contig, `T04_repeat_range`); the list is strictly
increasing, so it has no duplicates. -/
theorem T04_repeat (W k : Nat) (rc : Bool) (hk : ValidK k) (hw : WidthOk W k) (names : List String)
    (ref : List (Array UInt8)) (amask : Bool) (r : RefSka)
    (hnew : RefSka.new W k rc names ref amask true = some r) :
    (∀ q, q ∈ r.repeatCoors ↔
      ∃ c contig, ref[c]? = some contig ∧
        ∃ p ∈ repeatCentres k rc (refKeys k rc ref) contig,
          ∃ pos, within (halfK k) pos p = true ∧ q = contigOffset ref c + pos) ∧
    r.repeatCoors.Pairwise (· < ·) ∧ r.repeatCoors.Nodup := by
  rw [new_some W k rc hk hw names ref amask true r hnew]
  have hp := newReps_pairwise k rc hk ref true
  refine ⟨fun q => mem_newReps k rc hk ref q, hp, ?_⟩
  exact List.Pairwise.imp (fun {a b} (h : a < b) => Nat.ne_of_lt h) hp

/-- a repeat centre's range `[p - h, p + h]` lies inside its contig -/
theorem T04_repeat_range (k : Nat) (rc : Bool) (hk : ValidK k) (keys : List Nat) (c : Array UInt8) (p : Nat)
    (hp : p ∈ repeatCentres k rc keys c) : halfK k ≤ p ∧ p + halfK k < c.size :=
  repeatCentre_range k rc hk keys c p hp

/-- without `repeat_mask` there are no repeat coordinates -/
theorem T04_repeat_off (W k : Nat) (rc : Bool) (hk : ValidK k) (hw : WidthOk W k) (names : List String)
    (ref : List (Array UInt8)) (amask : Bool) (r : RefSka)
    (hnew : RefSka.new W k rc names ref amask false = some r) : r.repeatCoors = [] := by
  rw [new_some W k rc hk hw names ref amask false r hnew]
  rfl

/-- `RM.GapSafe d`: rows hold nothing that reverse-complements to a gap except the gap
itself (true for rows over `ACGTMRWSYKVHDBN`, either case, and `-`; not for `U`) -/
theorem gapSafe_iff (d : MDict) :
    GapSafe d ↔ ∀ kr ∈ d.kmers, ∀ x ∈ kr.2, rcIupacAt x = 45 → x = 45 := Iff.rfl

/-- **T04_map.** Given the writer refinement: for a reference that `RefSka::new` accepts
and any dictionary `d` (gap-safe when both strands are used), the mapped sequence of
sample `s` is `Spec.mapSeq`: the strand-corrected middle base where the reference split
k-mer centred there is in the sample, else the upper-case reference base within `h` of
a matched centre of the same contig, else `-`; with the ambiguity and repeat masks. -/
theorem T04_map (W k : Nat) (rc : Bool) (hk : ValidK k) (hw : WidthOk W k) (hwr : WriterRefines k)
    (names : List String) (ref : List (Array UInt8)) (amask rmask : Bool) (r : RefSka)
    (hnew : RefSka.new W k rc names ref amask rmask = some r)
    (d : MDict) (hgs : rc = true → GapSafe d) (n s : Nat) (hs : s < n) :
    ((r.pseudoalignment n (r.map d)).getD s #[]).toList
      = Spec.mapSeq k rc (fun key => Assoc.lookup d.kmers key) ref amask rmask s := by
  have hwf := T04_matches_wf W k rc hk hw names ref amask rmask r hnew d s
  rw [T04_pseudo r d n s hs]
  have hr := new_some W k rc hk hw names ref amask rmask r hnew
  have hk' : r.k = k := by rw [hr]
  rw [hk', hwr r.seq (matchesOf r d s) r.ambigMask r.repeatCoors hwf, matchesOf_eq, hr]
  exact seq_bridge k rc hk d hgs s ref amask rmask

/-- `T04_map` for forward-strand-only references needs no condition on the dictionary -/
theorem T04_map_fwd (W k : Nat) (hk : ValidK k) (hw : WidthOk W k) (hwr : WriterRefines k)
    (names : List String) (ref : List (Array UInt8)) (amask rmask : Bool) (r : RefSka)
    (hnew : RefSka.new W k false names ref amask rmask = some r)
    (d : MDict) (n s : Nat) (hs : s < n) :
    ((r.pseudoalignment n (r.map d)).getD s #[]).toList
      = Spec.mapSeq k false (fun key => Assoc.lookup d.kmers key) ref amask rmask s :=
  T04_map W k false hk hw hwr names ref amask rmask r hnew d (fun h => by cases h) n s hs

/-- **T04_self.** `RM.mapSeq_self` for the code, given the writer refinement. (A dictionary that
`ska build` makes from the reference satisfies `hdict` except at self-palindromic split
k-mers, where it stores the two-base code `W`/`S` instead of the base.) -/
theorem T04_self (W k : Nat) (rc : Bool) (hk : ValidK k) (hw : WidthOk W k) (hwr : WriterRefines k)
    (names : List String) (ref : List (Array UInt8)) (amask rmask : Bool) (r : RefSka)
    (hnew : RefSka.new W k rc names ref amask rmask = some r)
    (d : MDict) (hgs : rc = true → GapSafe d) (n s : Nat) (hs : s < n)
    (hacgt : ∀ c ∈ ref, ∀ i, i < c.size → IsACGT (c.getD i 0))
    (hlen : ∀ c ∈ ref, k ≤ c.size)
    (hnd : rmask = true → (refKeys k rc ref).Nodup)
    (hdict : ∀ c ∈ ref, ∀ j ∈ windows k c, ∃ row, Assoc.lookup d.kmers (obs k rc c j).1 = some row ∧
      row.getD s 45 = decodeBase (obs k rc c j).2.1) :
    ((r.pseudoalignment n (r.map d)).getD s #[]).toList = ref.flatMap (fun c => c.toList.map toUpper) := by
  rw [T04_map W k rc hk hw hwr names ref amask rmask r hnew d hgs n s hs]
  exact mapSeq_self k rc hk _ ref s amask rmask hacgt hlen hnd hdict

end SkaModel.Props.C04
