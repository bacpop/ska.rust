/-
C04 — Mapped alignment equals the union of matched k-mer windows on the reference.
Sizes of the writer's output buffer.
-/
import SkaModel.Lemmas.AWFolds
import SkaModel.Spec.MapSpec

namespace SkaModel.Props.C04

open SkaModel SkaModel.Spec

/-- `copyRef` leaves the length of the output buffer as it is -/
theorem copyRef_size (out contig : Array UInt8) (off start stop : Nat) :
    (AlnWriter.copyRef out contig off start stop).size = out.size :=
  AW.copyRef_size out contig off start stop

theorem T04_new_size (ref : List (Array UInt8)) (k : Nat) :
    (AlnWriter.new ref k).seqOut.size = (ref.map (·.size)).foldl (· + ·) 0 := by
  simp [AlnWriter.new]

end SkaModel.Props.C04
