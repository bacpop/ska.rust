/-
C03 (and every command that takes FASTA/FASTQ arguments): the sample name derived
from a file argument (`Impl/Names.lean`, the model of `read_input_fastas`, tied to
the code by the `names` operation) is the base name without its extension, for
every directory prefix, every stem and every case variant of the four
extensions; any other argument is its own name.
-/
import SkaModel.Lemmas.NamesLemmas
namespace SkaModel.Props.C03Names
open SkaModel.Names
open SkaModel.NamesLemmas

/-- `e'` is a case variant of one of the four extensions -/
def IsExt (e' : List Char) : Prop := e'.map fold ∈ exts

/-- a plain stem: non-empty, no directory separator, no line break -/
def PlainStem (stem : List Char) : Prop := stem ≠ [] ∧ '/' ∉ stem ∧ '\n' ∉ stem

/-- a file in a directory: the name is the stem, whatever the directory -/
theorem T03_name_path (dir stem e' : List Char) (hd : dir ≠ []) (hdn : '\n' ∉ dir)
    (hs : PlainStem stem) (he : IsExt e') :
    sampleName (dir ++ '/' :: (stem ++ '.' :: e')) = stem := by
  obtain ⟨hne, hsl, hnl⟩ := hs
  have h := sampleName_ext (dir ++ '/' :: stem) e' (by simp) he
    (by simp only [List.mem_append, List.mem_cons, not_or]; exact ⟨hdn, by decide, hnl⟩)
  have hl : (dir ++ '/' :: stem).length = dir.length + 1 + stem.length := by
    rw [List.length_append, List.length_cons]; omega
  rw [List.append_assoc, List.cons_append, hl, lastSlash_path dir stem ('.' :: e') hd hne hsl] at h
  rw [h]
  show (dir ++ '/' :: stem).drop (dir.length + 1) = stem
  rw [List.append_cons]
  exact List.drop_left' (by rw [List.length_append]; rfl)

/-- a file without directory part -/
theorem T03_name_plain (stem e' : List Char) (hs : PlainStem stem) (he : IsExt e') :
    sampleName (stem ++ '.' :: e') = stem := by
  obtain ⟨hne, hsl, hnl⟩ := hs
  rw [sampleName_ext stem e' hne he hnl, lastSlash_plain stem ('.' :: e') hsl]

/-- an argument that does not end in a known extension (after a non-empty stem) is its own name -/
theorem T03_name_other (s : List Char) (h : ∀ stem e', stem ≠ [] → IsExt e' → s ≠ stem ++ '.' :: e') :
    sampleName s = s := by
  unfold sampleName
  split
  · rfl
  · split
    · rfl
    · next e hm =>
      obtain ⟨stem, e', h1, h2, h3⟩ := matchExt_decomp s e hm
      exact absurd h3 (h stem e' h1 h2)

/-- distinct plain stems give distinct names: two inputs are never merged under one
name because of their directories or extensions -/
theorem T03_name_injective (d1 d2 s1 s2 e1 e2 : List Char) (h1 : d1 ≠ []) (h2 : d2 ≠ [])
    (n1 : '\n' ∉ d1) (n2 : '\n' ∉ d2) (p1 : PlainStem s1) (p2 : PlainStem s2) (x1 : IsExt e1) (x2 : IsExt e2)
    (h : sampleName (d1 ++ '/' :: (s1 ++ '.' :: e1)) = sampleName (d2 ++ '/' :: (s2 ++ '.' :: e2))) :
    s1 = s2 := by
  rw [T03_name_path d1 s1 e1 h1 n1 p1 x1, T03_name_path d2 s2 e2 h2 n2 p2 x2] at h
  exact h

/-- non-vacuity -/
example : sampleName "data/run1/GCF_000005845.2.FASTA".toList = "GCF_000005845.2".toList := by
  decide

end SkaModel.Props.C03Names
