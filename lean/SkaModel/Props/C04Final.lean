/-
C04 — the writer refinement (`T04_writer`) discharges the hypothesis `WriterRefines` of the
mapping theorem `T04_map`: `T04_map_final` is the statement of the property.
-/
import SkaModel.Props.C04Writer
import SkaModel.Props.C04Map

namespace SkaModel.Props.C04

open SkaModel SkaModel.Spec SkaModel.Props.C16

theorem writerRefines (k : Nat) (hk : ValidK k) : WriterRefines k := by
  intro ref ms maskAmbig reps hok
  have h1 : 1 ≤ halfK k := by
    obtain ⟨h5, _, _⟩ := hk
    unfold halfK; omega
  exact T04_writer ref k h1 ms hok maskAmbig reps

/-- **C04.** For every reference that `RefSka::new` accepts (one with a split k-mer), every valid k,
both widths, both strand modes, both masks and every sample dictionary over stored symbols (`GapSafe`,
needed with both strands only): the sequence `ska map` writes for
sample `s` is, position by position, the sample's strand-corrected middle base where the
reference split k-mer centred there is present in the sample, otherwise the upper-case
reference base within (k-1)/2 of a matched centre on the same contig, otherwise '-';
ambiguous middle bases become N under `--ambig-mask`; non-gap positions within (k-1)/2 of
the centre of a repeated reference split k-mer become N under `--repeat-mask`. -/
theorem T04_map_final (W k : Nat) (rc : Bool) (hk : ValidK k) (hw : WidthOk W k)
    (names : List String) (ref : List (Array UInt8)) (amask rmask : Bool) (r : RefSka)
    (hnew : RefSka.new W k rc names ref amask rmask = some r) (d : MDict)
    (hgs : rc = true → RM.GapSafe d) (n s : Nat) (hs : s < n) :
    ((r.pseudoalignment n (r.map d)).getD s #[]).toList
      = Spec.mapSeq k rc (fun key => Assoc.lookup d.kmers key) ref amask rmask s :=
  T04_map W k rc hk hw (writerRefines k hk) names ref amask rmask r hnew d hgs n s hs

end SkaModel.Props.C04
