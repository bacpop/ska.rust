/-
C16 — the rolling split k-mer state machine keeps its packed fields equal to the
packing of the current window, and what it reports is the specification's
observation of that window.
-/
import SkaModel.Props.C16
import SkaModel.Props.C16Bits
import SkaModel.Props.C01Iter
import SkaModel.Lemmas.Roll
import SkaModel.Lemmas.Windows
import SkaModel.Lemmas.SplitKmerCases

namespace SkaModel.Props.C16

open SkaModel SkaModel.Spec

/-- codes of the upper / lower arm and the middle base of the window starting at j -/
def armU (c : SKConf) (j : Nat) : List Nat :=
  (List.range (halfK c.k)).map (fun t => code (c.seq.getD (j + t) 0))
def armL (c : SKConf) (j : Nat) : List Nat :=
  (List.range (halfK c.k)).map (fun t => code (c.seq.getD (j + halfK c.k + 1 + t) 0))
def midB (c : SKConf) (j : Nat) : Nat := code (c.seq.getD (j + halfK c.k) 0)

structure FieldsOk (c : SKConf) (s : SKState) (j : Nat) : Prop where
  index : s.index = j + c.k - 1
  upper : s.upper = Spec.packL (armU c j) * 4 ^ halfK c.k
  lower : s.lower = Spec.packL (armL c j)
  mid   : s.mid = midB c j
  rcU   : c.rc = true → s.rcUpper = Spec.packL (Spec.rcCodes (armL c j)) * 4 ^ halfK c.k
  rcL   : c.rc = true → s.rcLower = Spec.packL (Spec.rcCodes (armU c j))
  rcM   : c.rc = true → s.rcMid = midB c j ^^^ 2

theorem armU_eq (c : SKConf) (j : Nat) : armU c j = codesAt c.seq j (halfK c.k) := rfl
theorem armL_eq (c : SKConf) (j : Nat) :
    armL c j = codesAt c.seq (j + halfK c.k + 1) (halfK c.k) := rfl

/-- the accumulators of `build`'s inner loop hold the partial packing of
positions `idx .. idx + i - 1` of a window starting at `idx` -/
structure BuildInv (c : SKConf) (idx i u l m : Nat) : Prop where
  le : i ≤ c.k
  upper : u = packL (codesAt c.seq idx (min i (halfK c.k))) * 4 ^ halfK c.k
  lower : l = packL (codesAt c.seq (idx + halfK c.k + 1) (i - (halfK c.k + 1)))
  mid : halfK c.k < i → m = code (c.seq.getD (idx + halfK c.k) 0)

theorem BuildInv.zero (c : SKConf) (idx : Nat) : BuildInv c idx 0 0 0 0 := by
  refine ⟨Nat.zero_le _, ?_, ?_, fun h => absurd h (Nat.not_lt_zero _)⟩
  · simp [codesAt_zero, packL]
  · simp [codesAt_zero, packL]

/-! `BuildInv` read in the two phases of the loop, with `min` and the truncated subtraction gone:
while the upper arm is filled (`i ≤ h`), and from the middle base on (`i = h + t + 1`). -/

theorem buildInv_upper {c : SKConf} {idx i u l m : Nat} (hkh : c.k = 2 * halfK c.k + 1)
    (hi : i ≤ halfK c.k) :
    BuildInv c idx i u l m ↔ u = packL (codesAt c.seq idx i) * 4 ^ halfK c.k ∧ l = 0 := by
  have e : i - (halfK c.k + 1) = 0 := Nat.sub_eq_zero_of_le (Nat.le_succ_of_le hi)
  constructor
  · rintro ⟨_, hu, hl, _⟩
    rw [Nat.min_eq_left hi] at hu
    rw [e] at hl
    exact ⟨hu, hl⟩
  · rintro ⟨hu, hl⟩
    refine ⟨by omega, ?_, ?_, fun h => absurd h (Nat.not_lt.2 hi)⟩
    · rw [Nat.min_eq_left hi]; exact hu
    · rw [e]; exact hl

theorem buildInv_lower {c : SKConf} {idx t u l m : Nat} :
    BuildInv c idx (halfK c.k + t + 1) u l m ↔ halfK c.k + t + 1 ≤ c.k ∧
      u = packL (armU c idx) * 4 ^ halfK c.k ∧
      l = packL (codesAt c.seq (idx + halfK c.k + 1) t) ∧ m = midB c idx := by
  have hle : halfK c.k ≤ halfK c.k + t + 1 := Nat.le_succ_of_le (Nat.le_add_right _ _)
  have e : halfK c.k + t + 1 - (halfK c.k + 1) = t := by
    rw [Nat.add_right_comm, Nat.add_sub_cancel_left]
  constructor
  · rintro ⟨hik, hu, hl, hm⟩
    rw [Nat.min_eq_right hle] at hu
    rw [e] at hl
    exact ⟨hik, hu, hl, hm (Nat.lt_succ_of_le (Nat.le_add_right _ _))⟩
  · rintro ⟨hik, hu, hl, hm⟩
    refine ⟨hik, ?_, ?_, fun _ => hm⟩
    · rw [Nat.min_eq_right hle]; exact hu
    · rw [e]; exact hl

theorem buildLoop_fields (c : SKConf) (hk : ValidK c.k) (hw : WidthOk c.W c.k)
    (idx i u l m st u' l' m' : Nat) (hinv : BuildInv c idx i u l m)
    (h : c.buildLoop idx i u l m = some (st, u', l', m')) :
    u' = packL (armU c st) * 4 ^ halfK c.k ∧ l' = packL (armL c st) ∧ m' = midB c st := by
  obtain ⟨hh2, hkh, hkW⟩ := validK_bounds hk hw
  have hmid := Lemmas.midIdx_eq hkh
  fun_induction SKConf.buildLoop c idx i u l m
  case case1 idx i u l m hik hok nb hgt ih =>
    rw [hmid] at hgt
    obtain ⟨t, rfl⟩ := Nat.exists_eq_add_of_lt hgt
    obtain ⟨_, hu, hl, hm⟩ := buildInv_lower.1 hinv
    refine ih ((buildInv_lower (t := t + 1)).2 ⟨hik, hu, ?_, hm⟩) h
    rw [hl, shl_packL_or (codesAt_codes _ _ _) (code_lt _) (by rw [codesAt_length]; omega),
      codesAt_succ_snoc, Nat.add_assoc idx, Nat.add_assoc idx, Nat.add_right_comm _ 1 t]
  case case2 idx i u l m hik hok nb hngt hlt ih =>
    rw [hmid] at hlt
    obtain ⟨hu, hl⟩ := (buildInv_upper hkh (Nat.le_of_lt hlt)).1 hinv
    refine ih ((buildInv_upper hkh hlt).2 ⟨?_, hl⟩) h
    rw [hu, hmid, shl_packL_or_scaled (codesAt_codes _ _ _) (code_lt _)
      (by rw [codesAt_length]; omega), codesAt_succ_snoc]
  case case3 idx i u l m hik hok nb hngt hnlt ih =>
    rw [hmid] at hngt hnlt
    obtain rfl := Nat.le_antisymm (Nat.not_lt.1 hngt) (Nat.not_lt.1 hnlt)
    obtain ⟨hu, hl⟩ := (buildInv_upper hkh (Nat.le_refl _)).1 hinv
    exact ih ((buildInv_lower (t := 0)).2 ⟨hik, hu, hl, rfl⟩) h
  case case4 => cases h
  case case5 idx i u l m hik hok hnot ih => exact ih (BuildInv.zero c _) h
  case case6 idx i u l m hik =>
    cases h
    obtain rfl : i = halfK c.k + halfK c.k + 1 := by have := hinv.le; omega
    obtain ⟨_, hu, hl, hm⟩ := buildInv_lower.1 hinv
    exact ⟨hu, hl, hm⟩

theorem armU_length (c : SKConf) (j : Nat) : (armU c j).length = halfK c.k := codesAt_length _ _ _
theorem armL_length (c : SKConf) (j : Nat) : (armL c j).length = halfK c.k := codesAt_length _ _ _
theorem armU_codes (c : SKConf) (j : Nat) : Codes (armU c j) := codesAt_codes _ _ _
theorem armL_codes (c : SKConf) (j : Nat) : Codes (armL c j) := codesAt_codes _ _ _
theorem midB_lt (c : SKConf) (j : Nat) : midB c j < 4 := code_lt _

theorem ValidK.pos {k : Nat} (hk : ValidK k) : 0 < k :=
  Nat.lt_of_lt_of_le (by decide) hk.1

theorem FieldsOk.next {c : SKConf} {s : SKState} {j : Nat} (hf : FieldsOk c s j) (hk : 0 < c.k) :
    s.index + 1 = j + c.k :=
  (last_iff hk).1 hf.index

theorem fresh_spec (c : SKConf) (hk : ValidK c.k) (hw : WidthOk c.W c.k) {idx : Nat} {b : Bool}
    {r : Nat × Nat × Nat × Nat × Option NtHash} {s : SKState}
    (hb : c.build idx b = some r) (hfr : Lemmas.Fresh c r s) :
    FieldsOk c s (s.index + 1 - c.k) := by
  obtain ⟨ix, u, l, m, hg⟩ := r
  obtain ⟨hfit, st, hloop, hix, _⟩ := Lemmas.build_some hb
  obtain ⟨h1, h2, h3⟩ := buildLoop_fields c hk hw idx 0 0 0 0 st u l m (BuildInv.zero c idx) hloop
  obtain ⟨hh2, hkh, hkW⟩ := validK_bounds hk hw
  obtain ⟨hlo, hup⟩ := T16_masks c.W c.k hk hw
  have hk1 : c.k - 1 = 2 * halfK c.k := Nat.sub_eq_of_eq_add hkh
  have hhW : 2 * halfK c.k ≤ c.W / 2 := by omega
  have hu : s.upper = packL (armU c st) * 4 ^ halfK c.k := hfr.upper.trans h1
  have hl : s.lower = packL (armL c st) := hfr.lower.trans h2
  have hm : s.mid = midB c st := hfr.mid.trans h3
  rw [start_of_last ((last_iff hk.pos).1 (hfr.index.trans hix))]
  refine ⟨hfr.index.trans hix, hu, hl, hm, fun hrc => ?_, fun hrc => ?_, fun hrc => ?_⟩
  · rw [hfr.rcUpper hrc, hup, hk1, hl]
    exact updateRc_upper c.W _ (widthOk_cases hw) _ (armL_codes c st) (armL_length c st) hhW
  · rw [hfr.rcLower hrc, hlo, hk1, hu]
    exact updateRc_lower c.W _ (widthOk_cases hw) _ (armU_codes c st) (armU_length c st) hhW
  · rw [hfr.rcMid hrc, hm]
    rfl

theorem new_fields (c : SKConf) (hk : ValidK c.k) (hw : WidthOk c.W c.k) (s : SKState)
    (h : c.new = some s) : FieldsOk c s (s.index + 1 - c.k) := by
  obtain ⟨r, hb, hfr⟩ := Lemmas.new_some h
  exact fresh_spec c hk hw hb hfr

/-- consecutive windows, upper arm: it drops its first base and takes the middle base; `A` is
what the arm of the window at `j` and that of the window at `j + 1` share -/
theorem armU_slide (c : SKConf) (j : Nat) (hh : 1 ≤ halfK c.k) :
    ∃ A, Codes A ∧ A.length + 1 = halfK c.k ∧
      armU c j = code (c.seq.getD j 0) :: A ∧ armU c (j + 1) = A ++ [midB c j] := by
  obtain ⟨n, hn⟩ := Nat.exists_eq_add_of_le' hh
  unfold midB
  rw [armU_eq, armU_eq, hn]
  refine ⟨codesAt c.seq (j + 1) n, codesAt_codes _ _ _, by rw [codesAt_length],
    codesAt_succ_cons _ _ _, ?_⟩
  rw [codesAt_succ_snoc, Nat.add_right_comm j 1 n]
  rfl

/-- lower arm: it drops the next middle base and takes the base after the window -/
theorem armL_slide (c : SKConf) (j : Nat) (hh : 1 ≤ halfK c.k) (hkh : c.k = 2 * halfK c.k + 1) :
    ∃ L, Codes L ∧ L.length + 1 = halfK c.k ∧
      armL c j = midB c (j + 1) :: L ∧ armL c (j + 1) = L ++ [code (c.seq.getD (j + c.k) 0)] := by
  obtain ⟨n, hn⟩ := Nat.exists_eq_add_of_le' hh
  unfold midB
  rw [armL_eq, armL_eq]
  rw [hn] at hkh ⊢
  rw [hkh]
  refine ⟨codesAt c.seq (j + 1 + (n + 1) + 1) n, codesAt_codes _ _ _, by rw [codesAt_length],
    ?_, ?_⟩
  · rw [codesAt_succ_cons, Nat.add_right_comm j 1 (n + 1)]
  · rw [codesAt_succ_snoc]
    congr 4
    omega

theorem step_fields (c : SKConf) (hk : ValidK c.k) (hw : WidthOk c.W c.k) {s s' : SKState}
    {j : Nat} (hf : FieldsOk c s j) (hst : Lemmas.Step c s s') : FieldsOk c s' (j + 1) := by
  obtain ⟨hh2, hkh, hkW⟩ := validK_bounds hk hw
  obtain ⟨hlo, hup⟩ := T16_masks c.W c.k hk hw
  obtain ⟨A, hA, hAl, hU, hU'⟩ := armU_slide c j (Nat.le_of_succ_le hh2)
  obtain ⟨L, hL, hLl, hL0, hL'⟩ := armL_slide c j (Nat.le_of_succ_le hh2) hkh
  have hnew : s.index + 1 = j + c.k := (last_iff hk.pos).1 hf.index
  rw [hkh] at hkW
  have hmid : s'.mid = midB c (j + 1) := by
    rw [hst.mid, hf.lower, hL0]
    exact roll_mid _ _ _ (midB_lt c _) hL hLl
  refine ⟨(last_iff hk.pos).2 (by rw [hst.index, hnew, Nat.add_right_comm]), ?_, ?_, hmid,
    fun hrc => ?_, fun hrc => ?_, fun hrc => ?_⟩
  · rw [hst.upper, hup, hf.upper, hf.mid, hU, hU']
    exact roll_upper c.W _ _ _ _ (code_lt _) hA (midB_lt c j) hAl hkW
  · rw [hst.lower, hlo, hf.lower, hnew, hL0, hL']
    exact roll_lower c.W _ _ _ _ (midB_lt c _) hL (code_lt _) hLl hkW
  · rw [hst.rcUpper hrc, hup, hf.rcU hrc, hnew, hL0, hL']
    exact roll_rcUpper c.W _ _ _ _ (midB_lt c _) hL (code_lt _) hLl hkW
  · rw [hst.rcLower hrc, hlo, hf.rcL hrc, hf.rcM hrc, hU, hU']
    exact roll_rcLower c.W _ _ _ _ (code_lt _) hA (midB_lt c j) hAl hkW
  · rw [hst.rcMid hrc, hmid]; rfl

theorem rollFwd_spec (c : SKConf) (hk : ValidK c.k) (hw : WidthOk c.W c.k) (s s' : SKState)
    (j : Nat) (hf : FieldsOk c s j) (h : c.rollFwd s = some s') :
    FieldsOk c s' (s'.index + 1 - c.k) ∧
      (c.okAt (s.index + 1) = true → s'.index = s.index + 1) := by
  obtain ⟨hlt, ⟨hbad, r, hb, hfr⟩ | ⟨_, hst⟩⟩ := Lemmas.rollFwd_some h
  · exact ⟨fresh_spec c hk hw hb hfr, fun hok => by rw [hbad] at hok; cases hok⟩
  · have hf' := step_fields c hk hw hf hst
    rw [start_of_last (hf'.next hk.pos)]
    exact ⟨hf', fun _ => hst.index⟩

theorem rollFwd_fields (c : SKConf) (hk : ValidK c.k) (hw : WidthOk c.W c.k) (s s' : SKState)
    (j : Nat) (hf : FieldsOk c s j) (_hfit : j + c.k ≤ c.seqLen) (h : c.rollFwd s = some s') :
    FieldsOk c s' (s'.index + 1 - c.k) :=
  (rollFwd_spec c hk hw s s' j hf h).1

theorem rollFwd_index (c : SKConf) (hk : ValidK c.k) (hw : WidthOk c.W c.k) (s s' : SKState)
    (j : Nat) (hf : FieldsOk c s j) (h : c.rollFwd s = some s')
    (hok : c.okAt (s.index + 1) = true) : s'.index = s.index + 1 ∧ s'.index + 1 - c.k = j + 1 := by
  have h1 := (rollFwd_spec c hk hw s s' j hf h).2 hok
  exact ⟨h1, by rw [h1, hf.next hk.pos, Nat.add_right_comm, Nat.add_sub_cancel]⟩

theorem rollFwd_fits (c : SKConf) (hk : ValidK c.k) (hw : WidthOk c.W c.k) (s s' : SKState)
    (j : Nat) (hf : FieldsOk c s j) (h : c.rollFwd s = some s') :
    c.k ≤ s'.index + 1 ∧ s'.index < c.seqLen := by
  obtain ⟨hlt, ⟨_, r, hb, hfr⟩ | ⟨_, hst⟩⟩ := Lemmas.rollFwd_some h
  · -- restart: the window `build` completed is valid, so it fits
    obtain ⟨st, hst, _, hv, _⟩ := C01.build_some_least c hk.pos hb
    have hfit := ((validStart_iff _ _ _ _).1 hv).1
    rw [← hst] at hfit
    rw [hfr.index]
    exact ⟨hst ▸ Nat.le_add_left _ _, hfit⟩
  · exact ⟨(step_fields c hk hw hf hst).next hk.pos ▸ Nat.le_add_left _ _, hst.index ▸ hlt⟩

theorem T16_roll (c : SKConf) (hk : ValidK c.k) (hw : WidthOk c.W c.k) :
    ∀ s ∈ c.states, FieldsOk c s (s.index + 1 - c.k) :=
  Lemmas.states_induction c (fun s => FieldsOk c s (s.index + 1 - c.k)) (new_fields c hk hw)
    (fun s s' hs h => (rollFwd_spec c hk hw s s' _ hs h).1)

theorem armsAt_eq (c : SKConf) (j : Nat) : armsAt c.k c.seq j = armU c j ++ armL c j := rfl

theorem midAt_eq (c : SKConf) (j : Nat) : midAt c.k c.seq j = midB c j := rfl

/-- what a state with the right fields reports is the specification's observation
of its window (only `k` odd is needed here) -/
theorem currKmer_obs_of_odd (c : SKConf) (s : SKState) (j : Nat)
    (hkh : c.k = 2 * halfK c.k + 1) (hf : FieldsOk c s j) :
    c.currKmer s = Spec.obs c.k c.rc c.seq j ∧
    c.selfPalindrome s = Spec.isPalin c.k c.rc c.seq j ∧
    c.middlePos s = j + halfK c.k := by
  have hsk : s.upper ||| s.lower = packL (armsAt c.k c.seq j) := by
    rw [hf.upper, hf.lower, armsAt_eq, packL_append, armL_length]
    exact mul_four_pow_or (packL_codesAt_lt _ _ _)
  have hrUlt : packL (rcCodes (armU c j)) < 4 ^ halfK c.k :=
    packL_lt_of_length (rcCodes_codes (armU_codes c j)) (by rw [rcCodes_length, armU_length])
  have hLlt : packL (armL c j) < 4 ^ halfK c.k := packL_codesAt_lt _ _ _
  have hrsk : c.rc = true → s.rcUpper ||| s.rcLower = packL (rcCodes (armsAt c.k c.seq j)) := by
    intro hrc
    rw [hf.rcU hrc, hf.rcL hrc, armsAt_eq, rcCodes_append, packL_append, rcCodes_length,
      armU_length]
    exact mul_four_pow_or hrUlt
  refine ⟨?_, ?_, ?_⟩
  · unfold SKConf.currKmer Spec.obs
    simp only
    rw [hsk, midAt_eq]
    by_cases hrc : c.rc = true
    · rw [if_pos hrc, hrsk hrc, hf.rcM hrc, hf.mid, hrc, Bool.true_and]
      by_cases hgt : packL (armsAt c.k c.seq j) > packL (rcCodes (armsAt c.k c.seq j))
      · rw [if_pos hgt, if_pos (by simpa using hgt)]
      · rw [if_neg hgt, if_neg (by simpa using hgt)]
    · have hrc' : c.rc = false := by simpa using hrc
      rw [if_neg hrc, hrc', hf.mid]
      simp
  · unfold SKConf.selfPalindrome Spec.isPalin
    simp only
    by_cases hrc : c.rc = true
    · rw [hrc, Bool.true_and, Bool.true_and, hf.upper, hf.lower, hf.rcU hrc, hf.rcL hrc, armsAt_eq,
        rcCodes_append, packL_append, packL_append, rcCodes_length, armU_length, armL_length]
      rw [Bool.eq_iff_iff]
      simp only [Bool.and_eq_true, beq_iff_eq]
      constructor
      · rintro ⟨h1, h2⟩; rw [h1, h2]
      · intro h
        obtain ⟨e1, e2⟩ := mul_add_inj hLlt hrUlt h
        exact ⟨by rw [e1], e2⟩
    · have hrc' : c.rc = false := by simpa using hrc
      rw [hrc']; simp
  · unfold SKConf.middlePos
    rw [Lemmas.midIdx_eq hkh]
    exact mid_of_last (hkh ▸ hf.index)

/-- every state of the iterator reports the specification's observation of the
window ending at its `index` -/
theorem T16_states_obs (c : SKConf) (hk : ValidK c.k) (hw : WidthOk c.W c.k) :
    ∀ s ∈ c.states,
      c.currKmer s = Spec.obs c.k c.rc c.seq (s.index + 1 - c.k) ∧
      c.selfPalindrome s = Spec.isPalin c.k c.rc c.seq (s.index + 1 - c.k) ∧
      c.middlePos s = s.index + 1 - c.k + halfK c.k :=
  fun s hs => currKmer_obs_of_odd c s _ (validK_bounds hk hw).2.1 (T16_roll c hk hw s hs)

end SkaModel.Props.C16
