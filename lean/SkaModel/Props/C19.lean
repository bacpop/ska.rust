/-
C19 — a damaged .skf: a proper prefix is rejected or (when the cut-off tail
carries no data) read as exactly the original content; single-bit flips in the
stream identifier, in a checksum field or in uncompressed data are rejected (a
flip in the type byte of a data chunk escapes the frame layer: last section below).

The frame decoder `unframe` is treated for an arbitrary block decompressor
`decomp`.
-/
import SkaModel.Impl.Skf
import SkaModel.Impl.Frame
import SkaModel.Lemmas.FrameFlip

namespace SkaModel.Props.C19

open SkaModel SkaModel.FR

/-- the frame layer does not reject an empty file: it yields no bytes -/
theorem unframe_nil (d : List UInt8 → Option (List UInt8)) : unframe d [] = .ok [] := by
  simp [unframe, unframeFrom]

/-- a stream of at least four bytes whose first byte is not 0xFF, the type of the stream identifier
chunk, is rejected -/
theorem T19_first_chunk (d : List UInt8 → Option (List UInt8)) (b0 b1 b2 b3 : UInt8) (rest : List UInt8)
    (h : b0 ≠ 0xFF) : unframe d (b0 :: b1 :: b2 :: b3 :: rest) = .error .streamHeader := by
  have h' : (b0.toNat != 255) = true := by
    simp only [bne_iff_ne, ne_eq]
    intro hc
    exact h (UInt8.toNat_inj.mp (by simpa using hc))
  simp [unframe, unframeFrom, h']

/-- reading a file: un-frame, then CBOR-decode at integer width `W` -/
def load (decomp : List UInt8 → Option (List UInt8)) (W : Nat) (file : List UInt8) : Option SkfFile :=
  match unframe decomp file with
  | .ok bytes => (SkfFile.decode W bytes).map (·.1)
  | .error _ => none

theorem load_of_error {decomp : List UInt8 → Option (List UInt8)} {file : List UInt8} {e : FrameErr}
    (h : unframe decomp file = .error e) (W : Nat) : load decomp W file = none := by
  unfold load; rw [h]

theorem load_of_ok {decomp : List UInt8 → Option (List UInt8)} {file bytes : List UInt8}
    (h : unframe decomp file = .ok bytes) (W : Nat) :
    load decomp W file = (SkfFile.decode W bytes).map (·.1) := by
  unfold load; rw [h]

/-- the fuel `file.length + 1` of `unframe` is never exhausted: any larger fuel gives the same result -/
theorem unframe_fuel_irrelevant (decomp : List UInt8 → Option (List UInt8)) (file : List UInt8)
    (fuel : Nat) (h : file.length < fuel) : unframeFrom decomp fuel false file [] = unframe decomp file :=
  unframeFrom_fuel decomp _ _ _ _ _ h (Nat.lt_succ_self _)

/-! `FR.Chunk` = `raw data | comp cdata out | skip ty body | ident`; `FR.render` concatenates the
chunk bytes (header, masked CRC-32C of the uncompressed data, body); `FR.payload` concatenates
the data; `Chunk.Valid decomp` = sizes within the limits, `decomp cdata = some out`. -/

/-- the decoder on the stream identifier followed by valid chunks yields their payload -/
theorem unframe_append_structure (decomp : List UInt8 → Option (List UInt8)) (cs : List Chunk)
    (hv : ∀ c ∈ cs, c.Valid decomp) :
    unframe decomp (IDENT ++ render cs) = .ok (payload cs) :=
  unframe_stream decomp cs hv

/-- … and continues with whatever follows, with the payload as accumulator -/
theorem unframe_append_structure_tail (decomp : List UInt8 → Option (List UInt8)) (cs : List Chunk)
    (hv : ∀ c ∈ cs, c.Valid decomp) (t : List UInt8) :
    unframe decomp (IDENT ++ (render cs ++ t)) =
      unframeFrom decomp (t.length + 1) true t (payload cs) :=
  unframe_chunks decomp cs hv t

/-- A prefix `p` of an accepted stream `p ++ t`: the decoder reports `eof` (cut inside a
chunk), or the cut is at a chunk boundary and it returns the bytes `b1` of the chunks in `p`,
where the accepted stream's bytes are `b1 ++ b2` and `b2` is what the decoder produces from
the cut-off tail `t` alone. -/
theorem T19_trunc_frames_append (decomp : List UInt8 → Option (List UInt8)) (p t bytes : List UInt8)
    (hok : unframe decomp (p ++ t) = .ok bytes) :
    unframe decomp p = .error .eof ∨
      ∃ b1 b2, unframe decomp p = .ok b1 ∧ bytes = b1 ++ b2 ∧
        unframeFrom decomp (t.length + 1) (!p.isEmpty) t [] = .ok b2 := by
  rw [unframe_eq_run] at hok
  rcases run_append decomp t false p [] with h | h
  · exact .inl h
  · rw [h] at hok
    cases h1 : run decomp false p [] with
    | error e => rw [h1] at hok; cases hok
    | ok b1 =>
      rw [h1] at hok
      obtain ⟨b2, h2, h3⟩ := run_ok_inv hok
      exact .inr ⟨b1, b2, h1, h3, h2⟩

/-- the same for `p <+: file` -/
theorem T19_trunc_frames (decomp : List UInt8 → Option (List UInt8)) (file bytes : List UInt8)
    (hok : unframe decomp file = .ok bytes) (p : List UInt8) (hp : p <+: file) :
    unframe decomp p = .error .eof ∨
      ∃ b1 b2, unframe decomp p = .ok b1 ∧ bytes = b1 ++ b2 ∧
        unframeFrom decomp ((file.drop p.length).length + 1) (!p.isEmpty) (file.drop p.length) [] = .ok b2 := by
  have hf : p ++ file.drop p.length = file := List.prefix_iff_eq_append.mp hp
  rw [← hf] at hok
  exact T19_trunc_frames_append decomp p _ bytes hok

/-- a tail read as no data: each of its chunks contributes none -/
theorem tail_no_data (decomp : List UInt8 → Option (List UInt8)) (seen : Bool) (t rest out : List UInt8)
    (h : unframeFrom decomp (t.length + 1) seen t [] = .ok [])
    (hs : FR.step decomp seen t = .next rest out) :
    out = [] ∧ unframeFrom decomp (rest.length + 1) true rest [] = .ok [] := by
  have h : run decomp seen t [] = .ok [] := h
  rw [run_next [] hs] at h
  obtain ⟨b, hb, he⟩ := run_ok_inv h
  obtain ⟨h1, h2⟩ := List.append_eq_nil_iff.mp he.symm
  rw [h2] at hb
  exact ⟨(List.append_eq_nil_iff.mp h1).2, hb⟩

/-- a prefix of the file (the file itself included) is rejected or decodes to exactly the original
content, never to something else -/
theorem T19_trunc_le (decomp : List UInt8 → Option (List UInt8)) (f : SkfFile) (file : List UInt8)
    (hprefix : ∀ W' p, p <+: f.encode → p ≠ f.encode → SkfFile.decode W' p = none)
    (hok : unframe decomp file = .ok f.encode)
    (p : List UInt8) (hp : p <+: file) (W' : Nat) :
    load decomp W' p = none ∨ load decomp W' p = load decomp W' file := by
  rcases T19_trunc_frames decomp file f.encode hok p hp with h | ⟨b1, b2, h1, h2, _⟩
  · exact .inl (load_of_error h W')
  · rw [load_of_ok h1, load_of_ok hok]
    by_cases he : b1 = f.encode
    · exact .inr (by rw [he])
    · exact .inl (by rw [hprefix W' b1 (h2 ▸ List.prefix_append b1 b2) he]; rfl)

/-- **C19, truncation**: a truncated file is rejected or decodes to exactly the original
content, never to something else -/
theorem T19_trunc (decomp : List UInt8 → Option (List UInt8)) (f : SkfFile) (file : List UInt8)
    (hprefix : ∀ W' p, p <+: f.encode → p ≠ f.encode → SkfFile.decode W' p = none)
    (hok : unframe decomp file = .ok f.encode)
    (p : List UInt8) (hp : p <+: file) (_hne : p ≠ file) (W' : Nat) :
    load decomp W' p = none ∨ load decomp W' p = load decomp W' file :=
  T19_trunc_le decomp f file hprefix hok p hp W'

/-- if moreover the cut-off tail carries data (it does unless it consists only of chunks without
data: skippable, padding, identifier chunks, data chunks with empty data; see `tail_no_data`),
the truncated file is rejected -/
theorem T19_trunc_reject (decomp : List UInt8 → Option (List UInt8)) (f : SkfFile) (file : List UInt8)
    (hprefix : ∀ W' p, p <+: f.encode → p ≠ f.encode → SkfFile.decode W' p = none)
    (hok : unframe decomp file = .ok f.encode)
    (p : List UInt8) (hp : p <+: file)
    (htail : unframeFrom decomp ((file.drop p.length).length + 1) (!p.isEmpty) (file.drop p.length) []
      ≠ .ok []) (W' : Nat) :
    load decomp W' p = none := by
  rcases T19_trunc_frames decomp file f.encode hok p hp with h | ⟨b1, b2, h1, h2, h3⟩
  · exact load_of_error h W'
  · rw [load_of_ok h1, hprefix W' b1 (h2 ▸ List.prefix_append b1 b2)]
    · rfl
    · intro he
      rw [he] at h2
      rw [List.self_eq_append_right.mp h2] at h3
      exact htail h3

/-- flipping any bit of the 10-byte stream identifier is an error (whatever follows, whatever
the decompressor): `streamHeader` for the type byte, `chunkLength` for the length bytes,
`headerMismatch` for the body -/
theorem T19_flip_ident (decomp : List UInt8 → Option (List UInt8)) (rest : List UInt8)
    (j i : Nat) (hj : j < 10) (hi : i < 8) :
    unframe decomp (flipAt (IDENT ++ rest) j i) = .error (identFlipErr j) := by
  rw [flipAt_append_left IDENT rest j i hj]
  exact unframe_flip_ident decomp rest ⟨j, hj⟩ ⟨i, hi⟩

/-- CRC-32C detects every error confined to a single byte, in particular every single-bit error -/
theorem crc_byte (pre post : List UInt8) (x y : UInt8) (hxy : x ≠ y) :
    crc32c (pre ++ x :: post) ≠ crc32c (pre ++ y :: post) :=
  crc32c_one_byte pre post hxy

theorem crc_flip (a : List UInt8) (j i : Nat) (hj : j < a.length) (hi : i < 8) :
    crc32c (flipAt a j i) ≠ crc32c a :=
  flipAt_detected crc32c_one_byte a hj hi

theorem crc_masked_flip (a : List UInt8) (j i : Nat) (hj : j < a.length) (hi : i < 8) :
    crc32cMasked (flipAt a j i) ≠ crc32cMasked a :=
  flipAt_detected crc32cMasked_one_byte a hj hi

/-- the ingredients: the LFSR step is injective on 32-bit states, the mask is injective; the step is
also GF(2)-linear, which the results above do not use -/
theorem crc_step_injective {x y : Nat} (hx : x < 2 ^ 32) (hy : y < 2 ^ 32) (h : crcBit x = crcBit y) :
    x = y := crcBit_inj32.inj hx hy h

theorem crc_step_linear (x y : Nat) : crcBit (x ^^^ y) = crcBit x ^^^ crcBit y := crcBit_xor x y

theorem crc_mask_injective (a b : List UInt8) (h : crc32cMasked a = crc32cMasked b) :
    crc32c a = crc32c b :=
  maskNat_inj (crc32c_lt a) (crc32c_lt b) h

/-- an uncompressed chunk (after the identifier and any valid chunks `cs`) whose 4-byte checksum
field is anything but the right one: `checksum` error -/
theorem T19_bad_crc (decomp : List UInt8 → Option (List UInt8)) (cs : List Chunk)
    (hv : ∀ c ∈ cs, c.Valid decomp) (data crc4 t : List UInt8) (hd : data.length ≤ MAX_BLOCK)
    (hc : crc4.length = 4) (hbad : crc4 ≠ le4 (crc32cMasked data)) :
    unframe decomp (IDENT ++ (render cs ++ (0x01 :: (le3 (data.length + 4) ++ (crc4 ++ (data ++ t))))))
      = .error .checksum := by
  refine unframe_chunks_err decomp cs hv ?_
  rw [step_raw decomp crc4 data t hc hd]
  exact checkData_bad (ne_le4 hc hbad)

/-- flipping any bit of the checksum field of an uncompressed chunk: `checksum` error -/
theorem T19_flip_crc (decomp : List UInt8 → Option (List UInt8)) (cs : List Chunk)
    (hv : ∀ c ∈ cs, c.Valid decomp) (data t : List UInt8) (hd : data.length ≤ MAX_BLOCK)
    (j i : Nat) (hj : j < 4) (hi : i < 8) :
    unframe decomp (IDENT ++ (render cs ++
      (0x01 :: (le3 (data.length + 4) ++ (flipAt (le4 (crc32cMasked data)) j i ++ (data ++ t))))))
      = .error .checksum :=
  T19_bad_crc decomp cs hv data _ t hd (by rw [flipAt_length]; rfl) (flipAt_ne _ hj hi)

/-- the same with the flip addressed inside the rendered chunk: bytes 4..7 of `(Chunk.raw data).render` -/
theorem T19_flip_crc_render (decomp : List UInt8 → Option (List UInt8)) (cs : List Chunk)
    (hv : ∀ c ∈ cs, c.Valid decomp) (data t : List UInt8) (hd : data.length ≤ MAX_BLOCK)
    (j i : Nat) (hj : j < 4) (hi : i < 8) :
    unframe decomp (IDENT ++ (render cs ++ (flipAt (Chunk.raw data).render (4 + j) i ++ t)))
      = .error .checksum := by
  have h := T19_flip_crc decomp cs hv data t hd j i hj hi
  have e : flipAt (Chunk.raw data).render (4 + j) i =
      0x01 :: (le3 (data.length + 4) ++ (flipAt (le4 (crc32cMasked data)) j i ++ data)) := by
    show flipAt ((0x01 :: le3 (data.length + 4)) ++ (le4 (crc32cMasked data) ++ data))
      ((0x01 :: le3 (data.length + 4)).length + j) i = _
    rw [flipAt_append_right, flipAt_append_left _ _ _ _ (by rw [le4_length]; exact hj)]
    rfl
  rw [e]
  simpa using h

/-- a compressed chunk whose 4-byte checksum field is anything but the right one: `checksum` error -/
theorem T19_bad_crc_comp (decomp : List UInt8 → Option (List UInt8)) (cs : List Chunk)
    (hv : ∀ c ∈ cs, c.Valid decomp) (cdata out crc4 t : List UInt8)
    (hd : cdata.length + 4 ≤ MAX_COMPRESS_BLOCK) (hdec : decomp cdata = some out)
    (hc : crc4.length = 4) (hbad : crc4 ≠ le4 (crc32cMasked out)) :
    unframe decomp (IDENT ++ (render cs ++ (0x00 :: (le3 (cdata.length + 4) ++ (crc4 ++ (cdata ++ t))))))
      = .error .checksum := by
  refine unframe_chunks_err decomp cs hv ?_
  rw [step_comp decomp crc4 cdata t hc hd, hdec]
  exact checkData_bad (ne_le4 hc hbad)

/-- flipping any bit of the checksum field of a compressed chunk: `checksum` error -/
theorem T19_flip_crc_comp (decomp : List UInt8 → Option (List UInt8)) (cs : List Chunk)
    (hv : ∀ c ∈ cs, c.Valid decomp) (cdata out t : List UInt8)
    (hd : cdata.length + 4 ≤ MAX_COMPRESS_BLOCK) (hdec : decomp cdata = some out)
    (j i : Nat) (hj : j < 4) (hi : i < 8) :
    unframe decomp (IDENT ++ (render cs ++
      (0x00 :: (le3 (cdata.length + 4) ++ (flipAt (le4 (crc32cMasked out)) j i ++ (cdata ++ t))))))
      = .error .checksum :=
  T19_bad_crc_comp decomp cs hv cdata out _ t hd hdec (by rw [flipAt_length]; rfl) (flipAt_ne _ hj hi)

/-- an uncompressed chunk whose data differs from the checksummed data in one byte: `checksum` error -/
theorem T19_bad_raw (decomp : List UInt8 → Option (List UInt8)) (cs : List Chunk)
    (hv : ∀ c ∈ cs, c.Valid decomp) (pre post t : List UInt8) (x y : UInt8) (hxy : x ≠ y)
    (hd : (pre ++ x :: post).length ≤ MAX_BLOCK) :
    unframe decomp (IDENT ++ (render cs ++ (0x01 :: (le3 ((pre ++ x :: post).length + 4) ++
      (le4 (crc32cMasked (pre ++ x :: post)) ++ ((pre ++ y :: post) ++ t))))))
      = .error .checksum := by
  have hl : (pre ++ x :: post).length = (pre ++ y :: post).length := by simp
  rw [hl]
  refine unframe_chunks_err decomp cs hv ?_
  rw [step_raw decomp _ (pre ++ y :: post) t rfl (hl ▸ hd)]
  refine checkData_bad ?_
  rw [leNat_le4 (crc32cMasked_lt _)]
  exact crc32cMasked_one_byte pre post (Ne.symm hxy)

/-- flipping any bit of the data of an uncompressed chunk: `checksum` error -/
theorem T19_flip_raw (decomp : List UInt8 → Option (List UInt8)) (cs : List Chunk)
    (hv : ∀ c ∈ cs, c.Valid decomp) (data t : List UInt8) (hd : data.length ≤ MAX_BLOCK)
    (j i : Nat) (hj : j < data.length) (hi : i < 8) :
    unframe decomp (IDENT ++ (render cs ++ (0x01 :: (le3 (data.length + 4) ++
      (le4 (crc32cMasked data) ++ (flipAt data j i ++ t))))))
      = .error .checksum := by
  obtain ⟨pre, x, post, h1, h2⟩ := flipAt_split data j i hj
  rw [h2, h1]
  exact T19_bad_raw decomp cs hv pre post t x (flipBit x i) (Ne.symm (flipBit_ne x hi)) (h1 ▸ hd)

/-- file level: the flips of the identifier and of the checksum field and the data of an uncompressed
chunk make `load` fail at every width -/
theorem T19_flip_ident_load (decomp : List UInt8 → Option (List UInt8)) (rest : List UInt8)
    (j i : Nat) (hj : j < 10) (hi : i < 8) (W : Nat) :
    load decomp W (flipAt (IDENT ++ rest) j i) = none :=
  load_of_error (T19_flip_ident decomp rest j i hj hi) W

theorem T19_flip_crc_load (decomp : List UInt8 → Option (List UInt8)) (cs : List Chunk)
    (hv : ∀ c ∈ cs, c.Valid decomp) (data t : List UInt8) (hd : data.length ≤ MAX_BLOCK)
    (j i : Nat) (hj : j < 4) (hi : i < 8) (W : Nat) :
    load decomp W (IDENT ++ (render cs ++
      (0x01 :: (le3 (data.length + 4) ++ (flipAt (le4 (crc32cMasked data)) j i ++ (data ++ t)))))) = none :=
  load_of_error (T19_flip_crc decomp cs hv data t hd j i hj hi) W

theorem T19_flip_raw_load (decomp : List UInt8 → Option (List UInt8)) (cs : List Chunk)
    (hv : ∀ c ∈ cs, c.Valid decomp) (data t : List UInt8) (hd : data.length ≤ MAX_BLOCK)
    (j i : Nat) (hj : j < data.length) (hi : i < 8) (W : Nat) :
    load decomp W (IDENT ++ (render cs ++ (0x01 :: (le3 (data.length + 4) ++
      (le4 (crc32cMasked data) ++ (flipAt data j i ++ t)))))) = none :=
  load_of_error (T19_flip_raw decomp cs hv data t hd j i hj hi) W

instance : DecidableEq (Except FrameErr (List UInt8))
  | .ok a, .ok b =>
    if h : a = b then isTrue (by rw [h]) else isFalse (by intro h'; injection h' with h'; exact h h')
  | .error a, .error b =>
    if h : a = b then isTrue (by rw [h]) else isFalse (by intro h'; injection h' with h'; exact h h')
  | .ok _, .error _ => isFalse (by intro h; cases h)
  | .error _, .ok _ => isFalse (by intro h; cases h)

def noDecomp : List UInt8 → Option (List UInt8) := fun _ => none

-- the stream identifier and one uncompressed chunk `[1, 2, 3]`
def smallFile : List UInt8 :=
  [0xff, 6, 0, 0, 0x73, 0x4e, 0x61, 0x50, 0x70, 0x59, 1, 7, 0, 0, 57, 205, 192, 134, 1, 2, 3]

example : smallFile = IDENT ++ render [.raw [1, 2, 3]] := by decide
example : unframe noDecomp smallFile = .ok [1, 2, 3] := by decide
example : unframe noDecomp (smallFile.take 20) = .error .eof := by decide
example : unframe noDecomp (smallFile.take 12) = .error .eof := by decide
example : unframe noDecomp (smallFile.take 10) = .ok [] := by decide
example : unframe noDecomp (flipAt smallFile 19 2) = .error .checksum := by decide
example : unframe noDecomp (flipAt smallFile 15 7) = .error .checksum := by decide
example : unframe noDecomp (flipAt smallFile 5 0) = .error .headerMismatch := by decide
example : unframe noDecomp (flipAt smallFile 0 0) = .error .streamHeader := by decide
/-- why the bytes of a truncated stream are only a prefix, not a proper prefix, of the original
bytes (`T19_trunc_frames`): a cut-off skippable chunk goes unnoticed by the frame layer -/
example : unframe noDecomp (smallFile ++ [0x80, 1, 0, 0, 9]) = .ok [1, 2, 3] := by decide

/-! ### a flip the frame layer does NOT detect

Flipping bit 7 of the type byte of a data chunk (0x01 → 0x81, 0x00 → 0x80) turns it into a
skippable chunk of the same length: the decoder silently drops the chunk's data and stays in
sync.  So "every single-bit flip is an error of the frame layer" is false; for such a flip the
rejection of the file rests on the CBOR layer seeing bytes with a hole. -/

def twoChunks : List UInt8 := IDENT ++ render [.raw [1, 2, 3], .raw [4, 5]]

example : unframe noDecomp twoChunks = .ok [1, 2, 3, 4, 5] := by decide
example : unframe noDecomp (flipAt twoChunks 10 7) = .ok [4, 5] := by decide
example : unframe noDecomp (flipAt smallFile 10 7) = .ok [] := by decide

end SkaModel.Props.C19
