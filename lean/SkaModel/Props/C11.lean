/-
C11 / C02 — the thread count never changes the table `ska build` produces, and
column `i` of the table is exactly sample `i`'s dictionary.

`build_and_merge` combines the per-sample dictionaries either serially
(`multiAppend`) or by a binary split tree (`parallelAppend`), whose depth is the
only thing the thread count selects. Both are shown to produce a dictionary that
*represents* the sample list (`Rep`): names at their `idx`, one row per k-mer of
any sample, cell `(key, i)` = sample `i`'s letter for `key` (0 when absent).
Hence they agree in names, key set and cells for every depth (`T11_tree`),
every thread count (`T11_threads`), and the arrays built from them are equal up
to row order (`T11_order`, `T11_threads_table`).

Hypothesis that is really needed (and a counterexample without it is recorded at
the end): every sample dictionary has at least one k-mer. `merge` returns `self`
unchanged when `other.ksize() == 0` and takes `other`'s names wholesale when
`self.ksize() == 0`; a sample without k-mers therefore loses its *name* (not any
cell) in the tree build.
-/
import SkaModel.Impl.MergeArray
import SkaModel.Spec.Abs
import SkaModel.Lemmas.MergeDict
import SkaModel.Lemmas.Rows

namespace SkaModel.Props.C11

open SkaModel SkaModel.Spec SkaModel.Assoc SkaModel.Rows

/-- cell of sample `i` for `key`: the stored byte, 0 when the k-mer or the cell is absent -/
def cell (d : MDict) (key : Nat) (i : Nat) : UInt8 :=
  ((Assoc.lookup d.kmers key).map (fun row => row.getD i 0)).getD 0

/-- shape invariant of a dictionary over `total` sample slots -/
structure MWF (total : Nat) (d : MDict) : Prop where
  nS : d.nSamples = total
  namesLen : d.names.length = total
  rowLen : ∀ kv ∈ d.kmers, kv.2.length = total
  nodup : (Assoc.keys d.kmers).Nodup

theorem MWF.toWF {total : Nat} {d : MDict} (h : MWF total d) : d.WF :=
  ⟨h.nS.trans h.namesLen.symm, fun kv hkv => (h.rowLen kv hkv).trans h.nS.symm, h.nodup⟩

/-- the sample of a slice that owns column `i` (first one with `idx = i`) -/
def pick (samples : List SampleDict) (i : Nat) : Option SampleDict :=
  samples.find? (fun s => s.idx == i)

/-- the cell a slice of samples prescribes for `(key, i)` -/
def sliceCell (samples : List SampleDict) (key i : Nat) : UInt8 :=
  ((pick samples i).bind fun s => Assoc.lookup s.kmers key).getD 0

/-- the name a slice of samples prescribes for column `i` -/
def sliceName (samples : List SampleDict) (i : Nat) : String :=
  ((pick samples i).map (·.name)).getD ""

/-- `d` is the dictionary over `total` slots that holds exactly the samples of the slice -/
structure Rep (k : Nat) (rc : Bool) (total : Nat) (samples : List SampleDict) (d : MDict) : Prop where
  wf : MWF total d
  hk : d.k = k
  hrc : d.rc = rc
  names : ∀ i, i < total → d.names.getD i "" = sliceName samples i
  cells : ∀ key i, cell d key i = sliceCell samples key i
  keys : ∀ key, key ∈ Assoc.keys d.kmers ↔ ∃ s ∈ samples, key ∈ Assoc.keys s.kmers

/-- what the proofs need of a list of samples; the k-mer keys are duplicate-free because they come
from a hash map -/
structure SamplesOK (k : Nat) (rc : Bool) (total : Nat) (samples : List SampleDict) : Prop where
  idxNodup : (samples.map (·.idx)).Nodup
  idxLt : ∀ s ∈ samples, s.idx < total
  hk : ∀ s ∈ samples, s.k = k
  hrc : ∀ s ∈ samples, s.rc = rc
  keysNodup : ∀ s ∈ samples, (Assoc.keys s.kmers).Nodup

/-- well-formed slice of a build of `total` samples starting at `offset`
(the `noZero` field is part of the stated contract; no proof below uses it) -/
structure SliceWF (k : Nat) (rc : Bool) (total offset : Nat) (samples : List SampleDict) : Prop where
  idx : ∀ j (h : j < samples.length), samples[j].idx = offset + j
  bound : offset + samples.length ≤ total
  hk : ∀ s ∈ samples, s.k = k
  hrc : ∀ s ∈ samples, s.rc = rc
  keysNodup : ∀ s ∈ samples, (Assoc.keys s.kmers).Nodup
  noZero : ∀ s ∈ samples, ∀ kb ∈ s.kmers, kb.2 ≠ 0

/-- every sample has at least one k-mer (`ska build` refuses inputs without any) -/
def AllNonempty (samples : List SampleDict) : Prop := ∀ s ∈ samples, s.kmers ≠ []

theorem SliceWF.map_idx {k rc total offset samples} (h : SliceWF k rc total offset samples) :
    samples.map (·.idx) = List.range' offset samples.length := by
  apply List.ext_getElem (by simp)
  intro i h1 h2
  simp only [List.length_map] at h1
  simp [h.idx i h1]

theorem SliceWF.samplesOK {k rc total offset samples} (h : SliceWF k rc total offset samples) :
    SamplesOK k rc total samples where
  idxNodup := by rw [h.map_idx]; exact List.nodup_range' 1
  idxLt := by
    intro s hs
    obtain ⟨j, hj, rfl⟩ := List.getElem_of_mem hs
    rw [h.idx j hj]
    exact Nat.lt_of_lt_of_le (Nat.add_lt_add_left hj offset) h.bound
  hk := h.hk
  hrc := h.hrc
  keysNodup := h.keysNodup

theorem SliceWF.of_forall {k rc} {samples : List SampleDict}
    (hidx : ∀ j (h : j < samples.length), samples[j].idx = j)
    (h : ∀ s ∈ samples, s.k = k ∧ s.rc = rc ∧ (Assoc.keys s.kmers).Nodup ∧ ∀ kb ∈ s.kmers, kb.2 ≠ 0) :
    SliceWF k rc samples.length 0 samples where
  idx := fun j hj => (hidx j hj).trans (Nat.zero_add j).symm
  bound := Nat.le_of_eq (Nat.zero_add _)
  hk := fun s hs => (h s hs).1
  hrc := fun s hs => (h s hs).2.1
  keysNodup := fun s hs => (h s hs).2.2.1
  noZero := fun s hs => (h s hs).2.2.2

theorem SamplesOK.of_sub {k rc total l l'} (h : SamplesOK k rc total l) (hn : (l'.map (·.idx)).Nodup)
    (hsub : ∀ s ∈ l', s ∈ l) : SamplesOK k rc total l' :=
  ⟨hn, fun s hs => h.idxLt s (hsub s hs), fun s hs => h.hk s (hsub s hs), fun s hs => h.hrc s (hsub s hs),
    fun s hs => h.keysNodup s (hsub s hs)⟩

theorem SamplesOK.of_append {k rc total a b} (h : SamplesOK k rc total (a ++ b)) :
    SamplesOK k rc total a ∧ SamplesOK k rc total b ∧ (∀ s ∈ a, ∀ s' ∈ b, s.idx ≠ s'.idx) := by
  have hn := h.idxNodup
  rw [List.map_append, List.nodup_append] at hn
  exact ⟨h.of_sub hn.1 (fun _ => List.mem_append_left _), h.of_sub hn.2.1 (fun _ => List.mem_append_right _),
    fun s hs s' hs' => hn.2.2 _ (List.mem_map.2 ⟨s, hs, rfl⟩) _ (List.mem_map.2 ⟨s', hs', rfl⟩)⟩

theorem pick_nil (i : Nat) : pick [] i = none := rfl

theorem pick_append (a b : List SampleDict) (i : Nat) : pick (a ++ b) i = (pick a i).or (pick b i) := by
  simp [pick, List.find?_append]

theorem pick_eq_none_iff (l : List SampleDict) (i : Nat) : pick l i = none ↔ ∀ s ∈ l, s.idx ≠ i := by
  simp [pick, List.find?_eq_none]

theorem pick_some {l : List SampleDict} {i : Nat} {s : SampleDict} (h : pick l i = some s) : s ∈ l ∧ s.idx = i := by
  refine ⟨List.mem_of_find?_eq_some h, ?_⟩
  have := List.find?_some h
  simpa using this

theorem pick_single (s : SampleDict) (i : Nat) : pick [s] i = if s.idx = i then some s else none := by
  by_cases h : s.idx = i
  · simp [pick, h]
  · have hb : (s.idx == i) = false := by simpa using h
    simp [pick, hb, h]

theorem pick_of_mem {l : List SampleDict} (hn : (l.map (·.idx)).Nodup) {s : SampleDict} (hs : s ∈ l) :
    pick l s.idx = some s := by
  induction l with
  | nil => cases hs
  | cons a rest ih =>
    simp only [List.map_cons, List.nodup_cons] at hn
    rcases List.mem_cons.1 hs with e | hm
    · subst e; simp [pick]
    · have hne : ¬ a.idx = s.idx := fun e => hn.1 (e ▸ List.mem_map.2 ⟨s, hm, rfl⟩)
      have hb : (a.idx == s.idx) = false := by simpa using hne
      have := ih hn.2 hm
      simpa [pick, List.find?_cons, hb] using this

theorem cell_of_lookup_some {d : MDict} {key : Nat} {row : List UInt8} (h : Assoc.lookup d.kmers key = some row)
    (i : Nat) : cell d key i = row.getD i 0 := by simp [cell, h]

theorem cell_of_kmers_nil {d : MDict} (h : d.kmers = []) (key i : Nat) : cell d key i = 0 := by
  simp [cell, h]

theorem rep_new (k : Nat) (rc : Bool) (total : Nat) : Rep k rc total [] (MDict.new k total rc) where
  wf := ⟨rfl, by simp [MDict.new], by simp [MDict.new], by simp [MDict.new]⟩
  hk := rfl
  hrc := rfl
  names := by
    intro i hi
    simp [MDict.new, sliceName, pick_nil, List.getD_eq_getElem?_getD, hi]
  cells := by intro key i; simp [cell, MDict.new, sliceCell, pick_nil]
  keys := by intro key; simp [MDict.new]

section appendStep
variable {total : Nat} (d : MDict) (s : SampleDict)

/-- the dictionary `append` produces, in `foldUpsert` form -/
def appended : MDict := { d with
  names := d.names.set s.idx s.name
  kmers := foldUpsert (fun kb => (List.replicate d.nSamples (0 : UInt8)).set s.idx kb.2)
    (fun kb row => row.set s.idx kb.2) d.kmers s.kmers }

theorem append_ok (hk : s.k = d.k) (hrc : s.rc = d.rc) : d.append s = .ok (appended d s) := by
  simp [MDict.append, appended, hk, hrc, foldUpsert]

theorem appended_wf (hd : MWF total d) : MWF total (appended d s) where
  nS := hd.nS
  namesLen := by simp [appended, hd.namesLen]
  rowLen := by
    exact forall_foldUpsert (fun row : List UInt8 => row.length = total) _ _ _ _ hd.rowLen
      (by intro kb _; simp [hd.nS]) (by intro kb _ v hv; simpa using hv)
  nodup := nodup_keys_foldUpsert _ _ _ _ hd.nodup

theorem appended_cell (hd : MWF total d) (hidx : s.idx < total) (hn : (Assoc.keys s.kmers).Nodup) (key i : Nat) :
    cell (appended d s) key i =
      if i = s.idx then (match Assoc.lookup s.kmers key with | some b => b | none => cell d key i)
      else cell d key i := by
  have hk : (appended d s).kmers = foldUpsert _ _ d.kmers s.kmers := rfl
  unfold cell
  rw [hk]
  cases hs : Assoc.lookup s.kmers key with
  | none =>
    rw [lookup_foldUpsert_of_none _ _ _ _ hn hs]
    exact (ite_self _).symm
  | some b =>
    rw [lookup_foldUpsert_of_some _ _ _ _ hn hs]
    cases hdk : Assoc.lookup d.kmers key with
    | none =>
      show ((List.replicate d.nSamples (0 : UInt8)).set s.idx b).getD i 0 = if i = s.idx then b else 0
      rw [getD_set _ _ _ _ _ (by rw [List.length_replicate, hd.nS]; exact hidx), getD_replicate_zero]
    | some row =>
      exact getD_set row s.idx i b 0 (by rw [hd.rowLen _ (mem_of_lookup hdk)]; exact hidx)

end appendStep

theorem append_rep {k rc total} {done : List SampleDict} {d : MDict} {s : SampleDict}
    (hrep : Rep k rc total done d) (hsk : s.k = k) (hsrc : s.rc = rc) (hidx : s.idx < total)
    (hfresh : ∀ s' ∈ done, s'.idx ≠ s.idx) (hn : (Assoc.keys s.kmers).Nodup) :
    ∃ d', d.append s = .ok d' ∧ Rep k rc total (done ++ [s]) d' := by
  refine ⟨appended d s, append_ok d s (by rw [hsk, hrep.hk]) (by rw [hsrc, hrep.hrc]), ?_⟩
  have hpn : pick done s.idx = none := (pick_eq_none_iff _ _).2 hfresh
  refine ⟨appended_wf d s hrep.wf, hrep.hk, hrep.hrc, ?_, ?_, ?_⟩
  · intro i hi
    have : (appended d s).names = d.names.set s.idx s.name := rfl
    rw [this, getD_set _ _ _ _ _ (by rw [hrep.wf.namesLen]; exact hidx), hrep.names i hi]
    simp only [sliceName, pick_append, pick_single]
    by_cases e : i = s.idx
    · subst e; simp [hpn]
    · have e' : ¬ s.idx = i := fun x => e x.symm
      simp [e, e']
  · intro key i
    rw [appended_cell d s hrep.wf hidx hn, hrep.cells]
    simp only [sliceCell, pick_append, pick_single]
    by_cases e : i = s.idx
    · subst e
      cases hs : Assoc.lookup s.kmers key <;> simp [hpn, hs]
    · have e' : ¬ s.idx = i := fun x => e x.symm
      simp [e, e']
  · intro key
    refine (mem_keys_foldUpsert _ _ _ _ key).trans ?_
    rw [hrep.keys, exists_mem_append_iff]
    simp only [List.mem_singleton, exists_eq_left]

theorem foldlM_append_rep {k rc total} (rest : List SampleDict) :
    ∀ (done : List SampleDict) (d : MDict), Rep k rc total done d → SamplesOK k rc total (done ++ rest) →
      ∃ d', rest.foldlM (fun d s => d.append s) d = .ok d' ∧ Rep k rc total (done ++ rest) d' := by
  induction rest with
  | nil => intro done d hrep _; exact ⟨d, rfl, by simpa using hrep⟩
  | cons s rest ih =>
    intro done d hrep hok
    have hs : s ∈ done ++ s :: rest := by simp
    obtain ⟨_, hb, hdis⟩ := hok.of_append
    have hfresh : ∀ s' ∈ done, s'.idx ≠ s.idx := fun s' h' => hdis s' h' s (by simp)
    obtain ⟨d1, h1, hrep1⟩ := append_rep hrep (hok.hk s hs) (hok.hrc s hs) (hok.idxLt s hs) hfresh
      (hok.keysNodup s hs)
    have hok' : SamplesOK k rc total ((done ++ [s]) ++ rest) := by simpa using hok
    obtain ⟨d', h2, hrep2⟩ := ih (done ++ [s]) d1 hrep1 hok'
    refine ⟨d', ?_, by simpa using hrep2⟩
    rw [List.foldlM_cons, h1]
    exact h2

theorem multiAppend_rep {k rc total} {samples : List SampleDict} (hok : SamplesOK k rc total samples) :
    ∃ d, multiAppend k rc total samples = .ok d ∧ Rep k rc total samples d := by
  have := foldlM_append_rep samples [] (MDict.new k total rc) (rep_new k rc total) (by simpa using hok)
  simpa [multiAppend] using this

/-- the dictionary `merge` produces when both sides have k-mers -/
def merged (b t : MDict) : MDict := { b with
  names := zipPad (fun so : String × String => if so.1.isEmpty then so.2 else so.1) b.names t.names
  kmers := foldUpsert (fun kv : Nat × List UInt8 => kv.2) (fun kv row => orRow row kv.2) b.kmers t.kmers }

theorem merge_top_empty (b t : MDict) (hk : t.k = b.k) (hrc : t.rc = b.rc) (ht : t.kmers = []) :
    b.merge t = .ok b := by
  simp [MDict.merge, hk, hrc, MDict.ksize, ht]

theorem merge_bottom_empty (b t : MDict) (hk : t.k = b.k) (hrc : t.rc = b.rc) (ht : t.kmers ≠ [])
    (hb : b.kmers = []) : b.merge t = .ok { b with names := t.names, kmers := t.kmers } := by
  have : 0 < t.kmers.length := List.length_pos_iff.2 ht
  simp [MDict.merge, hk, hrc, MDict.ksize, hb, this]

theorem merge_general (b t : MDict) (hk : t.k = b.k) (hrc : t.rc = b.rc) (ht : t.kmers ≠ [])
    (hb : b.kmers ≠ []) : b.merge t = .ok (merged b t) := by
  have h1 : 0 < t.kmers.length := List.length_pos_iff.2 ht
  have h2 : ¬ b.kmers.length = 0 := fun e => hb (List.length_eq_zero_iff.1 e)
  have e1 : (t.k != b.k) = false := by simp [hk]
  have e2 : (t.rc != b.rc) = false := by simp [hrc]
  have e3 : (b.ksize == 0) = false := by simpa [MDict.ksize] using h2
  unfold MDict.merge
  rw [e1, e2, if_neg (by simp), if_neg (by simp), if_pos (by simpa [MDict.ksize] using h1), e3, if_neg (by simp)]
  rfl

theorem merged_wf {total : Nat} (b t : MDict) (hb : MWF total b) (ht : MWF total t) : MWF total (merged b t) where
  nS := hb.nS
  namesLen := by simp [merged, zipPad_length, hb.namesLen]
  rowLen :=
    forall_foldUpsert (fun row : List UInt8 => row.length = total) _ _ _ _ hb.rowLen
      (fun kv h => ht.rowLen kv h) (fun kv _ v hv => by rw [orRow_length]; exact hv)
  nodup := nodup_keys_foldUpsert _ _ _ _ hb.nodup

theorem merged_cell {total : Nat} (b t : MDict) (hb : MWF total b) (ht : MWF total t) (key i : Nat) :
    cell (merged b t) key i = cell b key i ||| cell t key i := by
  have hk : (merged b t).kmers = foldUpsert _ _ b.kmers t.kmers := rfl
  unfold cell
  rw [hk]
  cases hs : Assoc.lookup t.kmers key with
  | none =>
    rw [lookup_foldUpsert_of_none _ _ _ _ ht.nodup hs]
    exact UInt8.or_zero.symm
  | some r2 =>
    rw [lookup_foldUpsert_of_some _ _ _ _ ht.nodup hs]
    cases hbk : Assoc.lookup b.kmers key with
    | none => exact UInt8.zero_or.symm
    | some row =>
      exact orRow_getD row r2
        ((hb.rowLen _ (mem_of_lookup hbk)).trans (ht.rowLen _ (mem_of_lookup hs)).symm) i

theorem merged_names {total : Nat} (b t : MDict) (hb : MWF total b) (ht : MWF total t) (i : Nat) (hi : i < total) :
    (merged b t).names.getD i "" =
      if (b.names.getD i "").isEmpty then t.names.getD i "" else b.names.getD i "" := by
  have : (merged b t).names =
      zipPad (fun so : String × String => if so.1.isEmpty then so.2 else so.1) b.names t.names := rfl
  rw [this, zipPad_getD _ _ _ (by rw [hb.namesLen, ht.namesLen]) _ _ (by rw [hb.namesLen]; exact hi)]

structure MergeOf (total : Nat) (b t m : MDict) : Prop where
  wf : MWF total m
  hk : m.k = b.k
  hrc : m.rc = b.rc
  cells : ∀ key i, cell m key i = cell b key i ||| cell t key i
  names : ∀ i, i < total → m.names.getD i "" =
    if (b.names.getD i "").isEmpty then t.names.getD i "" else b.names.getD i ""
  keys : ∀ key, key ∈ Assoc.keys m.kmers ↔ key ∈ Assoc.keys b.kmers ∨ key ∈ Assoc.keys t.kmers

/-- The two short cuts of `merge` (a side without k-mers) are covered by `htn`/`hbn`: such a side must
not carry names (it would lose them). -/
theorem merge_cell {total : Nat} (b t : MDict) (hb : MWF total b) (ht : MWF total t)
    (hk : t.k = b.k) (hrc : t.rc = b.rc)
    (htn : t.kmers = [] → ∀ i, i < total → t.names.getD i "" = "")
    (hbn : b.kmers = [] → ∀ i, i < total → b.names.getD i "" = "") :
    ∃ m, b.merge t = .ok m ∧ MergeOf total b t m := by
  by_cases hte : t.kmers = []
  · refine ⟨b, merge_top_empty b t hk hrc hte, hb, rfl, rfl, ?_, ?_, ?_⟩
    · intro key i; rw [cell_of_kmers_nil hte, UInt8.or_zero]
    · intro i hi
      by_cases he : (b.names.getD i "").isEmpty
      · rw [if_pos he, htn hte i hi]; exact String.isEmpty_iff.1 he
      · rw [if_neg he]
    · intro key; simp [hte]
  · by_cases hbe : b.kmers = []
    · refine ⟨_, merge_bottom_empty b t hk hrc hte hbe, ⟨hb.nS, ht.namesLen, ht.rowLen, ht.nodup⟩, rfl, rfl, ?_, ?_, ?_⟩
      · intro key i
        rw [cell_of_kmers_nil hbe, UInt8.zero_or]; rfl
      · intro i hi
        rw [hbn hbe i hi]; rfl
      · intro key; simp [hbe]
    · exact ⟨_, merge_general b t hk hrc hte hbe, merged_wf b t hb ht, rfl, rfl, merged_cell b t hb ht,
        merged_names b t hb ht, mem_keys_foldUpsert _ _ _ _⟩

/-- over disjoint column ranges at most one of the two cells is non-zero and the merged cell is that one -/
theorem merge_cell_disjoint {b t m : MDict} {key i : Nat}
    (hc : cell m key i = cell b key i ||| cell t key i) (hd : cell b key i = 0 ∨ cell t key i = 0) :
    cell m key i = if cell b key i ≠ 0 then cell b key i else cell t key i := by
  rcases hd with h | h
  · simp [hc, h]
  · by_cases hb0 : cell b key i = 0 <;> simp [hc, h, hb0]

/-- Range form: if `b` only uses the columns in `Sb` and `t` only columns outside
`Sb` (cells and names elsewhere are 0 / `""`), the merged dictionary has `b`'s column on `Sb` and
`t`'s column elsewhere. -/
theorem merge_cell_ranges {total : Nat} (b t : MDict) (hb : MWF total b) (ht : MWF total t)
    (hk : t.k = b.k) (hrc : t.rc = b.rc)
    (htn : t.kmers = [] → ∀ i, i < total → t.names.getD i "" = "")
    (hbn : b.kmers = [] → ∀ i, i < total → b.names.getD i "" = "")
    (Sb : Nat → Prop)
    (hbz : ∀ i, ¬ Sb i → (∀ key, cell b key i = 0) ∧ b.names.getD i "" = "")
    (htz : ∀ i, Sb i → (∀ key, cell t key i = 0) ∧ t.names.getD i "" = "") :
    ∃ m, b.merge t = .ok m ∧ MWF total m ∧ m.k = b.k ∧ m.rc = b.rc ∧
      (∀ key, key ∈ Assoc.keys m.kmers ↔ key ∈ Assoc.keys b.kmers ∨ key ∈ Assoc.keys t.kmers) ∧
      (∀ i, Sb i → (∀ key, cell m key i = cell b key i) ∧ (i < total → m.names.getD i "" = b.names.getD i "")) ∧
      (∀ i, ¬ Sb i → (∀ key, cell m key i = cell t key i) ∧ (i < total → m.names.getD i "" = t.names.getD i "")) := by
  obtain ⟨m, hm, h⟩ := merge_cell b t hb ht hk hrc htn hbn
  refine ⟨m, hm, h.wf, h.hk, h.hrc, h.keys, ?_, ?_⟩
  · intro i hi
    refine ⟨fun key => by rw [h.cells, (htz i hi).1 key, UInt8.or_zero], fun hlt => ?_⟩
    rw [h.names i hlt]
    by_cases he : (b.names.getD i "").isEmpty
    · rw [if_pos he, (htz i hi).2]; exact (String.isEmpty_iff.1 he).symm
    · rw [if_neg he]
  · intro i hi
    refine ⟨fun key => by rw [h.cells, (hbz i hi).1 key, UInt8.zero_or], fun hlt => ?_⟩
    rw [h.names i hlt, (hbz i hi).2]
    rfl

theorem sliceCell_append {a b : List SampleDict} (hdis : ∀ s ∈ a, ∀ s' ∈ b, s.idx ≠ s'.idx) (key i : Nat) :
    sliceCell (a ++ b) key i = sliceCell a key i ||| sliceCell b key i := by
  simp only [sliceCell, pick_append]
  cases ha : pick a i with
  | none => simp
  | some s =>
    have ⟨hs, hi⟩ := pick_some ha
    have hb : pick b i = none := (pick_eq_none_iff _ _).2 (fun s' hs' e => hdis s hs s' hs' (hi.trans e.symm))
    simp [hb]

theorem sliceName_append {a b : List SampleDict} (hdis : ∀ s ∈ a, ∀ s' ∈ b, s.idx ≠ s'.idx) (i : Nat) :
    sliceName (a ++ b) i = if (sliceName a i).isEmpty then sliceName b i else sliceName a i := by
  cases ha : pick a i with
  | none => simp [sliceName, pick_append, ha]
  | some s =>
    have ⟨hs, hi⟩ := pick_some ha
    have hb : pick b i = none := (pick_eq_none_iff _ _).2 (fun s' hs' e => hdis s hs s' hs' (hi.trans e.symm))
    by_cases he : s.name.isEmpty
    · simp [sliceName, pick_append, ha, hb, String.isEmpty_iff.1 he]
    · simp [sliceName, pick_append, ha, hb, he]

theorem rep_kmers_nil {k rc total samples d} (hrep : Rep k rc total samples d) (hne : AllNonempty samples)
    (h : d.kmers = []) : samples = [] := by
  cases samples with
  | nil => rfl
  | cons s rest =>
    exfalso
    have hs : s.kmers ≠ [] := hne s (by simp)
    obtain ⟨kb, kbs, hkb⟩ := List.exists_cons_of_ne_nil hs
    have : kb.1 ∈ Assoc.keys d.kmers := (hrep.keys kb.1).2 ⟨s, by simp, by simp [hkb]⟩
    simp [h] at this

theorem merge_rep {k rc total} {bs ts : List SampleDict} {b t : MDict}
    (hb : Rep k rc total bs b) (ht : Rep k rc total ts t)
    (hdis : ∀ s ∈ bs, ∀ s' ∈ ts, s.idx ≠ s'.idx)
    (hbne : AllNonempty bs) (htne : AllNonempty ts) :
    ∃ m, b.merge t = .ok m ∧ Rep k rc total (bs ++ ts) m := by
  obtain ⟨m, hm, h⟩ := merge_cell b t hb.wf ht.wf
    (by rw [hb.hk, ht.hk]) (by rw [hb.hrc, ht.hrc])
    (fun h i hi => by rw [ht.names i hi, rep_kmers_nil ht htne h]; rfl)
    (fun h i hi => by rw [hb.names i hi, rep_kmers_nil hb hbne h]; rfl)
  refine ⟨m, hm, h.wf, h.hk.trans hb.hk, h.hrc.trans hb.hrc, ?_, ?_, ?_⟩
  · intro i hi
    rw [h.names i hi, hb.names i hi, ht.names i hi, sliceName_append hdis]
  · intro key i
    rw [h.cells, hb.cells, ht.cells, sliceCell_append hdis]
  · intro key
    rw [h.keys, hb.keys, ht.keys, exists_mem_append_iff]

theorem parallelAppend_zero (k : Nat) (rc : Bool) (total : Nat) (samples : List SampleDict) :
    parallelAppend k rc total 0 samples = multiAppend k rc total samples := rfl

theorem parallelAppend_succ (k : Nat) (rc : Bool) (total depth : Nat) (samples : List SampleDict) :
    parallelAppend k rc total (depth + 1) samples =
      (do let b ← parallelAppend k rc total depth (samples.take (samples.length / 2))
          let t ← parallelAppend k rc total depth (samples.drop (samples.length / 2))
          b.merge t) := by
  cases depth with
  | zero => rfl
  | succ n => rfl

theorem parallelAppend_rep {k rc total} (depth : Nat) :
    ∀ samples : List SampleDict, SamplesOK k rc total samples → AllNonempty samples →
      ∃ d, parallelAppend k rc total depth samples = .ok d ∧ Rep k rc total samples d := by
  induction depth with
  | zero => intro samples hok _; exact multiAppend_rep hok
  | succ n ih =>
    intro samples hok hne
    have hsplit : samples.take (samples.length / 2) ++ samples.drop (samples.length / 2) = samples :=
      List.take_append_drop _ _
    obtain ⟨hokb, hokt, hdis⟩ := SamplesOK.of_append (hsplit.symm ▸ hok)
    have hneb : AllNonempty (samples.take (samples.length / 2)) := fun s hs => hne s (List.mem_of_mem_take hs)
    have hnet : AllNonempty (samples.drop (samples.length / 2)) := fun s hs => hne s (List.mem_of_mem_drop hs)
    obtain ⟨b, hb, hrb⟩ := ih _ hokb hneb
    obtain ⟨t, ht, hrt⟩ := ih _ hokt hnet
    obtain ⟨m, hm, hrm⟩ := merge_rep hrb hrt hdis hneb hnet
    refine ⟨m, ?_, hsplit ▸ hrm⟩
    rw [parallelAppend_succ, hb, ht]
    exact hm

/-- same parameters, names, key set and cells -/
structure Same (d₁ d₂ : MDict) : Prop where
  k : d₁.k = d₂.k
  rc : d₁.rc = d₂.rc
  nSamples : d₁.nSamples = d₂.nSamples
  names : d₁.names = d₂.names
  keys : ∀ key, key ∈ Assoc.keys d₁.kmers ↔ key ∈ Assoc.keys d₂.kmers
  cells : ∀ key i, cell d₁ key i = cell d₂ key i

theorem Rep.names_eq {k rc total samples d} (h : Rep k rc total samples d) :
    d.names = (List.range total).map (sliceName samples) := by
  apply ext_getD "" _ _ (by simp [h.wf.namesLen])
  intro i hi
  rw [h.wf.namesLen] at hi
  rw [h.names i hi]
  simp [List.getD_eq_getElem?_getD, hi]

theorem Rep.same {k rc total samples d₁ d₂} (h₁ : Rep k rc total samples d₁) (h₂ : Rep k rc total samples d₂) :
    Same d₁ d₂ where
  k := h₁.hk.trans h₂.hk.symm
  rc := h₁.hrc.trans h₂.hrc.symm
  nSamples := h₁.wf.nS.trans h₂.wf.nS.symm
  names := h₁.names_eq.trans h₂.names_eq.symm
  keys := fun key => (h₁.keys key).trans (h₂.keys key).symm
  cells := fun key i => (h₁.cells key i).trans (h₂.cells key i).symm

theorem SliceWF.pick_add {k rc total offset samples} (h : SliceWF k rc total offset samples) (j : Nat) :
    pick samples (offset + j) = samples[j]? := by
  by_cases hj : j < samples.length
  · rw [List.getElem?_eq_getElem hj, ← h.idx j hj]
    exact pick_of_mem h.samplesOK.idxNodup (List.getElem_mem hj)
  · rw [List.getElem?_eq_none (Nat.le_of_not_lt hj), pick_eq_none_iff]
    intro s hs e
    obtain ⟨j', hj', rfl⟩ := List.getElem_of_mem hs
    rw [h.idx j' hj'] at e
    exact hj (Nat.add_left_cancel e ▸ hj')

theorem SliceWF.pick_lt {k rc total offset samples} (h : SliceWF k rc total offset samples) {i : Nat}
    (hi : i < offset) : pick samples i = none := by
  rw [pick_eq_none_iff]
  intro s hs e
  obtain ⟨j, hj, rfl⟩ := List.getElem_of_mem hs
  rw [h.idx j hj] at e
  exact Nat.not_le_of_lt hi (e ▸ Nat.le_add_right offset j)

theorem SliceWF.pick_eq {k rc total offset samples} (h : SliceWF k rc total offset samples) (i : Nat) :
    pick samples i = if offset ≤ i then samples[i - offset]? else none := by
  split
  · next ho =>
    obtain ⟨j, rfl⟩ := Nat.exists_eq_add_of_le ho
    rw [Nat.add_sub_cancel_left]
    exact h.pick_add j
  · next ho => exact h.pick_lt (Nat.lt_of_not_le ho)

/-- the serial build of a well-formed slice succeeds; the result has `total`
slots, the names placed at their `idx` (others `""`), rows of length `total`, duplicate-free keys,
cell `(key, i)` = the letter sample `i - offset` of the slice has for `key` (0 when `i` is outside the
slice or the sample lacks `key`), and a key is present iff some sample of the slice has it. -/
theorem multiAppend_cell {k : Nat} {rc : Bool} {total offset : Nat} {samples : List SampleDict}
    (h : SliceWF k rc total offset samples) :
    ∃ d, multiAppend k rc total samples = .ok d ∧ d.k = k ∧ d.rc = rc ∧ d.nSamples = total ∧
      d.names = (List.range total).map (fun i =>
        if offset ≤ i then ((samples[i - offset]?).map (·.name)).getD "" else "") ∧
      (∀ kv ∈ d.kmers, kv.2.length = total) ∧
      (Assoc.keys d.kmers).Nodup ∧
      (∀ key i, cell d key i =
        if offset ≤ i then ((samples[i - offset]?).bind (fun s => Assoc.lookup s.kmers key)).getD 0 else 0) ∧
      (∀ key, key ∈ Assoc.keys d.kmers ↔ ∃ s ∈ samples, key ∈ Assoc.keys s.kmers) := by
  obtain ⟨d, hd, hrep⟩ := multiAppend_rep h.samplesOK
  refine ⟨d, hd, hrep.hk, hrep.hrc, hrep.wf.nS, ?_, hrep.wf.rowLen, hrep.wf.nodup, ?_, hrep.keys⟩
  · rw [hrep.names_eq]
    refine List.map_congr_left fun i _ => ?_
    rw [sliceName, h.pick_eq]
    split <;> rfl
  · intro key i
    rw [hrep.cells, sliceCell, h.pick_eq]
    split <;> rfl

/-- for a well-formed sample list (`idx` = position, every sample with at least one
k-mer) the split tree of EVERY depth and the serial build both succeed and agree in names, key set
and every cell. -/
theorem T11_tree {k : Nat} {rc : Bool} {samples : List SampleDict}
    (h : SliceWF k rc samples.length 0 samples) (hne : AllNonempty samples) (depth : Nat) :
    ∃ dp ds, parallelAppend k rc samples.length depth samples = .ok dp ∧
      multiAppend k rc samples.length samples = .ok ds ∧ Same dp ds := by
  obtain ⟨dp, hp, hrp⟩ := parallelAppend_rep depth samples h.samplesOK hne
  obtain ⟨ds, hs, hrs⟩ := multiAppend_rep h.samplesOK
  exact ⟨dp, ds, hp, hs, hrp.same hrs⟩

theorem buildAndMerge_rep {k : Nat} {rc : Bool} {samples : List SampleDict}
    (h : SliceWF k rc samples.length 0 samples) (hne : AllNonempty samples) (threads : Nat) :
    ∃ d, buildAndMerge k rc threads samples = .ok d ∧ Rep k rc samples.length samples d := by
  unfold buildAndMerge
  simp only
  split
  · exact parallelAppend_rep _ samples h.samplesOK hne
  · exact multiAppend_rep h.samplesOK

/-- any two thread counts give dictionaries with the same names, key set and cells
(no lower bound on the thread counts is needed: the code clamps with `max 1`). -/
theorem T11_threads {k : Nat} {rc : Bool} {samples : List SampleDict}
    (h : SliceWF k rc samples.length 0 samples) (hne : AllNonempty samples) (threads₁ threads₂ : Nat) :
    ∃ d₁ d₂, buildAndMerge k rc threads₁ samples = .ok d₁ ∧ buildAndMerge k rc threads₂ samples = .ok d₂ ∧
      Same d₁ d₂ := by
  obtain ⟨d₁, h₁, r₁⟩ := buildAndMerge_rep h hne threads₁
  obtain ⟨d₂, h₂, r₂⟩ := buildAndMerge_rep h hne threads₂
  exact ⟨d₁, d₂, h₁, h₂, r₁.same r₂⟩

theorem Rep.columns {k : Nat} {rc : Bool} {samples : List SampleDict} {d : MDict}
    (hrep : Rep k rc samples.length samples d) (h : SliceWF k rc samples.length 0 samples) :
    d.names = samples.map (·.name) ∧
      (∀ i (hi : i < samples.length) key, cell d key i = (Assoc.lookup samples[i].kmers key).getD 0) ∧
      (∀ i key, samples.length ≤ i → cell d key i = 0) := by
  have hp : ∀ i, pick samples i = samples[i]? := fun i => by rw [← h.pick_add i, Nat.zero_add]
  refine ⟨?_, ?_, ?_⟩
  · rw [hrep.names_eq]
    apply List.ext_getElem (by rw [List.length_map, List.length_map, List.length_range])
    intro i h1 h2
    have hi : i < samples.length := by rw [List.length_map] at h2; exact h2
    rw [List.getElem_map, List.getElem_map, List.getElem_range, sliceName, hp, List.getElem?_eq_getElem hi]
    rfl
  · intro i hi key
    rw [hrep.cells, sliceCell, hp, List.getElem?_eq_getElem hi]
    rfl
  · intro i key hi
    rw [hrep.cells, sliceCell, hp, List.getElem?_eq_none hi]
    rfl

/-- column `i` of the build is sample `i`: its name and, for every k-mer, its letter
(0 when the sample lacks the k-mer); rows exist exactly for the k-mers of some sample. -/
theorem T02_samples {k : Nat} {rc : Bool} {samples : List SampleDict}
    (h : SliceWF k rc samples.length 0 samples) (hne : AllNonempty samples) (threads : Nat) :
    ∃ d, buildAndMerge k rc threads samples = .ok d ∧ d.nSamples = samples.length ∧
      d.names = samples.map (·.name) ∧
      (∀ i (hi : i < samples.length) key, cell d key i = (Assoc.lookup samples[i].kmers key).getD 0) ∧
      (∀ i key, samples.length ≤ i → cell d key i = 0) ∧
      (∀ key, key ∈ Assoc.keys d.kmers ↔ ∃ s ∈ samples, key ∈ Assoc.keys s.kmers) := by
  obtain ⟨d, hd, hrep⟩ := buildAndMerge_rep h hne threads
  exact ⟨d, hd, hrep.wf.nS, (hrep.columns h).1, (hrep.columns h).2.1, (hrep.columns h).2.2, hrep.keys⟩

/-- the part of a sample that does not depend on its position -/
def content (s : SampleDict) : String × Assoc Nat UInt8 := (s.name, s.kmers)

theorem mem_of_perm_content {samples samples' : List SampleDict}
    (hperm : (samples.map content).Perm (samples'.map content)) {s : SampleDict} (hs : s ∈ samples) :
    ∃ s' ∈ samples', s'.name = s.name ∧ s'.kmers = s.kmers := by
  obtain ⟨s', hs', e⟩ := List.mem_map.1 (hperm.mem_iff.1 (List.mem_map.2 ⟨s, hs, rfl⟩))
  exact ⟨s', hs', congrArg Prod.fst e, congrArg Prod.snd e⟩

theorem allNonempty_of_perm_content {samples samples' : List SampleDict}
    (hperm : (samples.map content).Perm (samples'.map content)) (hne : AllNonempty samples) :
    AllNonempty samples' := by
  intro s' hs'
  obtain ⟨s, hs, _, e⟩ := mem_of_perm_content hperm.symm hs'
  rw [← e]
  exact hne s hs

/-- `T02_perm` with explicit positions: if the sample at position `i` of one input is the sample at
position `j` of another input (same k-mers), column `j` of the second build is column `i` of the first. -/
theorem T02_perm_pos {k : Nat} {rc : Bool} {samples samples' : List SampleDict}
    (h : SliceWF k rc samples.length 0 samples) (hne : AllNonempty samples)
    (h' : SliceWF k rc samples'.length 0 samples') (hne' : AllNonempty samples') (threads threads' : Nat) :
    ∃ d d', buildAndMerge k rc threads samples = .ok d ∧ buildAndMerge k rc threads' samples' = .ok d' ∧
      ∀ i j (hi : i < samples.length) (hj : j < samples'.length), samples'[j].kmers = samples[i].kmers →
        ∀ key, cell d' key j = cell d key i := by
  obtain ⟨d, hd, _, _, hc, _⟩ := T02_samples h hne threads
  obtain ⟨d', hd', _, _, hc', _⟩ := T02_samples h' hne' threads'
  refine ⟨d, d', hd, hd', ?_⟩
  intro i j hi hj e key
  rw [hc i hi, hc' j hj, e]

/-- permuting the input samples (indices reassigned to the new positions,
names distinct) permutes the columns: the column that carries a given sample name holds the same cells
in both builds; the name lists are permutations of each other and the key sets coincide. -/
theorem T02_perm {k : Nat} {rc : Bool} {samples samples' : List SampleDict}
    (h : SliceWF k rc samples.length 0 samples) (hne : AllNonempty samples)
    (h' : SliceWF k rc samples'.length 0 samples')
    (hperm : (samples.map content).Perm (samples'.map content))
    (hnames : (samples.map (·.name)).Nodup) (threads threads' : Nat) :
    ∃ d d', buildAndMerge k rc threads samples = .ok d ∧ buildAndMerge k rc threads' samples' = .ok d' ∧
      d.names.Perm d'.names ∧
      (∀ key, key ∈ Assoc.keys d.kmers ↔ key ∈ Assoc.keys d'.kmers) ∧
      (∀ s ∈ samples, ∀ s' ∈ samples', s.name = s'.name → ∀ key, cell d' key s'.idx = cell d key s.idx) := by
  have hne' := allNonempty_of_perm_content hperm hne
  obtain ⟨d, hd, hrep⟩ := buildAndMerge_rep h hne threads
  obtain ⟨d', hd', hrep'⟩ := buildAndMerge_rep h' hne' threads'
  refine ⟨d, d', hd, hd', ?_, ?_, ?_⟩
  · rw [(hrep.columns h).1, (hrep'.columns h').1]
    have := hperm.map Prod.fst
    simpa [content, List.map_map, Function.comp_def] using this
  · intro key
    rw [hrep.keys, hrep'.keys]
    constructor
    · rintro ⟨s, hs, hk⟩
      obtain ⟨s', hs', _, e⟩ := mem_of_perm_content hperm hs
      exact ⟨s', hs', by rw [e]; exact hk⟩
    · rintro ⟨s', hs', hk⟩
      obtain ⟨s, hs, _, e⟩ := mem_of_perm_content hperm.symm hs'
      exact ⟨s, hs, by rw [e]; exact hk⟩
  · intro s hs s' hs' hnm key
    obtain ⟨s0, hs0, e1, e2⟩ := mem_of_perm_content hperm.symm hs'
    have : s0 = s := eq_of_nodup_map (·.name) hnames hs0 hs (e1.trans hnm.symm)
    subst this
    rw [hrep.cells, hrep'.cells, sliceCell, sliceCell, pick_of_mem h.samplesOK.idxNodup hs,
      pick_of_mem h'.samplesOK.idxNodup hs', Option.bind_some, Option.bind_some, e2]

def swap01 : Nat → Nat
  | 0 => 1
  | 1 => 0
  | i + 2 => i + 2

theorem swap01_swap01 : ∀ i, swap01 (swap01 i) = i
  | 0 => rfl
  | 1 => rfl
  | _ + 2 => rfl

/-- a list permutation as an index map -/
theorem perm_exists_sigma {α : Type} {l₁ l₂ : List α} (h : l₁.Perm l₂) :
    ∃ σ : Nat → Nat, (∀ i, i < l₁.length → σ i < l₂.length) ∧
      (∀ i j, i < l₁.length → j < l₁.length → σ i = σ j → i = j) ∧
      (∀ i, i < l₁.length → l₂[σ i]? = l₁[i]?) := by
  induction h with
  | nil => exact ⟨id, fun _ h => h, fun _ _ _ _ e => e, fun _ _ => rfl⟩
  | cons x _ ih =>
    -- keep the head, shift the map of the tails
    obtain ⟨σ, h1, h2, h3⟩ := ih
    refine ⟨fun i => match i with | 0 => 0 | i + 1 => σ i + 1, ?_, ?_, ?_⟩
    · intro i hi
      cases i with
      | zero => exact Nat.succ_pos _
      | succ i => exact Nat.succ_lt_succ (h1 i (Nat.lt_of_succ_lt_succ hi))
    · intro i j hi hj e
      cases i with
      | zero =>
        cases j with
        | zero => rfl
        | succ j => exact absurd e (Nat.succ_ne_zero _).symm
      | succ i =>
        cases j with
        | zero => exact absurd e (Nat.succ_ne_zero _)
        | succ j =>
          exact congrArg Nat.succ
            (h2 i j (Nat.lt_of_succ_lt_succ hi) (Nat.lt_of_succ_lt_succ hj) (Nat.succ.inj e))
    · intro i hi
      cases i with
      | zero => rfl
      | succ i => exact h3 i (Nat.lt_of_succ_lt_succ hi)
  | swap x y l =>
    -- `swap01` is an involution, hence injective
    refine ⟨swap01, ?_, fun i j _ _ e =>
      (swap01_swap01 i).symm.trans ((congrArg swap01 e).trans (swap01_swap01 j)), ?_⟩
    · intro i hi
      match i with
      | 0 => exact Nat.succ_lt_succ (Nat.succ_pos _)
      | 1 => exact Nat.succ_pos _
      | i + 2 => exact hi
    · intro i _
      match i with
      | 0 => rfl
      | 1 => rfl
      | _ + 2 => rfl
  | trans _ _ ih₁ ih₂ =>
    obtain ⟨σ₁, a1, a2, a3⟩ := ih₁
    obtain ⟨σ₂, b1, b2, b3⟩ := ih₂
    exact ⟨fun i => σ₂ (σ₁ i), fun i hi => b1 _ (a1 i hi),
      fun i j hi hj e => a2 i j hi hj (b2 _ _ (a1 i hi) (a1 j hj) e),
      fun i hi => (b3 _ (a1 i hi)).trans (a3 i hi)⟩

/-- `T02_perm` as an index map: permuting the input samples (idx reassigned to the new positions)
permutes the columns: there is a bijection `σ` of `{0..n-1}` with
`cell d' key (σ i) = cell d key i` and `d'.names[σ i] = d.names[i]`. -/
theorem T02_perm_sigma {k : Nat} {rc : Bool} {samples samples' : List SampleDict}
    (h : SliceWF k rc samples.length 0 samples) (hne : AllNonempty samples)
    (h' : SliceWF k rc samples'.length 0 samples')
    (hperm : (samples.map content).Perm (samples'.map content)) (threads threads' : Nat) :
    ∃ d d', buildAndMerge k rc threads samples = .ok d ∧ buildAndMerge k rc threads' samples' = .ok d' ∧
      samples'.length = samples.length ∧
      ∃ σ : Nat → Nat, (∀ i, i < samples.length → σ i < samples.length) ∧
        (∀ i j, i < samples.length → j < samples.length → σ i = σ j → i = j) ∧
        (∀ i, i < samples.length → ∀ key, cell d' key (σ i) = cell d key i) ∧
        (∀ i, i < samples.length → d'.names.getD (σ i) "" = d.names.getD i "") := by
  have hne' := allNonempty_of_perm_content hperm hne
  have hlen : samples'.length = samples.length := by simpa using hperm.length_eq.symm
  obtain ⟨d, hd, _, hn, hc, _⟩ := T02_samples h hne threads
  obtain ⟨d', hd', _, hn', hc', _⟩ := T02_samples h' hne' threads'
  obtain ⟨σ, s1, s2, s3⟩ := perm_exists_sigma hperm
  simp only [List.length_map] at s1 s2 s3
  have key_fact : ∀ i (hi : i < samples.length), ∃ hj : σ i < samples'.length,
      content samples'[σ i] = content samples[i] := by
    intro i hi
    have hj := s1 i hi
    refine ⟨hj, ?_⟩
    have := s3 i hi
    simpa [List.getElem?_eq_getElem hi, List.getElem?_eq_getElem hj] using this
  refine ⟨d, d', hd, hd', hlen, σ, fun i hi => hlen ▸ s1 i hi, s2, ?_, ?_⟩
  · intro i hi key
    obtain ⟨hj, e⟩ := key_fact i hi
    have e2 : samples'[σ i].kmers = samples[i].kmers := congrArg Prod.snd e
    rw [hc i hi, hc' _ hj, e2]
  · intro i hi
    obtain ⟨hj, e⟩ := key_fact i hi
    have e1 : samples'[σ i].name = samples[i].name := congrArg Prod.fst e
    rw [hn, hn']
    simp [List.getD_eq_getElem?_getD, List.getElem?_eq_getElem hi, List.getElem?_eq_getElem hj, e1]

theorem row_eq_cells {total : Nat} {d : MDict} (h : MWF total d) {kv : Nat × List UInt8} (hkv : kv ∈ d.kmers) :
    kv.2 = (List.range total).map (cell d kv.1) := by
  apply List.ext_getElem
  · rw [List.length_map, List.length_range, h.rowLen kv hkv]
  · intro i h1 _
    rw [List.getElem_map, List.getElem_range, cell_of_lookup_some (lookup_of_mem_nodup h.nodup hkv),
      List.getD_eq_getElem?_getD, List.getElem?_eq_getElem h1]
    rfl

/-- the table a dictionary over `total` slots stands for, read off the cell function: one row per key,
holding the cells of that key with `0` shown as `'-'` -/
theorem abs_rows_of_cells {total : Nat} {d : MDict} (h : MWF total d) :
    d.abs.rows = (Assoc.keys d.kmers).map fun key =>
      (key, (List.range total).map fun i => fixCell (cell d key i)) := by
  unfold MDict.abs Assoc.keys
  rw [List.map_map]
  apply List.map_congr_left
  intro kv hkv
  show (kv.1, _) = (kv.1, _)
  conv => lhs; rw [row_eq_cells h hkv]
  rw [List.map_map]
  rfl

/-- two dictionaries with the same names, key set and cells (rows of the common
length, keys duplicate-free) give arrays with the same table up to a permutation of the rows: the
iteration order of the hash map only permutes rows. -/
theorem T11_order (W : Nat) {total : Nat} {d₁ d₂ : MDict} (h₁ : MWF total d₁) (h₂ : MWF total d₂)
    (hnames : d₁.names = d₂.names)
    (hkeys : ∀ key, key ∈ Assoc.keys d₁.kmers ↔ key ∈ Assoc.keys d₂.kmers)
    (hcells : ∀ key i, cell d₁ key i = cell d₂ key i) :
    Table.Equiv (Arr.ofDict W d₁).abs (Arr.ofDict W d₂).abs := by
  refine ⟨hnames, ?_⟩
  rw [ofDict_abs, ofDict_abs, abs_rows_of_cells h₁, abs_rows_of_cells h₂]
  exact perm_map_of_nodup_mem _ _ h₁.nodup h₂.nodup hkeys fun key _ => by simp only [hcells]

/-- the `.skf` table `ska build` writes does not depend on the thread
count, up to row order; the other serialised fields (`k`, `rc`, names, `k_bits`) are equal. -/
theorem T11_threads_table (W : Nat) {k : Nat} {rc : Bool} {samples : List SampleDict}
    (h : SliceWF k rc samples.length 0 samples) (hne : AllNonempty samples) (threads₁ threads₂ : Nat) :
    ∃ d₁ d₂, buildAndMerge k rc threads₁ samples = .ok d₁ ∧ buildAndMerge k rc threads₂ samples = .ok d₂ ∧
      Table.Equiv (Arr.ofDict W d₁).abs (Arr.ofDict W d₂).abs ∧
      (Arr.ofDict W d₁).k = (Arr.ofDict W d₂).k ∧ (Arr.ofDict W d₁).rc = (Arr.ofDict W d₂).rc ∧
      (Arr.ofDict W d₁).kBits = (Arr.ofDict W d₂).kBits ∧
      (Arr.ofDict W d₁).WF ∧ (Arr.ofDict W d₂).WF := by
  obtain ⟨d₁, e₁, r₁⟩ := buildAndMerge_rep h hne threads₁
  obtain ⟨d₂, e₂, r₂⟩ := buildAndMerge_rep h hne threads₂
  have hs := r₁.same r₂
  exact ⟨d₁, d₂, e₁, e₂, T11_order W r₁.wf r₂.wf hs.names hs.keys hs.cells, hs.k, hs.rc, rfl,
    ofDict_wf W d₁ r₁.wf.toWF, ofDict_wf W d₂ r₂.wf.toWF⟩

/-! The non-emptiness hypothesis is necessary: a sample without k-mers keeps its name in the serial
build and loses it in the tree build (whichever half it is in). Cells are unaffected. -/

private def cexSample (i : Nat) (nm : String) (kv : List (Nat × UInt8)) : SampleDict :=
  { k := 31, rc := true, idx := i, name := nm, kmers := kv }

private def namesOf (r : Except Refusal MDict) : Option (List String) :=
  match r with | .ok d => some d.names | .error _ => none

/-- empty sample in the top half: `merge` returns `self` when `other.ksize() == 0` -/
theorem cex_empty_top :
    namesOf (multiAppend 31 true 2 [cexSample 0 "s0" [(1, 65)], cexSample 1 "s1" []]) = some ["s0", "s1"] ∧
    namesOf (parallelAppend 31 true 2 1 [cexSample 0 "s0" [(1, 65)], cexSample 1 "s1" []]) = some ["s0", ""] := by
  decide +kernel

/-- empty sample in the bottom half: `merge` takes `other.names` when `self.ksize() == 0` -/
theorem cex_empty_bottom :
    namesOf (multiAppend 31 true 2 [cexSample 0 "s0" [], cexSample 1 "s1" [(1, 65)]]) = some ["s0", "s1"] ∧
    namesOf (parallelAppend 31 true 2 1 [cexSample 0 "s0" [], cexSample 1 "s1" [(1, 65)]]) = some ["", "s1"] := by
  decide +kernel

private def exSamples : List SampleDict :=
  [cexSample 0 "a" [(1, 65), (2, 67)], cexSample 1 "b" [(2, 71), (3, 84)], cexSample 2 "c" [(5, 65)]]

private theorem exSamples_wf : SliceWF 31 true exSamples.length 0 exSamples where
  idx := by
    intro j h
    have : j < 3 := h
    match j, this with
    | 0, _ => rfl
    | 1, _ => rfl
    | 2, _ => rfl
  bound := by decide +kernel
  hk := by decide +kernel
  hrc := by decide +kernel
  keysNodup := by decide +kernel
  noZero := by decide +kernel

private theorem exSamples_nonempty : AllNonempty exSamples := by unfold AllNonempty; decide +kernel

example (t₁ t₂ : Nat) : ∃ d₁ d₂, buildAndMerge 31 true t₁ exSamples = .ok d₁ ∧
    buildAndMerge 31 true t₂ exSamples = .ok d₂ ∧ Same d₁ d₂ :=
  T11_threads exSamples_wf exSamples_nonempty t₁ t₂

end SkaModel.Props.C11
