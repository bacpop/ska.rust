/-
C09, compression layer: the Snappy block decoder model (`Impl/Snappy.lean`, tied
to `snap::raw::Decoder` by the `unframe` / `snapblock` operations) refines the
element semantics of the format (`Spec/SnappyFormat.lean`) on every well-formed
element stream, for every output so far, every announced length, without bound
on sizes.  Hence for ANY compressor whose block is `block data.length es` with
`WFs` and `denote [] es = data`, `data` of at most 64 KiB, decompression returns
exactly `data`.
-/
import SkaModel.Lemmas.SnappyLemmas
namespace SkaModel.Props.C09Snappy
open SkaModel SkaModel.SnappyFormat SkaModel.SnappyLemmas

/-- overlapping copies: the byte-by-byte loop of the decoder equals the closed
pattern form of the format (run-length semantics), for every offset ≤ size -/
theorem T09_copy_pattern (out : Array UInt8) (off len : Nat) (h1 : 1 ≤ off) (h2 : off ≤ out.size) :
    (copyBack out off len).toList = out.toList ++ copyPattern out.toList off len :=
  copyBack_toList out off len h1 h2

/-- the element loop refines the denotation on every well-formed stream -/
theorem T09_snappy_elems (dlen : Nat) (es : List SElem) (out : Array UInt8) (fuel : Nat)
    (hwf : WFs dlen out.size es) (hf : es.length ≤ fuel) :
    (snappyElems dlen fuel (es.flatMap SElem.ser) out).map Array.toList
      = some (denote out.toList es) := by
  induction es generalizing out fuel with
  | nil => simp [snappyElems_nil, denote]
  | cons e es ih =>
    obtain ⟨fuel, rfl, hf'⟩ := cons_length_le_fuel hf
    obtain ⟨hw, hws⟩ := hwf
    rw [List.flatMap_cons, snappyElems_ser hw,
      ih (applyElem out e) fuel (by rw [applyElem_size]; exact hws) hf',
      applyElem_toList hw]
    rfl

/-- the length preamble round-trips for every 32-bit length -/
theorem T09_varint (n : Nat) (h : n < 2 ^ 32) (rest : List UInt8) :
    readVarint (varint n ++ rest) = (n, (varint n).length) ∧ 1 ≤ (varint n).length ∧ (varint n).length ≤ 5 :=
  ⟨readVarint_varint n h rest, varint_pos n, varint_len_le5 n h⟩

theorem snappyHeader_some {blk : List UInt8} {dlen hlen : Nat} :
    snappyHeader blk = some (dlen, hlen) ↔
      readVarint blk = (dlen, hlen) ∧ 1 ≤ hlen ∧ hlen ≤ 5 ∧ dlen < 2 ^ 32 := by
  unfold snappyHeader
  generalize readVarint blk = p
  obtain ⟨n, used⟩ := p
  simp only [Bool.or_eq_true, beq_iff_eq, decide_eq_true_eq, Prod.mk.injEq]
  constructor
  · intro h
    split at h
    · cases h
    split at h
    · cases h
    obtain ⟨rfl, rfl⟩ := Prod.mk.inj (Option.some.inj h)
    exact ⟨⟨rfl, rfl⟩, by omega⟩
  · rintro ⟨⟨rfl, rfl⟩, h1, h5, hn⟩
    rw [if_neg (by omega), if_neg (by omega)]

theorem snappyDecompress_some {blk data : List UInt8} :
    snappyDecompress blk = some data ↔
      ∃ dlen hlen o, snappyHeader blk = some (dlen, hlen) ∧ blk.isEmpty = false ∧ dlen ≤ 65536 ∧
        snappyElems dlen (blk.length + 1) (blk.drop hlen) #[] = some o ∧ o.size = dlen ∧ o.toList = data := by
  unfold snappyDecompress
  constructor
  · intro h
    split at h
    · cases h
    rename_i hne
    split at h
    · cases h
    rename_i dlen hlen hh
    split at h
    · cases h
    rename_i hle
    split at h
    · cases h
    rename_i o ho
    split at h
    · rename_i hsz
      exact ⟨dlen, hlen, o, hh, by simpa using hne, Nat.le_of_not_lt hle, ho, by simpa using hsz, Option.some.inj h⟩
    · cases h
  · rintro ⟨dlen, hlen, o, hh, hne, hle, ho, hsz, rfl⟩
    rw [hne, hh]
    simp only [Bool.false_eq_true, ↓reduceIte]
    rw [if_neg (Nat.not_lt.mpr hle), ho]
    simp only [hsz, beq_self_eq_true, ↓reduceIte]

/-- a whole block: any well-formed element stream that denotes `data` (at most 64 KiB) decompresses
to `data` -/
theorem T09_snappy_block (data : List UInt8) (es : List SElem)
    (hlen : data.length ≤ 65536) (hwf : WFs data.length 0 es) (hd : denote [] es = data) :
    snappyDecompress (block data.length es) = some data := by
  have hn : data.length < 2 ^ 32 := Nat.lt_of_le_of_lt hlen (by decide)
  have hp := varint_pos data.length
  have hfl : es.length ≤ (block data.length es).length + 1 := by
    have := flatMap_ser_len es
    unfold block; simp only [List.length_append]; omega
  have := T09_snappy_elems data.length es #[] _ (by simpa using hwf) hfl
  obtain ⟨o, ho, hol⟩ := Option.map_eq_some_iff.mp this
  rw [hd] at hol
  refine snappyDecompress_some.mpr ⟨_, _, o, snappyHeader_some.mpr
    ⟨readVarint_varint data.length hn _, hp, varint_len_le5 data.length hn, hn⟩, ?_, hlen, ?_, ?_, hol⟩
  · exact List.isEmpty_eq_false_iff.mpr (List.ne_nil_of_length_pos (by unfold block; rw [List.length_append]; omega))
  · unfold block at ho ⊢
    rwa [List.drop_left]
  · rw [← Array.length_toList, hol]

/-- the parser inverts the serialiser on well-formed streams (the grammar is unambiguous) -/
theorem T09_parse_ser (dlen out : Nat) (es : List SElem) (hwf : WFs dlen out es) (fuel : Nat)
    (hf : es.length ≤ fuel) : parseElems fuel (es.flatMap SElem.ser) = some es := by
  induction es generalizing out fuel with
  | nil => simp [parseElems_nil]
  | cons e es ih =>
    obtain ⟨fuel, rfl, hf'⟩ := cons_length_le_fuel hf
    rw [List.flatMap_cons, parseElems_ser hwf.1, ih _ hwf.2 fuel hf']
    rfl

/-- non-vacuity: a literal followed by an overlapping copy -/
example : WFs 9 0 [.lit 0 [1, 2, 3], .copy1 6 3] ∧ denote [] [.lit 0 [1, 2, 3], .copy1 6 3] = [1, 2, 3, 1, 2, 3, 1, 2, 3] := by
  constructor <;> decide

/-- soundness of the element loop: whatever it accepts is the serialisation of a
well-formed element stream (the one the parser returns), and its result is the
denotation of that stream - the decoder accepts nothing outside the format -/
theorem T09_snappy_sound (dlen fuel : Nat) (src : List UInt8) (out res : Array UInt8)
    (h : snappyElems dlen fuel src out = some res) :
    ∃ es, parseElems fuel src = some es ∧ es.flatMap SElem.ser = src ∧ WFs dlen out.size es ∧
      res.toList = denote out.toList es :=
  match fuel, src, h with
  | fuel, [], h => by
    rw [snappyElems_nil] at h
    cases h
    exact ⟨[], parseElems_nil fuel, rfl, trivial, rfl⟩
  | 0, _ :: _, h => by simp [snappyElems] at h
  | fuel + 1, tag :: rest, h => by
    rw [snappyElems_succ] at h
    cases hp : parseElem (tag :: rest) with
    | none => rw [hp] at h; cases h
    | some p =>
      obtain ⟨e, r⟩ := p
      rw [hp, Option.bind_some] at h
      by_cases hw : e.WF out.size dlen
      · rw [if_pos hw] at h
        obtain ⟨es, hpe, hser, hwfs, hden⟩ := T09_snappy_sound dlen fuel r (applyElem out e) res h
        refine ⟨e :: es, ?_, ?_, ⟨hw, ?_⟩, ?_⟩
        · rw [parseElems_succ, hp, Option.bind_some, hpe]; rfl
        · rw [List.flatMap_cons, hser, parseElem_inv hp]
        · rw [← applyElem_size]; exact hwfs
        · rw [hden, applyElem_toList hw]; rfl
      · rw [if_neg hw] at h; cases h

/-- soundness of a whole block: an accepted block is a length preamble followed by a
well-formed element stream that denotes exactly the returned data -/
theorem T09_snappy_block_sound (blk data : List UInt8) (h : snappyDecompress blk = some data) :
    ∃ es, es.flatMap SElem.ser = blk.drop (readVarint blk).2 ∧ WFs data.length 0 es ∧
      denote [] es = data ∧ data.length ≤ 65536 ∧ (readVarint blk).1 = data.length := by
  obtain ⟨dlen, hlen, o, hh, -, hle, ho, hsz, rfl⟩ := snappyDecompress_some.mp h
  obtain ⟨hrv, -⟩ := snappyHeader_some.mp hh
  obtain ⟨es, -, hser, hwfs, hden⟩ := T09_snappy_sound _ _ _ _ _ ho
  have hdl : o.toList.length = dlen := by rw [Array.length_toList, hsz]
  rw [hdl, hrv]
  exact ⟨es, hser, by simpa using hwfs, hden.symm ▸ rfl, hle, rfl⟩
end SkaModel.Props.C09Snappy
