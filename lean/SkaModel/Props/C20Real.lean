/-
C20 (real-analysis part) — the gradient `grad_ll` that the optimiser of `ska cov`
uses is the true gradient of the two-Poisson mixture log-likelihood `log_likelihood`,
when both formulas (written once over the abstract class `ExpLog`) are read over ℝ.
Also: log-sum-exp is exact over ℝ.
-/
import Mathlib.Analysis.SpecialFunctions.Log.Deriv
import Mathlib.Analysis.SpecialFunctions.ExpDeriv
import SkaModel.Impl.Coverage

namespace SkaModel.Props.C20Real

open SkaModel SkaModel.Coverage

noncomputable instance instExpLogReal : ExpLog ℝ where
  add := fun a b => a + b
  sub := fun a b => a - b
  mul := fun a b => a * b
  div := fun a b => a / b
  exp := Real.exp
  log := Real.log
  ofNat := fun n => (n : ℝ)
  max := fun a b => max a b

@[simp] theorem add_eq (a b : ℝ) : ExpLog.add a b = a + b := rfl
@[simp] theorem sub_eq (a b : ℝ) : ExpLog.sub a b = a - b := rfl
@[simp] theorem mul_eq (a b : ℝ) : ExpLog.mul a b = a * b := rfl
@[simp] theorem div_eq (a b : ℝ) : ExpLog.div a b = a / b := rfl
@[simp] theorem exp_eq (a : ℝ) : ExpLog.exp a = Real.exp a := rfl
@[simp] theorem log_eq (a : ℝ) : ExpLog.log a = Real.log a := rfl
@[simp] theorem ofNat_eq (n : ℕ) : (ExpLog.ofNat n : ℝ) = (n : ℝ) := rfl
@[simp] theorem max_eq (a b : ℝ) : ExpLog.max a b = max a b := rfl

/-- **log-sum-exp is exact over ℝ** (the shift by `max a b` cancels). -/
theorem lse_eq (a b : ℝ) : lse a b = Real.log (Real.exp a + Real.exp b) := by
  unfold lse
  simp only [add_eq, sub_eq, exp_eq, log_eq, max_eq]
  generalize max a b = x
  have hx : Real.exp x ≠ 0 := (Real.exp_pos x).ne'
  have hs : Real.exp (a - x) + Real.exp (b - x) = (Real.exp a + Real.exp b) / Real.exp x := by
    rw [Real.exp_sub, Real.exp_sub]; ring
  have hpos : Real.exp a + Real.exp b ≠ 0 := (add_pos (Real.exp_pos a) (Real.exp_pos b)).ne'
  rw [hs, Real.log_div hpos hx, Real.log_exp]
  ring

theorem foldl_pair {β : Type} (F G : β → ℝ) (l : List β) (p q : ℝ) :
    l.foldl (fun (g : ℝ × ℝ) ci => (g.1 + F ci, g.2 + G ci)) (p, q)
      = (l.foldl (fun g ci => g + F ci) p, l.foldl (fun g ci => g + G ci) q) := by
  induction l generalizing p q with
  | nil => rfl
  | cons x xs ih => simp only [List.foldl_cons]; exact ih _ _

theorem hasDerivAt_foldl {β : Type} (f : ℝ → β → ℝ) (f' : β → ℝ) (x0 : ℝ) (l : List β)
    (h : ∀ ci ∈ l, HasDerivAt (fun x => f x ci) (f' ci) x0)
    (acc : ℝ → ℝ) (acc' : ℝ) (hacc : HasDerivAt acc acc' x0) :
    HasDerivAt (fun x => l.foldl (fun ll ci => ll + f x ci) (acc x))
      (l.foldl (fun g ci => g + f' ci) acc') x0 := by
  induction l generalizing acc acc' with
  | nil => simpa using hacc
  | cons y ys ih =>
    simp only [List.foldl_cons]
    apply ih (fun ci hci => h ci (List.mem_cons_of_mem _ hci)) (fun x => acc x + f x y) (acc' + f' y)
    exact hacc.add (h y List.mem_cons_self)

/-- derivative of a log-sum-exp: the derivatives of the two terms weighted by the softmax
weights, in the form `1 / (1 + exp (other - this))` in which `grad_ll` computes them -/
theorem hasDerivAt_lse {u v : ℝ → ℝ} {u' v' x : ℝ} (hu : HasDerivAt u u' x)
    (hv : HasDerivAt v v' x) :
    HasDerivAt (fun y => lse (u y) (v y))
      (u' / (1 + Real.exp (v x - u x)) + v' / (1 + Real.exp (u x - v x))) x := by
  simp only [lse_eq]
  have hea := Real.exp_pos (u x)
  have heb := Real.exp_pos (v x)
  have hs : HasDerivAt (fun y => Real.exp (u y) + Real.exp (v y))
      (Real.exp (u x) * u' + Real.exp (v x) * v') x := hu.exp.add hv.exp
  refine (hs.log (add_pos hea heb).ne').congr_deriv ?_
  -- `1 / (1 + e_v / e_u) = e_u / (e_u + e_v)`: the softmax weight
  rw [Real.exp_sub, Real.exp_sub, one_add_div hea.ne', one_add_div heb.ne', div_div_eq_mul_div,
    div_div_eq_mul_div, add_comm (Real.exp (v x)) (Real.exp (u x)), ← add_div]
  ring

theorem lnDpois_real (lg : ℕ → ℝ) (i : ℕ) (x : ℝ) :
    lnDpois lg i x = (i : ℝ) * Real.log x - lg i - x := rfl

theorem aTerm_real (lg : ℕ → ℝ) (w : ℝ) (i : ℕ) :
    aTerm lg w i = Real.log w + lnDpois lg i (ExpLog.ofNat 1) := rfl

theorem bTerm_real (lg : ℕ → ℝ) (w c : ℝ) (i : ℕ) :
    bTerm lg w c i = Real.log (1 - w) + lnDpois lg i c := by
  simp only [bTerm, add_eq, sub_eq, log_eq, ofNat_eq, Nat.cast_one]

theorem term_deriv_w (lg : ℕ → ℝ) (w0 c : ℝ) (h0 : 0 < w0) (h1 : w0 < 1) (i : ℕ) :
    HasDerivAt (fun w => lse (aTerm lg w i) (bTerm lg w c i))
      (1 / (1 + Real.exp (bTerm lg w0 c i - aTerm lg w0 i)) / w0
        - 1 / (1 + Real.exp (aTerm lg w0 i - bTerm lg w0 c i)) / (1 - w0)) w0 := by
  have da : HasDerivAt (fun w => aTerm lg w i) w0⁻¹ w0 := by
    simp only [aTerm_real]
    exact (Real.hasDerivAt_log h0.ne').add_const _
  have db : HasDerivAt (fun w => bTerm lg w c i) (-1 / (1 - w0)) w0 := by
    simp only [bTerm_real]
    exact (((hasDerivAt_id w0).const_sub 1).log (sub_pos.2 h1).ne').add_const _
  exact (hasDerivAt_lse da db).congr_deriv (by ring)

theorem term_deriv_c (lg : ℕ → ℝ) (w0 c : ℝ) (hc : 0 < c) (i : ℕ) :
    HasDerivAt (fun x => lse (aTerm lg w0 i) (bTerm lg w0 x i))
      (1 / (1 + Real.exp (aTerm lg w0 i - bTerm lg w0 c i)) * ((i : ℝ) / c - 1)) c := by
  have db : HasDerivAt (fun x => bTerm lg w0 x i) ((i : ℝ) * c⁻¹ - 1) c := by
    simp only [bTerm_real, lnDpois_real]
    exact ((((Real.hasDerivAt_log hc.ne').const_mul (i : ℝ)).sub_const (lg i)).sub
      (hasDerivAt_id c)).const_add _
  exact (hasDerivAt_lse (hasDerivAt_const c (aTerm lg w0 i)) db).congr_deriv (by ring)

theorem gradLL_eq (lg : ℕ → ℝ) (w0 c : ℝ) (counts : List ℝ) :
    gradLL lg w0 c counts
      = (counts.zipIdx.foldl (fun g ci => g + ci.1 *
            (1 / (1 + Real.exp (bTerm lg w0 c (ci.2 + 1) - aTerm lg w0 (ci.2 + 1))) / w0
              - 1 / (1 + Real.exp (aTerm lg w0 (ci.2 + 1) - bTerm lg w0 c (ci.2 + 1))) / (1 - w0))) 0,
         counts.zipIdx.foldl (fun g ci => g + ci.1 *
            (1 / (1 + Real.exp (aTerm lg w0 (ci.2 + 1) - bTerm lg w0 c (ci.2 + 1)))
              * (((ci.2 + 1 : ℕ) : ℝ) / c - 1))) 0) := by
  unfold gradLL
  simp only [add_eq, sub_eq, mul_eq, div_eq, exp_eq, ofNat_eq, Nat.cast_one, Nat.cast_zero]
  exact foldl_pair _ _ _ 0 0

theorem logLik_eq (lg : ℕ → ℝ) (w0 c : ℝ) (counts : List ℝ) :
    logLik lg w0 c counts
      = counts.zipIdx.foldl (fun ll ci =>
          ll + ci.1 * lse (aTerm lg w0 (ci.2 + 1)) (bTerm lg w0 c (ci.2 + 1))) 0 := by
  unfold logLik
  simp only [add_eq, mul_eq, ofNat_eq, Nat.cast_zero]

/-- **T20_grad_w0.** The first component of `grad_ll` is the partial derivative of the
mixture log-likelihood in the error weight `w0`. -/
theorem T20_grad_w0 (lg : ℕ → ℝ) (w0 c : ℝ) (counts : List ℝ)
    (h0 : 0 < w0) (h1 : w0 < 1) (_hc : 0 < c) :
    HasDerivAt (fun w => logLik lg w c counts) (gradLL lg w0 c counts).1 w0 := by
  rw [gradLL_eq]
  simp only [logLik_eq]
  exact hasDerivAt_foldl
    (fun w ci => ci.1 * lse (aTerm lg w (ci.2 + 1)) (bTerm lg w c (ci.2 + 1))) _ w0 counts.zipIdx
    (fun ci _ => (term_deriv_w lg w0 c h0 h1 (ci.2 + 1)).const_mul ci.1)
    (fun _ => 0) 0 (hasDerivAt_const w0 0)

/-- **T20_grad_c.** The second component of `grad_ll` is the partial derivative of the
mixture log-likelihood in the coverage `c`. -/
theorem T20_grad_c (lg : ℕ → ℝ) (w0 c : ℝ) (counts : List ℝ)
    (_h0 : 0 < w0) (_h1 : w0 < 1) (hc : 0 < c) :
    HasDerivAt (fun x => logLik lg w0 x counts) (gradLL lg w0 c counts).2 c := by
  rw [gradLL_eq]
  simp only [logLik_eq]
  exact hasDerivAt_foldl
    (fun x ci => ci.1 * lse (aTerm lg w0 (ci.2 + 1)) (bTerm lg w0 x (ci.2 + 1))) _ c counts.zipIdx
    (fun ci _ => (term_deriv_c lg w0 c hc (ci.2 + 1)).const_mul ci.1)
    (fun _ => 0) 0 (hasDerivAt_const c 0)

/-- non-vacuity: the hypotheses are satisfiable and both theorems apply -/
example (lg : ℕ → ℝ) :
    HasDerivAt (fun w => logLik lg w 2 [3, 1]) (gradLL lg (1 / 2) 2 [3, 1]).1 (1 / 2)
    ∧ HasDerivAt (fun x => logLik lg (1 / 2) x [3, 1]) (gradLL lg (1 / 2) 2 [3, 1]).2 2 :=
  ⟨T20_grad_w0 lg (1 / 2) 2 [3, 1] (by norm_num) (by norm_num) (by norm_num),
   T20_grad_c lg (1 / 2) 2 [3, 1] (by norm_num) (by norm_num) (by norm_num)⟩

end SkaModel.Props.C20Real
