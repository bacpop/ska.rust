/-
The file list (`-f`) is read back as written: `Impl/FileList.lean` (model of
`get_input_list` / `read_name_list`, tied to the code by the `filelist`
operation).
-/
import SkaModel.Lemmas.FileListLemmas
namespace SkaModel.Props.C03FileList
open SkaModel.FileList SkaModel.FileListLemmas

/-- a usable field: non-empty, no white space (white space includes '\n' and '\r') -/
def Field (f : List Char) : Prop := f ≠ [] ∧ ∀ c ∈ f, isWs c = false

/-- a separator: non-empty white space without a line break -/
def Sep (s : List Char) : Prop := s ≠ [] ∧ (∀ c ∈ s, isWs c = true) ∧ '\n' ∉ s

/-- optional padding: white space without a line break -/
def Pad (s : List Char) : Prop := (∀ c ∈ s, isWs c = true) ∧ '\n' ∉ s

def EntryOK (e : Entry) : Prop := Field e.1 ∧ Field e.2.1 ∧ (∀ c, e.2.2 = some c → Field c)

/-- the usual rendering: tab-separated fields, one line per entry -/
def renderEntry (e : Entry) : List Char :=
  e.1 ++ '\t' :: e.2.1 ++ (match e.2.2 with | none => [] | some c => '\t' :: c)

def render (es : List Entry) : List Char := es.flatMap (fun e => renderEntry e ++ ['\n'])

/-- `split_whitespace`, compositional: a field followed by white space is the next piece -/
theorem T03_split_field (f s rest : List Char) (hf : Field f) (hs : s ≠ [] ∧ ∀ c ∈ s, isWs c = true) :
    splitWs (f ++ s ++ rest) = f :: splitWs rest := by
  exact splitWs_field f s rest hf.1 hf.2 hs.1 hs.2

/-- leading white space is dropped -/
theorem T03_split_pad (p rest : List Char) (hp : ∀ c ∈ p, isWs c = true) :
    splitWs (p ++ rest) = splitWs rest := by
  exact splitWsGo_ws_nil p rest hp

/-- a last field, with or without trailing white space -/
theorem T03_split_last (f q : List Char) (hf : Field f) (hq : ∀ c ∈ q, isWs c = true) :
    splitWs (f ++ q) = [f] := by
  exact splitWs_last f q hf.1 hf.2 hq

theorem Field.nonl {f : List Char} (h : Field f) : '\n' ∉ f :=
  fun hm => Bool.false_ne_true ((h.2 _ hm).symm.trans isWs_nl)

theorem splitWs_renderEntry (e : Entry) (q : List Char) (he : EntryOK e)
    (hq : ∀ x ∈ q, isWs x = true) :
    splitWs (renderEntry e ++ q) = e.1 :: e.2.1 :: (match e.2.2 with | none => [] | some x => [x]) := by
  obtain ⟨a, b, c⟩ := e
  obtain ⟨ha, hb, hc⟩ := he
  have htab : ['\t'] ≠ [] ∧ ∀ x ∈ ['\t'], isWs x = true :=
    ⟨List.cons_ne_nil _ _, fun x hx => by rw [List.mem_singleton.1 hx]; exact isWs_tab⟩
  cases c with
  | none =>
    have e : renderEntry (a, b, none) ++ q = a ++ ['\t'] ++ (b ++ q) := by simp [renderEntry]
    rw [e, T03_split_field a _ _ ha htab, T03_split_last b q hb hq]
  | some x =>
    have e : renderEntry (a, b, some x) ++ q = a ++ ['\t'] ++ (b ++ ['\t'] ++ (x ++ q)) := by
      simp [renderEntry]
    rw [e, T03_split_field a _ _ ha htab, T03_split_field b _ _ hb htab,
      T03_split_last x q (hc x rfl) hq]

theorem parseLine_renderEntry (e : Entry) (q : List Char) (he : EntryOK e)
    (hq : ∀ x ∈ q, isWs x = true) : parseLine (renderEntry e ++ q) = some e := by
  unfold parseLine
  rw [splitWs_renderEntry e q he hq]
  obtain ⟨a, b, c⟩ := e
  cases c <;> rfl

theorem renderEntry_nonl (e : Entry) (he : EntryOK e) : '\n' ∉ renderEntry e := by
  obtain ⟨a, b, c⟩ := e
  obtain ⟨ha, hb, hc⟩ := he
  have ht : '\n' ≠ '\t' := by decide
  cases c with
  | none => simp [renderEntry, ha.nonl, hb.nonl, ht]
  | some x => simp [renderEntry, ha.nonl, hb.nonl, (hc x rfl).nonl, ht]

theorem renderEntry_ne_nil (e : Entry) : renderEntry e ≠ [] := by
  simp [renderEntry]

/-- entries written one per line, each line ended by white space `q` and a line break, followed
by a `tail` that parses on its own, are read back in order. `q = []` is `render`, `q = ['\r']`
is `renderCr`; a non-empty `tail` is a last line without line break. -/
theorem parseList_lines (q : List Char) (hq : ∀ x ∈ q, isWs x = true) (hnl : '\n' ∉ q)
    (es : List Entry) (h : ∀ e ∈ es, EntryOK e) (tail : List Char) (ts : List Entry)
    (ht : parseList tail = some ts) :
    parseList (es.flatMap (fun e => renderEntry e ++ (q ++ ['\n'])) ++ tail) = some (es ++ ts) := by
  induction es with
  | nil => exact ht
  | cons e es ih =>
    have he : EntryOK e := h e List.mem_cons_self
    rw [List.flatMap_cons, List.append_assoc, List.append_assoc, List.append_assoc,
      ← List.append_assoc, List.singleton_append]
    refine parseList_line _ _ e _ ?_ (parseLine_renderEntry e q he hq)
      (ih fun x hx => h x (List.mem_cons_of_mem _ hx))
    exact fun hm => (List.mem_append.1 hm).elim (renderEntry_nonl e he) hnl

/-- a written list is read back exactly (with CRLF line ends: `T03_filelist_roundtrip_crlf`) -/
theorem T03_filelist_roundtrip (es : List Entry) (h : ∀ e ∈ es, EntryOK e) :
    parseList (render es) = some es := by
  have := parseList_lines [] (by simp) (by simp) es h [] [] rfl
  rwa [List.append_nil, List.append_nil] at this

def renderCr (es : List Entry) : List Char := es.flatMap (fun e => renderEntry e ++ ['\r', '\n'])

theorem T03_filelist_roundtrip_crlf (es : List Entry) (h : ∀ e ∈ es, EntryOK e) :
    parseList (renderCr es) = some es := by
  have := parseList_lines ['\r'] (fun x hx => by rw [List.mem_singleton.1 hx]; exact isWs_cr)
    (by decide) es h [] [] rfl
  rwa [List.append_nil, List.append_nil] at this

/-- a missing final line break changes nothing -/
theorem T03_filelist_no_final_newline (es : List Entry) (e : Entry) (h : ∀ x ∈ es, EntryOK x) (he : EntryOK e) :
    parseList (render es ++ renderEntry e) = some (es ++ [e]) := by
  refine parseList_lines [] (by simp) (by simp) es h (renderEntry e) [e] ?_
  refine parseList_last _ e (renderEntry_ne_nil e) (renderEntry_nonl e he) ?_
  have := parseLine_renderEntry e [] he (by simp)
  rwa [List.append_nil] at this

/-- a blank line anywhere is the `panic!`: the whole list is refused, never silently shortened -/
theorem T03_filelist_blank_line (a b : List Char) (pad : List Char) (hp : Pad pad) (ha : a = [] ∨ a.getLast? = some '\n') :
    parseList (a ++ pad ++ '\n' :: b) = none := by
  exact parseList_blank a b pad hp.1 hp.2 ha

/-- names file of `ska delete`: a written list is read back as the first field of every line -/
theorem T03_namelist (es : List Entry) (h : ∀ e ∈ es, EntryOK e) :
    nameList (render es) = es.map (·.1) := by
  induction es with
  | nil => rfl
  | cons e es ih =>
    have he : EntryOK e := h e List.mem_cons_self
    have hsp := splitWs_renderEntry e [] he (by simp)
    rw [List.append_nil] at hsp
    have hr : render (e :: es) = renderEntry e ++ '\n' :: render es := by
      simp [render]
    rw [hr, nameList_line _ _ e.1 (renderEntry_nonl e he) (by rw [hsp]; rfl),
      ih fun x hx => h x (List.mem_cons_of_mem _ hx)]
    rfl

example : parseList "s1\ta.fa\ns2\tr_1.fq.gz\tr_2.fq.gz\n".toList
    = some [("s1".toList, "a.fa".toList, none), ("s2".toList, "r_1.fq.gz".toList, some "r_2.fq.gz".toList)] := by
  decide

end SkaModel.Props.C03FileList
