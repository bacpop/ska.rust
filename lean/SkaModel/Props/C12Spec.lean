/-
C12 — the read pipeline against the counting specification.

`Props/C12.lean` shows that `buildReads` is determined by the observation stream the iterator
model presents to the count filter (`T12_buildReads`). Here that stream is identified with the
specification's (`T12_readObs`, `T12_allObs`): the iterator states that pass `middle_base_qual`
are exactly `Spec.passWindows`, each presenting key / base / palindrome flag of `Spec.obs` /
`Spec.isPalin` at its window, the ntHash of the window, and `obsClass` = `Spec.kmerClass`.
-/
import SkaModel.Props.C12
import SkaModel.Props.C01Iter
import SkaModel.Props.C16Roll
import SkaModel.Props.C16Hash
import SkaModel.Lemmas.ReadsDict
import SkaModel.Props.C01Dict

namespace SkaModel.Props.C12

open SkaModel SkaModel.Spec SkaModel.KF SkaModel.RDS SkaModel.Props.C16

def windowBytes (k : Nat) (seq : Array UInt8) (j : Nat) : List UInt8 :=
  (List.range k).map (fun t => seq.getD (j + t) 0)

/-- what the specification says the window at `j` presents to the count filter: the
from-scratch ntHash of its bytes, and key / middle base / palindrome flag of `Spec.obs` -/
def specObs (k : Nat) (rc : Bool) (seq : Array UInt8) (j : Nat) : Obs :=
  { hash := (NtHash.new (windowBytes k seq j) k rc).curr
    kmer := (obs k rc seq j).1
    base := (obs k rc seq j).2.1
    palin := isPalin k rc seq j }

theorem obsClass_specObs (k : Nat) (rc : Bool) (seq : Array UInt8) (j : Nat) :
    obsClass (specObs k rc seq j) = kmerClass k rc seq j := by
  unfold obsClass kmerClass specObs
  simp only
  cases isPalin k rc seq j <;> rfl

/-- the position test of the read iterator, in the specification's words -/
theorem T12_okAt (W k : Nat) (rc : Bool) (minQual : Nat) (qf : QualFilter) (r : Read) (p : Nat) :
    (readConf W k rc minQual qf r).okAt p =
      (validBase (r.seq.getD p 0) && (ruleOf qf != .strict || decide (qualAt r.qual p ≥ minQual))) := by
  rw [readConf_okAt]; rfl

/-- `middle_base_qual` of a state of the read iterator, in the specification's words -/
theorem T12_middleBaseQual (W k : Nat) (rc : Bool) (hk : ValidK k) (hw : WidthOk W k)
    (minQual : Nat) (qf : QualFilter) (r : Read) :
    ∀ s ∈ (readConf W k rc minQual qf r).states,
      (readConf W k rc minQual qf r).middleBaseQual s =
        (ruleOf qf == .none || decide (qualAt r.qual (s.index + 1 - k + (k - 1) / 2) ≥ minQual)) := by
  intro s hs
  rw [readConf_middleBaseQual, (T16_states_obs (readConf W k rc minQual qf r) hk hw s hs).2.2]
  rfl

/-- the observation a state of the read iterator presents, in the specification's words -/
theorem T12_obsOfState (W k : Nat) (rc : Bool) (hk : ValidK k) (hw : WidthOk W k)
    (minQual : Nat) (qf : QualFilter) (r : Read) :
    ∀ s ∈ (readConf W k rc minQual qf r).states,
      obsOfState (readConf W k rc minQual qf r) s = specObs k rc r.seq (s.index + 1 - k) := by
  intro s hs
  obtain ⟨e1, e2, _⟩ := T16_states_obs (readConf W k rc minQual qf r) hk hw s hs
  have e3 := T16_get_hash (readConf W k rc minQual qf r) hk hw rfl s hs
  unfold obsOfState specObs
  rw [e1, e2, e3]
  rfl

/-- **`T12_readObs`**: for a valid `k` and a matching width, the observations the read branch
presents to the count filter for one read are, in order, exactly the specification's: one per
window of `Spec.passWindows` (rule none / middle / strict for `--qual-filter` no-filter /
middle / strict), with the ntHash of the window's bytes, and key, middle base and palindrome
flag of `Spec.obs` / `Spec.isPalin` there. -/
theorem T12_readObs (W k : Nat) (rc : Bool) (hk : ValidK k) (hw : WidthOk W k)
    (minQual : Nat) (qf : QualFilter) (r : Read) :
    readObs W k rc minQual qf r =
      (passWindows k (ruleOf qf) minQual r.seq r.qual).map (specObs k rc r.seq) := by
  have hstart : (readConf W k rc minQual qf r).states.map (fun s => s.index + 1 - k)
      = windowsBy k r.seq.size (okPos (ruleOf qf) minQual r.seq r.qual) := by
    rw [← readConf_okAt W k rc minQual qf r]
    exact C01.states_start (readConf W k rc minQual qf r) hk.pos
  -- both the quality test and the observation depend on a state only through its window start
  rw [passWindows_eq, ← hstart, List.filter_map, List.map_map]
  refine (congrArg (List.map (obsOfState (readConf W k rc minQual qf r)))
    (List.filter_congr (T12_middleBaseQual W k rc hk hw minQual qf r))).trans ?_
  exact List.map_congr_left fun s hs =>
    T12_obsOfState W k rc hk hw minQual qf r s (List.mem_filter.mp hs).1

/-- the classes of the observations of one read are the specification's `kmerClass`es -/
theorem T12_readObs_class (W k : Nat) (rc : Bool) (hk : ValidK k) (hw : WidthOk W k)
    (minQual : Nat) (qf : QualFilter) (r : Read) :
    (readObs W k rc minQual qf r).map obsClass =
      (passWindows k (ruleOf qf) minQual r.seq r.qual).map (kmerClass k rc r.seq) := by
  rw [T12_readObs W k rc hk hw, List.map_map]
  exact List.map_congr_left (fun j _ => obsClass_specObs k rc r.seq j)

/-- a FASTQ record as the specification sees it: (sequence, quality string) -/
def readPair (r : Read) : Array UInt8 × Array UInt8 := (r.seq, r.qual)

def specAllObs (k : Nat) (rc : Bool) (rule : QualRule) (minQual : Nat)
    (reads : List (Array UInt8 × Array UInt8)) : List Obs :=
  reads.flatMap (fun r => (passWindows k rule minQual r.1 r.2).map (specObs k rc r.1))

/-- **`T12_allObs`**: the stream `buildReads` presents to the count filter (both files, in order)
is the specified one -/
theorem T12_allObs (W k : Nat) (rc : Bool) (hk : ValidK k) (hw : WidthOk W k)
    (minQual : Nat) (qf : QualFilter) (file1 file2 : List Read) :
    allObs W k rc minQual qf file1 file2 =
      specAllObs k rc (ruleOf qf) minQual ((file1 ++ file2).map readPair) := by
  unfold allObs specAllObs
  rw [List.flatMap_map]
  congr 1
  funext r
  exact T12_readObs W k rc hk hw minQual qf r

/-- (class, key, base set) of an observation — an element of `Spec.readObservations` -/
def trip3 (o : Obs) : (Nat × Nat) × Nat × Nat := (obsClass o, maskO (tripO o))

theorem readObservations_eq (k : Nat) (rc : Bool) (rule : QualRule) (minQual : Nat)
    (reads : List (Array UInt8 × Array UInt8)) :
    readObservations k rc rule minQual reads = (specAllObs k rc rule minQual reads).map trip3 := by
  unfold readObservations specAllObs
  rw [List.map_flatMap]
  congr 1
  funext r
  rw [List.map_map]
  exact List.map_congr_left (fun j _ => Prod.ext (obsClass_specObs k rc r.1 j).symm rfl)

theorem mem_specAllObs {k : Nat} {rc : Bool} {rule : QualRule} {minQual : Nat}
    {reads : List (Array UInt8 × Array UInt8)} {o : Obs} (h : o ∈ specAllObs k rc rule minQual reads) :
    ∃ (seq : Array UInt8) (j : Nat), o = specObs k rc seq j := by
  unfold specAllObs at h
  obtain ⟨r, _, ho⟩ := List.mem_flatMap.1 h
  obtain ⟨j, _, rfl⟩ := List.mem_map.1 ho
  exact ⟨r.1, j, rfl⟩

theorem specAllObs_wf (k : Nat) (rc : Bool) (rule : QualRule) (minQual : Nat)
    (reads : List (Array UInt8 × Array UInt8)) :
    ∀ o ∈ specAllObs k rc rule minQual reads, (tripO o).2.1 < 4 ∧ ((tripO o).2.2 = true ↔ C01.PalinKey k rc (tripO o).1) := by
  intro o ho
  obtain ⟨seq, j, rfl⟩ := mem_specAllObs ho
  exact C01.obs_wf k rc seq j

theorem maskO_of_class {k : Nat} {rc : Bool} {rule : QualRule} {minQual : Nat}
    {reads : List (Array UInt8 × Array UInt8)} {o o' : Obs}
    (ho : o ∈ specAllObs k rc rule minQual reads) (ho' : o' ∈ specAllObs k rc rule minQual reads)
    (hc : obsClass o = obsClass o') : maskO (tripO o) = maskO (tripO o') := by
  obtain ⟨seq, j, rfl⟩ := mem_specAllObs ho
  obtain ⟨seq', j', rfl⟩ := mem_specAllObs ho'
  exact maskO_of_obsClass (obs_base_lt k rc seq j) (obs_base_lt k rc seq' j')
    (C01.palin_of_key k rc seq seq' j j' (congrArg (fun x : Nat × Nat => x.1) hc)) hc

/-- the (key, base set) pairs the specification keeps: those of the observations whose class
occurs at least `max 1 minCount` times -/
def specKept (minCount : Nat) (O : List ((Nat × Nat) × Nat × Nat)) : List (Nat × Nat) :=
  (O.filter (fun x => decide ((O.filter (fun y => y.1 == x.1)).length ≥ max 1 minCount))).map (fun x => x.2)

theorem specReadsDict_eq (k : Nat) (rc : Bool) (rule : QualRule) (minQual minCount : Nat)
    (reads : List (Array UInt8 × Array UInt8)) :
    specReadsDict k rc rule minQual minCount reads =
      sortByKey (·.1) ((distinctKeys (specKept minCount (readObservations k rc rule minQual reads))).map
        (fun key => (key, letterOfMask (maskOf (specKept minCount (readObservations k rc rule minQual reads)) key)))) :=
  rfl

/-- the `==` on classes is the one `T12_buildReads` uses, derived from decidable equality -/
def selected (m : Nat) (A : List Obs) : List Obs :=
  kept A (@specRun (Nat × Nat) instBEqOfDecidableEq m [] (A.map obsClass))

theorem selected_sub {m : Nat} {A : List Obs} {o : Obs} (ho : o ∈ selected m A) : o ∈ A := by
  obtain ⟨i, hi, _⟩ := (mem_kept _ _ _).1 ho
  exact List.mem_of_getElem? hi

theorem kept_set_eq {m : Nat} (hm : m ≤ 65535) {A : List Obs}
    (hA : ∀ o ∈ A, ∀ o' ∈ A, obsClass o = obsClass o' → maskO (tripO o) = maskO (tripO o'))
    (x : Nat × Nat) :
    x ∈ ((selected m A).map tripO).map maskO ↔ x ∈ specKept m (A.map trip3) := by
  have hcount : ∀ c, ((A.map trip3).filter (fun y => y.1 == c)).length
      = @List.count (Nat × Nat) instBEqOfDecidableEq c (A.map obsClass) :=
    fun c => filter_class_length instBEqProd A obsClass (fun o => maskO (tripO o)) c
  have hcls : ∀ c, (∃ o ∈ selected m A, obsClass o = c) ↔
      max 1 m ≤ @List.count (Nat × Nat) instBEqOfDecidableEq c (A.map obsClass) :=
    fun c => T12_dict_classes obsClass m hm A c
  unfold specKept
  simp only [List.mem_map, List.mem_filter, decide_eq_true_eq, hcount]
  constructor
  · rintro ⟨t, ⟨o, ho, rfl⟩, rfl⟩
    exact ⟨trip3 o, ⟨⟨o, selected_sub ho, rfl⟩, (hcls (obsClass o)).1 ⟨o, ho, rfl⟩⟩, rfl⟩
  · rintro ⟨y, ⟨⟨o, ho, rfl⟩, hc⟩, rfl⟩
    obtain ⟨o', ho', hcls'⟩ := (hcls (obsClass o)).2 hc
    exact ⟨tripO o', ⟨o', ho', rfl⟩, hA o' (selected_sub ho') o ho hcls'⟩

/-- **`T12_spec`**. For a valid `k`, a matching width and `minCount ≤ 65535`: if on the specified
observation stream (every window of `Spec.passWindows` of every read of both files, presenting the
ntHash of its bytes) two observations have the same hash exactly when they have the same
`Spec.kmerClass` (`HashFaithful`), and no Bloom check reports a hash as seen that has not occurred
(`NoFP`), then `buildReads` returns exactly the specification's dictionary — the split k-mers with the
middle bases of the full k-mers (up to strand) occurring at least `max 1 minCount` times among the
passing windows — or "no valid sequence" when that dictionary is empty; it never panics. -/
theorem T12_spec (W k : Nat) (rc : Bool) (hk : ValidK k) (hw : WidthOk W k)
    (minCount minQual : Nat) (qf : QualFilter) (file1 file2 : List Read) (hm : minCount ≤ 65535)
    (hfaith : HashFaithful obsClass (specAllObs k rc (ruleOf qf) minQual ((file1 ++ file2).map readPair)))
    (hfp : NoFP minCount ((specAllObs k rc (ruleOf qf) minQual ((file1 ++ file2).map readPair)).map (·.hash))) :
    buildReads W k rc minCount minQual qf file1 file2 =
      if specReadsDict k rc (ruleOf qf) minQual minCount ((file1 ++ file2).map readPair) = [] then .noValid
      else .dict (specReadsDict k rc (ruleOf qf) minQual minCount ((file1 ++ file2).map readPair)) := by
  have hall := T12_allObs W k rc hk hw minQual qf file1 file2
  rw [T12_buildReads obsClass W k rc minCount minQual qf file1 file2 (by rw [hall]; exact hfaith)
    (by rw [hall]; exact hfp), hall]
  have hwfA := specAllObs_wf k rc (ruleOf qf) minQual ((file1 ++ file2).map readPair)
  have hset := kept_set_eq (m := minCount) hm
    (A := specAllObs k rc (ruleOf qf) minQual ((file1 ++ file2).map readPair))
    (fun _ ho _ ho' => maskO_of_class ho ho')
  rw [specReadsDict_eq, readObservations_eq]
  generalize specAllObs k rc (ruleOf qf) minQual ((file1 ++ file2).map readPair) = A at hwfA hset ⊢
  show (match (selected minCount A).foldlM addObs [] with
    | none => BuildResult.panicked
    | some [] => BuildResult.noValid
    | some d => BuildResult.dict (sortByKey (·.1) d)) = _
  -- the dictionary fold over the selected observations
  have hwf : WF (C01.PalinKey k rc) ((selected minCount A).map tripO) := by
    intro t ht
    obtain ⟨o, ho, rfl⟩ := List.mem_map.1 ht
    exact hwfA o (selected_sub ho)
  obtain ⟨d, hd, hinv⟩ := foldO_inv (P := C01.PalinKey k rc) _ [] [] hwf DictInv.nil
  rw [foldlM_addObs, hd]
  -- … holds the letters of the specification's base sets
  have hinv' : DictInv d (specKept minCount (A.map trip3)) :=
    DictInv.congr hinv (fun key => maskOf_congr_mem hset key)
  have hne : ∀ o ∈ specKept minCount (A.map trip3), o.2 ≠ 0 := by
    intro x hx
    obtain ⟨t, ht, rfl⟩ := List.mem_map.1 ((hset x).2 hx)
    exact maskO_ne_zero (hwf t ht).1
  rw [← dict_sorted_eq hinv' hne]
  cases d with
  | nil => rfl
  | cons p rest =>
    rw [if_neg fun h => List.cons_ne_nil p rest ((sortByKey_eq_nil_iff _ _).1 h)]

private def exRead : Read := { seq := #[65, 67, 71, 84, 84], qual := #[73, 73, 35, 73, 73] }

private theorem exRead_windows (rule : QualRule) :
    passWindows 5 rule 20 exRead.seq exRead.qual = if rule = .none then [0] else [] := by
  cases rule <;> decide

private theorem ex_stream (rc : Bool) :
    specAllObs 5 rc .none 20 (([exRead] ++ [exRead]).map readPair)
      = List.replicate 2 (specObs 5 rc exRead.seq 0) := by
  simp only [specAllObs, List.cons_append, List.nil_append, List.map_cons, List.map_nil, readPair,
    List.flatMap_cons, List.flatMap_nil, exRead_windows, ↓reduceIte, List.append_nil, List.replicate]

/-- the same read (`ACGTT`, one window, k = 5) in both files, no quality filter: the hypotheses of
`T12_spec` hold for every `minCount ≤ 65535` (one hash value, one class), so `buildReads` returns the
specification's dictionary; with `--qual-filter middle` and a bad middle base the stream is empty. -/
example (rc : Bool) (m : Nat) (hm : m ≤ 65535) :
    buildReads 64 5 rc m 20 .noFilter [exRead] [exRead] =
      if specReadsDict 5 rc .none 20 m (([exRead] ++ [exRead]).map readPair) = [] then .noValid
      else .dict (specReadsDict 5 rc .none 20 m (([exRead] ++ [exRead]).map readPair)) := by
  apply T12_spec 64 5 rc (by unfold ValidK; omega) (by unfold WidthOk; omega) m 20 .noFilter _ _ hm
  · show HashFaithful obsClass (specAllObs 5 rc .none 20 _)
    rw [ex_stream]
    intro a ha b hb
    rw [(List.mem_replicate.1 ha).2, (List.mem_replicate.1 hb).2]
    simp
  · show NoFP m ((specAllObs 5 rc .none 20 _).map (·.hash))
    rw [ex_stream, List.map_replicate]
    exact noFP_replicate m _ 2

end SkaModel.Props.C12
