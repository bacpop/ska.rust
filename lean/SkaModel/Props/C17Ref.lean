/-
C17 / C11 on the model of `ska lo -r` (`SkaModel/Impl/SkaloRef.lean`): `most_frequent_position`, `scan_variants`,
the (position, column) pairs `analyseRef` reports and their independence of the iteration order of the group
maps (C11), the k-mer map of the reference.  The lemmas behind them: `SkaModel/Lemmas/LORef.lean`.
-/
import SkaModel.Lemmas.LORef
import SkaModel.Props.C17Pipe

namespace SkaModel.Props.C17R

open SkaModel SkaModel.Skalo

/-- the count the code computes is `List.count` -/
theorem T17_mfp_count (xs : List Nat) (v : Nat) : (xs.filter (· == v)).length = xs.count v :=
  List.count_eq_length_filter.symm

/-- **T17_mfp_some**: a reported winner `p` with count `c ≠ 0` is a vote, `c` is its number of
votes, at least 10, and every other value has strictly fewer votes -/
theorem T17_mfp_some (xs : List Nat) (p c : Nat) (h : mostFrequentPosition xs = (p, c)) (hc : c ≠ 0) :
    p ∈ xs ∧ c = xs.count p ∧ 10 ≤ c ∧ ∀ q ∈ xs, q ≠ p → xs.count q < c :=
  LOR.mfp_some_spec xs p c h hc

/-- **T17_mfp_none_iff**: no winner exactly when there are no votes, or no value has 10 votes, or
two different values share the largest count -/
theorem T17_mfp_none_iff (xs : List Nat) :
    (mostFrequentPosition xs).2 = 0 ↔
      (xs = [] ∨ (∀ v ∈ xs, xs.count v < 10) ∨
        ∃ a ∈ xs, ∃ b ∈ xs, a ≠ b ∧ xs.count a = xs.count b ∧ ∀ v ∈ xs, xs.count v ≤ xs.count a) := by
  constructor
  · intro h
    apply Classical.byContradiction
    intro hn
    have hx : xs ≠ [] := fun e => hn (Or.inl e)
    obtain ⟨v, hv, hvc⟩ := LOR.best_attained xs hx
    have h10 : 10 ≤ xs.count v := by
      apply Classical.byContradiction
      intro hlt
      refine hn (Or.inr (Or.inl fun w hw => ?_))
      have := LOR.count_le_best xs w hw
      omega
    have hmax : ∀ q ∈ xs, q ≠ v → xs.count q < xs.count v := by
      intro q hq hne
      have hle := LOR.count_le_best xs q hq
      apply Classical.byContradiction
      intro hnl
      refine hn (Or.inr (Or.inr ⟨v, hv, q, hq, fun e => hne e.symm, by omega, fun w hw => ?_⟩))
      rw [hvc]
      exact LOR.count_le_best xs w hw
    rw [LOR.mfp_complete xs v h10 hmax] at h
    exact absurd h (by omega)
  · intro h
    apply Classical.byContradiction
    intro h0
    obtain ⟨hpx, hpc, h10, hmax⟩ :=
      LOR.mfp_some_spec xs (mostFrequentPosition xs).1 (mostFrequentPosition xs).2 rfl h0
    rcases h with h | h | ⟨a, ha, b, hb, hab, hc, hm⟩
    · exact absurd (h ▸ hpx) List.not_mem_nil
    · have := h _ hpx
      omega
    · have hpa := hm _ hpx
      by_cases hap : a = (mostFrequentPosition xs).1
      · have := hmax b hb (fun e => hab (hap.trans e.symm))
        rw [hap] at hc
        omega
      · have := hmax a ha hap
        omega

/-- without a winner the result is `(0, 0)` -/
theorem T17_mfp_none (xs : List Nat) (h : (mostFrequentPosition xs).2 = 0) :
    mostFrequentPosition xs = (0, 0) := by
  rw [LOR.mfp_eq] at h ⊢
  split
  · rename_i p hp
    rw [hp] at h
    simp only at h
    split
    · rfl
    · rename_i hb
      rw [if_neg hb] at h
      simp only at h
      omega
  · rfl

/-- converse of `T17_mfp_some`: a value with at least 10 votes and strictly more than any other is
reported with its count -/
theorem T17_mfp_complete (xs : List Nat) (p : Nat) (hp : 10 ≤ xs.count p)
    (hmax : ∀ q ∈ xs, q ≠ p → xs.count q < xs.count p) :
    mostFrequentPosition xs = (p, xs.count p) :=
  LOR.mfp_complete xs p hp hmax

/-- **T17_mfp_order**: the result does not depend on the order of the votes (the order of the
distinct values `eraseDups` yields does, the result does not) -/
theorem T17_mfp_order (xs ys : List Nat) (hp : xs.Perm ys) :
    mostFrequentPosition xs = mostFrequentPosition ys := by
  by_cases h0 : (mostFrequentPosition xs).2 = 0
  · by_cases h1 : (mostFrequentPosition ys).2 = 0
    · rw [T17_mfp_none xs h0, T17_mfp_none ys h1]
    · exact LOR.mfp_perm_of_ne hp.symm h1
  · exact (LOR.mfp_perm_of_ne hp h0).symm

/-- **T17_fewer_than_ten_votes** (known behaviour of the tool): fewer than 10 votes never position
a group -/
theorem T17_fewer_than_ten_votes (xs : List Nat) (h : xs.length < 10) : mostFrequentPosition xs = (0, 0) :=
  T17_mfp_none xs ((T17_mfp_none_iff xs).mpr
    (Or.inr (Or.inl fun _ _ => Nat.lt_of_le_of_lt List.count_le_length h)))

example : mostFrequentPosition [2, 2, 2, 2, 2, 2, 2, 2, 2, 2, 2, 4, 2, 2, 2] = (2, 14) := by decide
example : mostFrequentPosition [2, 4, 2, 2, 2, 2, 2, 2, 2, 2, 2] = mostFrequentPosition [2, 2, 2, 2, 2, 2, 2, 2, 2, 2, 4] :=
  T17_mfp_order _ _ (by decide)
example : mostFrequentPosition [1, 2, 1, 2, 1, 2, 1, 2, 1, 2, 1, 2, 1, 2, 1, 2, 1, 2, 1, 2] = (0, 0) := by decide
example : mostFrequentPosition [7, 7, 7, 7, 7, 7, 7, 7, 7] = (0, 0) := T17_fewer_than_ten_votes _ (by decide)

/-- **T17_scan_found**: a position is reported for the forward strand only when its winner has
(at least 10 and) strictly more votes than the winner of the reverse strand (0 without one), and
symmetrically; `R` are the votes of the reverse complements.  `T17_scan_eq` gives the converse. -/
theorem T17_scan_found (W k : Nat) (kmap : List (Nat × List Nat)) (vs : List Variant) (p : Nat) (fwd : Bool)
    (h : scanVariants W k kmap vs = some (true, p, fwd)) :
    ∃ rcs, vs.mapM (fun v => revComplStr v.1) = some rcs ∧
      let F := vs.flatMap (fun v => strandVotes W k kmap v.1)
      let R := rcs.flatMap (fun s => strandVotes W k kmap s)
      (fwd = true → ∃ c, mostFrequentPosition F = (p, c) ∧ 10 ≤ c ∧ (mostFrequentPosition R).2 < c) ∧
      (fwd = false → ∃ c, mostFrequentPosition R = (p, c) ∧ 10 ≤ c ∧ (mostFrequentPosition F).2 < c) := by
  obtain ⟨rcs, hr, h⟩ := LOR.scan_eq_some h
  exact ⟨rcs, hr, LOR.scanOf_true _ _ p fwd h⟩

/-- **T17_scan_not_found**: no position is reported only when neither strand has a winner or both
winners have the same number of votes -/
theorem T17_scan_not_found (W k : Nat) (kmap : List (Nat × List Nat)) (vs : List Variant) (p : Nat) (fwd : Bool)
    (h : scanVariants W k kmap vs = some (false, p, fwd)) :
    p = 0 ∧ fwd = true ∧
    ∃ rcs, vs.mapM (fun v => revComplStr v.1) = some rcs ∧
      let F := vs.flatMap (fun v => strandVotes W k kmap v.1)
      let R := rcs.flatMap (fun s => strandVotes W k kmap s)
      (((mostFrequentPosition F).2 = 0 ∧ (mostFrequentPosition R).2 = 0) ∨
       ((mostFrequentPosition F).2 ≠ 0 ∧ (mostFrequentPosition F).2 = (mostFrequentPosition R).2)) := by
  obtain ⟨rcs, hr, h⟩ := LOR.scan_eq_some h
  obtain ⟨h1, h2, h3⟩ := LOR.scanOf_false _ _ p fwd h
  exact ⟨h1, h2, rcs, hr, h3⟩

/-- **T17_scan_none_iff**: `scan_variants` panics (in `rev_compl`) exactly when some variant contains
a byte other than A, C, G, T -/
theorem T17_scan_none_iff (W k : Nat) (kmap : List (Nat × List Nat)) (vs : List Variant) :
    scanVariants W k kmap vs = none ↔ ∃ v ∈ vs, ∃ b ∈ v.1, isACGT b = false := by
  have h : scanVariants W k kmap vs = none ↔ vs.mapM (fun v => revComplStr v.1) = none := by
    rw [LOR.scan_eq]
    cases vs.mapM (fun v => revComplStr v.1) <;> simp
  rw [h, LO.mapM_eq_none_iff]
  simp only [LOR.revComplStr_none_iff]

/-- the decision as a closed form of the two winners -/
theorem T17_scan_eq (W k : Nat) (kmap : List (Nat × List Nat)) (vs : List Variant) (rcs : List (List UInt8))
    (hr : vs.mapM (fun v => revComplStr v.1) = some rcs) :
    let f := mostFrequentPosition (vs.flatMap (fun v => strandVotes W k kmap v.1))
    let r := mostFrequentPosition (rcs.flatMap (fun s => strandVotes W k kmap s))
    scanVariants W k kmap vs = some (
      if f.2 = 0 then (if r.2 = 0 then (false, 0, true) else (true, r.1, false))
      else if r.2 = 0 then (true, f.1, true)
      else if f.2 = r.2 then (false, 0, true)
      else if f.2 > r.2 then (true, f.1, true) else (true, r.1, false)) := by
  intro f r
  rw [LOR.scan_eq, hr, Option.bind_some, LOR.scanOf_eq]

/-- reference AACAGATCC (k = 2), an SNP bubble AACA[G|T]ATCC -/
def exGenome : List UInt8 := [65, 65, 67, 65, 71, 65, 84, 67, 67]
def exV1 : Variant := ([65, 65, 67, 65, 71, 65, 84, 67, 67], [4])
def exV2 : Variant := ([65, 65, 67, 65, 84, 65, 84, 67, 67], [4])
/-- its reverse complement GGATCTGTT -/
def exGenomeRc : List UInt8 := [71, 71, 65, 84, 67, 84, 71, 84, 84]

theorem ex_scan : scanVariants 128 2 (genomicKmers 128 2 exGenome) [exV1, exV2] = some (true, 2, true) := by
  decide +kernel
theorem ex_scan_rc : scanVariants 128 2 (genomicKmers 128 2 exGenomeRc) [exV1, exV2] = some (true, 2, false) := by
  decide +kernel

example := T17_scan_found 128 2 _ _ _ _ ex_scan
example := T17_scan_found 128 2 _ _ _ _ ex_scan_rc
example : scanVariants 128 2 [] [exV1, exV2] = some (false, 0, true) := by decide
example : scanVariants 128 2 [] [([65, 78], [])] = none := by decide

/-- **T17_groupSnpsPos_groupSnps**: `groupSnpsPos` is `groupSnps` with the position of each column kept:
same columns in the same order, same blocked k-mers, same panics -/
theorem T17_groupSnpsPos_groupSnps (W kGraph nSamples mNum mDen : Nat) (col : Colours) (done : List Nat)
    (vs : List Variant) :
    (groupSnpsPos W kGraph nSamples mNum mDen col done vs).map (fun r => (r.1.map (·.2), r.2)) =
      groupSnps W kGraph nSamples mNum mDen col done vs :=
  LO.foldlM_map (LOP.siteStep (fun p c => (p, c)) W kGraph nSamples mNum mDen col done vs)
    (LOP.siteStep (fun _ c => c) W kGraph nSamples mNum mDen col done vs) (fun r => (r.1.map (·.2), r.2))
    (LOP.siteStep_map (·.2) (fun p c => (p, c)) W kGraph nSamples mNum mDen col done vs) (getPotentialSnp vs) ([], [])

/-- complementing keeps a column well formed -/
theorem T17_complement_wf (n mNum mDen : Nat) (c c' : List UInt8) (h : complementSnp c = some c')
    (hc : LOP.ColOk n mNum mDen c) : LOP.ColOk n mNum mDen c' :=
  LOR.colOk_complement n mNum mDen c c' h hc

/-- **T17_ref_columns_wf**: every (position, column) pair `analyseRef` reports has one entry per sample
over '-', N, A, C, G, T, at least two distinct A/C/G/T alleles, at most the allowed fraction of entries
that are not A/C/G/T, a position below 2^32; and the positions are pairwise distinct (the first
claim of a position wins) -/
theorem T17_ref_columns_wf (W kGraph nSamples mNum mDen ik : Nat) (col : Colours) (gr : Groups)
    (genome : List UInt8) (placed : List (Nat × List UInt8)) (recs : List IndelRec)
    (h : analyseRef W kGraph nSamples mNum mDen ik col gr genome = some (placed, recs)) :
    (∀ pc ∈ placed,
      pc.2.length = nSamples ∧ (checkMissingData pc.2).1 = true ∧
      ratioLe (checkMissingData pc.2).2 nSamples mNum mDen = true ∧
      (∀ b ∈ pc.2, b = 45 ∨ b = 78 ∨ b = 65 ∨ b = 67 ∨ b = 71 ∨ b = 84) ∧
      pc.1 < 2 ^ 32) ∧
    (placed.map (·.1)).Nodup := by
  refine ⟨fun pc hpc => ?_, ?_⟩
  · obtain ⟨_, _, horig⟩ := LOR.analyseRef_origin W kGraph nSamples mNum mDen ik col gr genome placed recs h
    obtain ⟨_, _, hkv⟩ := horig pc hpc
    obtain ⟨⟨⟨hl, hb⟩, hc1, hc2⟩, hp⟩ := hkv.colOk
    exact ⟨hl, hc1, hc2, hb, hp⟩
  · rw [LOR.analyseRef_eq] at h
    obtain ⟨ext, res, _, hres, rfl⟩ := LOP.run_some h
    exact LOR.refFold_inv (fun (m : List (Nat × List UInt8)) => (m.map (·.1)).Nodup) _
      (fun _ _ _ _ _ hm => LOR.claim_keys_nodup _ hm) ([], []) res List.nodup_nil hres

/-- the indel records are those of `processIndels`, as without a reference -/
theorem T17_ref_records (W kGraph nSamples mNum mDen ik : Nat) (col : Colours) (gr : Groups)
    (genome : List UInt8) (placed : List (Nat × List UInt8)) (recs : List IndelRec)
    (h : analyseRef W kGraph nSamples mNum mDen ik col gr genome = some (placed, recs)) :
    ∃ ext, processIndels W kGraph nSamples mNum mDen col gr.indelGroups = some (recs, ext) :=
  (LOR.analyseRef_origin W kGraph nSamples mNum mDen ik col gr genome placed recs h).imp fun _ h => h.1

/-- **T17_ref_columns_origin**: every reported (position, column) pair `x` is the placement of one
column of one SNP group: the group's variants `vs` (after the internal-indel filter) were genotyped
by `groupSnpsPos` against the k-mers blocked so far (`done`), giving the column `pc.2` at offset
`pc.1`; `scan_variants` found the position `p` on strand `fwd`; the reported position is
`p + (offset - kGraph)` on the forward strand and `p + (len - offset - kGraph - 1)` on the reverse
strand (mod 2^32), the reported column is `pc.2`, complemented on the reverse strand -/
theorem T17_ref_columns_origin (W kGraph nSamples mNum mDen ik : Nat) (col : Colours) (gr : Groups)
    (genome : List UInt8) (placed : List (Nat × List UInt8)) (recs : List IndelRec)
    (h : analyseRef W kGraph nSamples mNum mDen ik col gr genome = some (placed, recs)) :
    ∃ ext, processIndels W kGraph nSamples mNum mDen col gr.indelGroups = some (recs, ext) ∧
      ∀ x ∈ placed, ∃ kv ∈ gr.snpGroups,
        ∃ (done : List Nat) (found : List (Nat × List UInt8)) (save : List Nat) (p : Nat) (fwd : Bool),
        ∃ pc ∈ found,
          let vs := kv.2.filter (fun v => !(internalIndels W kGraph ext v.1 > ik))
          groupSnpsPos W kGraph nSamples mNum mDen col done vs = some (found, save) ∧
          scanVariants 128 kGraph (genomicKmers 128 kGraph genome) vs = some (true, p, fwd) ∧
          x.1 = (if fwd then (p + (pc.1 - kGraph)) % 2 ^ 32
                 else (p + ((vs.headD ([], [])).1.length - pc.1 - kGraph - 1)) % 2 ^ 32) ∧
          (if fwd then some pc.2 else complementSnp pc.2) = some x.2 :=
  LOR.analyseRef_origin W kGraph nSamples mNum mDen ik col gr genome placed recs h

def exCol : Colours := [(18, [0]), (19, [1])]
def exGr : Groups := { snpGroups := [((1, 2), [exV1, exV2])], indelGroups := [] }

/-- forward strand: position 4 (0-based) of AACAGATCC, column "TG" -/
theorem ex_analyseRef : analyseRef 64 2 2 0 1 5 exCol exGr exGenome = some ([(4, [84, 71])], []) := by
  unfold analyseRef
  simp only [exGr, LOP.processIndels_nil, List.map_cons, List.map_nil, List.mergeSort_singleton]
  decide +kernel

/-- reverse strand: position 4 of GGATCTGTT, the complemented column "AC" -/
theorem ex_analyseRef_rc : analyseRef 64 2 2 0 1 5 exCol exGr exGenomeRc = some ([(4, [65, 67])], []) := by
  unfold analyseRef
  simp only [exGr, LOP.processIndels_nil, List.map_cons, List.map_nil, List.mergeSort_singleton]
  decide +kernel

example := T17_ref_columns_wf 64 2 2 0 1 5 exCol exGr exGenome _ _ ex_analyseRef
example := T17_ref_columns_wf 64 2 2 0 1 5 exCol exGr exGenomeRc _ _ ex_analyseRef_rc
example := T17_ref_columns_origin 64 2 2 0 1 5 exCol exGr exGenomeRc _ _ ex_analyseRef_rc
example : groupSnpsPos 64 2 2 0 1 exCol [] [exV1, exV2] = some ([(4, [84, 71])], [19, 27, 50, 9, 18, 11, 34, 8]) := by
  decide +kernel

/-- **T17_analyseRef_order**: the two group lists stand for hash maps (distinct keys); whatever their
iteration orders, `analyseRef` returns the same (position, column) pairs in the same order and the
same records -/
theorem T17_analyseRef_order (W kGraph nSamples mNum mDen ik : Nat) (col : Colours) (gr gr' : Groups)
    (genome : List UInt8)
    (hs : gr.snpGroups.Perm gr'.snpGroups) (hi : gr.indelGroups.Perm gr'.indelGroups)
    (hsn : (gr.snpGroups.map (·.1)).Nodup) (hin : (gr.indelGroups.map (·.1)).Nodup) :
    analyseRef W kGraph nSamples mNum mDen ik col gr genome =
      analyseRef W kGraph nSamples mNum mDen ik col gr' genome := by
  rw [LOR.analyseRef_eq, LOR.analyseRef_eq, C17P.T17_processIndels_order W kGraph nSamples mNum mDen col _ _ hi hin]
  simp only [fun ext => LOP.sortedGroups_perm W kGraph ik ext _ _ hs hsn]

/-- the groups of the pipeline, handed to `analyseRef` in any two orders, give the same result -/
theorem T17_pipeline_ref_order (W kGraph nSamples mNum mDen ik maxDepth : Nat) (col : Colours)
    (g0 : Graph) (starts ends : List Nat) (hst : starts.Nodup) (gr' : Groups) (genome : List UInt8)
    (hs : (buildVariantGroups W kGraph g0 starts ends maxDepth).snpGroups.Perm gr'.snpGroups)
    (hi : (buildVariantGroups W kGraph g0 starts ends maxDepth).indelGroups.Perm gr'.indelGroups) :
    analyseRef W kGraph nSamples mNum mDen ik col (buildVariantGroups W kGraph g0 starts ends maxDepth) genome =
      analyseRef W kGraph nSamples mNum mDen ik col gr' genome :=
  T17_analyseRef_order W kGraph nSamples mNum mDen ik col _ gr' genome hs hi
    (LOP.groups_keys_nodup W kGraph g0 starts ends maxDepth hst).1
    (LOP.groups_keys_nodup W kGraph g0 starts ends maxDepth hst).2

example :
    let a : (Nat × Nat) × List Variant := ((1, 2), [exV1, exV2])
    let b : (Nat × Nat) × List Variant := ((5, 2), [exV2, exV1])
    let c : (Nat × Nat) × List Variant := ((7, 9), [([65, 67, 65], []), ([65, 65], [])])
    let d : (Nat × Nat) × List Variant := ((8, 9), [([67, 67, 65], []), ([67, 65], [])])
    analyseRef 64 2 2 0 1 5 exCol { snpGroups := [a, b], indelGroups := [c, d] } exGenome =
      analyseRef 64 2 2 0 1 5 exCol { snpGroups := [b, a], indelGroups := [d, c] } exGenome := by
  intro a b c d
  exact T17_analyseRef_order 64 2 2 0 1 5 exCol _ _ _ (List.Perm.swap _ _ _) (List.Perm.swap _ _ _)
    (by decide) (by decide)

/-- **T17_genomicKmers**: the entry of a k-mer `x` is non-empty, has at most three end positions, each
the end of an occurrence of `x` without N, in strictly increasing order; and they are the FIRST such
positions: an occurrence end that is not listed lies behind three listed ones -/
theorem T17_genomicKmers (W k : Nat) (g : List UInt8) (hk : k ≤ g.length) (x : Nat) (ps : List Nat)
    (h : Assoc.lookup (genomicKmers W k g) x = some ps) :
    ps ≠ [] ∧ ps.length ≤ 3 ∧
    (∀ p ∈ ps, k ≤ p ∧ p ≤ g.length ∧ encodeKmer W ((g.drop (p - k)).take k) = x ∧
      ((g.drop (p - k)).take k).all (fun b => (b &&& 15) != 14) = true) ∧
    ps.Pairwise (· < ·) ∧
    (∀ q, k ≤ q → q ≤ g.length → encodeKmer W ((g.drop (q - k)).take k) = x →
      ((g.drop (q - k)).take k).all (fun b => (b &&& 15) != 14) = true → q ∉ ps →
      ps.length = 3 ∧ ∀ p ∈ ps, p < q) := by
  rw [LOR.lookup_genomicKmers W k g hk] at h
  split at h
  · exact nomatch h
  · rename_i hne
    obtain rfl := Option.some.inj h
    refine ⟨?_, ?_, ?_, ?_, ?_⟩
    · exact fun e => hne ((List.take_eq_nil_iff.1 e).resolve_left (by decide))
    · rw [List.length_take]
      omega
    · intro p hp
      obtain ⟨h1, h2, h3, h4⟩ := (LOR.mem_allEnds W k g hk x p).mp (List.mem_of_mem_take hp)
      exact ⟨h1, h2, h4, h3⟩
    · exact (LOR.allEnds_sorted W k g x).sublist (List.take_sublist _ _)
    · intro q h1 h2 h3 h4 hq
      exact LOR.take_lt_of_not_mem (LOR.allEnds_sorted W k g x) 3 q ((LOR.mem_allEnds W k g hk x q).mpr ⟨h1, h2, h4, h3⟩) hq

/-- a k-mer has no entry exactly when it has no N-free occurrence -/
theorem T17_genomicKmers_none (W k : Nat) (g : List UInt8) (hk : k ≤ g.length) (x : Nat) :
    Assoc.lookup (genomicKmers W k g) x = none ↔
      ∀ q, k ≤ q → q ≤ g.length → encodeKmer W ((g.drop (q - k)).take k) = x →
        ((g.drop (q - k)).take k).all (fun b => (b &&& 15) != 14) = false := by
  rw [LOR.lookup_genomicKmers W k g hk]
  constructor
  · intro h q h1 h2 h3
    split at h
    · rename_i he
      cases hn : ((g.drop (q - k)).take k).all (fun b => (b &&& 15) != 14) with
      | false => rfl
      | true =>
        have := (LOR.mem_allEnds W k g hk x q).mpr ⟨h1, h2, hn, h3⟩
        rw [he] at this
        exact absurd this List.not_mem_nil
    · exact nomatch h
  · intro h
    rw [if_pos]
    cases hall : LOR.allEnds W k g x with
    | nil => rfl
    | cons a l =>
      have ha : a ∈ LOR.allEnds W k g x := by rw [hall]; exact List.mem_cons_self
      obtain ⟨h1, h2, h3, h4⟩ := (LOR.mem_allEnds W k g hk x a).mp ha
      exact Bool.noConfusion (h3.symm.trans (h a h1 h2 h4))

/-- closed form: the first three of all end positions of N-free occurrences, in genome order -/
theorem T17_genomicKmers_closed (W k : Nat) (g : List UInt8) (hk : k ≤ g.length) (x : Nat) :
    Assoc.lookup (genomicKmers W k g) x =
      let all := ((List.range (g.length - k + 1)).filter (fun n =>
        ((g.drop n).take k).all (fun b => (b &&& 15) != 14) && encodeKmer W ((g.drop n).take k) == x)).map (· + k)
      if all = [] then none else some (all.take 3) :=
  LOR.lookup_genomicKmers W k g hk x

/-- the map has distinct keys; a reference shorter than k gives the empty map -/
theorem T17_genomicKmers_keys (W k : Nat) (g : List UInt8) :
    ((genomicKmers W k g).map (·.1)).Nodup ∧ (g.length < k → genomicKmers W k g = []) := by
  refine ⟨LOR.genomicKmers_keys_nodup W k g, ?_⟩
  intro h
  rw [LOR.genomicKmers_eq, if_pos h]

/-- AACANAAAA, k = 2: AA ends at 2, 7, 8 (the occurrence ending at 9 is dropped; the two 2-mers
with N are skipped), AC at 3, CA at 4 -/
example : genomicKmers 128 2 [65, 65, 67, 65, 78, 65, 65, 65, 65] =
    [(0, [2, 7, 8]), (1, [3]), (4, [4])] := by decide
example := T17_genomicKmers 128 2 [65, 65, 67, 65, 78, 65, 65, 65, 65] (by decide) 0 [2, 7, 8] (by decide)

end SkaModel.Props.C17R
