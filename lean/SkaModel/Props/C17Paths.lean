/-
C17 "SNP calls are real" / C18 "every record describes a real difference", graph stage of
`ska lo`: every path the traversal reports is a genuine walk of the ORIGINAL (uncompacted) graph,
and the reported sequence spells the nodes of that walk.

Definitions: `SkaModel/Props/C17PathsDefs.lean` (`Edge`, `Walk`, `Chain1`, `interior`, `expand`,
`Overlap`, `Sound`).
-/
import SkaModel.Lemmas.LOPathGroups
import SkaModel.Lemmas.LOPathSpell
import SkaModel.Lemmas.LOPathBuild
import SkaModel.Lemmas.LOPathCompact

namespace SkaModel.Props.C17G

open SkaModel SkaModel.Skalo SkaModel.LOG SkaModel.Props.C16

/-- the walk of `compact_graph` from `s`: `s` followed by the visited nodes is a walk of `g`;
no node is visited twice; every visited node except possibly the last is neither an entry nor an
exit node; and every node of `s :: v` except the last has exactly one successor in `g`, the next
element (indexed form, and as `Chain1`); at most `fuel` nodes are visited -/
theorem compactWalk_walk (g : Graph) (starts ends : List Nat) (fuel s : Nat) :
    Walk g (s :: compactWalk g starts ends fuel s []) ∧
    (compactWalk g starts ends fuel s []).Nodup ∧
    (∀ x ∈ (compactWalk g starts ends fuel s []).dropLast, x ∉ starts ∧ x ∉ ends) ∧
    (∀ (i x y : Nat), (s :: compactWalk g starts ends fuel s [])[i]? = some x →
      (compactWalk g starts ends fuel s [])[i]? = some y → Assoc.lookup g x = some [y]) ∧
    Chain1 g (s :: compactWalk g starts ends fuel s []) ∧
    (compactWalk g starts ends fuel s []).length ≤ fuel := by
  obtain ⟨ext, h1, h2, h3, h4, h5⟩ := compactWalk_inv g starts ends fuel s []
  rw [List.nil_append] at h1
  rw [h1]
  refine ⟨walk_of_chain1 h2, by simpa using h3, h4, ?_, h2, h5⟩
  intro i x y hx hy
  rw [chain1_eq_chainR] at h2
  exact chainR_getElem? (s :: ext) i x y h2 hx (by rw [List.getElem?_cons_succ]; exact hy)

/-- `compactWalk` with any accumulator -/
theorem compactWalk_acc (g : Graph) (starts ends : List Nat) (fuel cur : Nat) (acc : List Nat) :
    ∃ ext, compactWalk g starts ends fuel cur acc = acc ++ ext ∧
      Chain1 g (cur :: ext) ∧ (acc.Nodup → (acc ++ ext).Nodup) ∧
      (∀ x ∈ ext.dropLast, x ∉ starts ∧ x ∉ ends) ∧ ext.length ≤ fuel :=
  compactWalk_inv g starts ends fuel cur acc

/-- every compacted segment `(s, v)` is the walk from `s`, has at least two nodes and starts at a
successor of an entry or exit node; the keys are distinct -/
theorem compactSegments_spec (g : Graph) (starts ends : List Nat) :
    (∀ sv ∈ compactSegments g starts ends,
      sv.2 = compactWalk g starts ends (edgeCount g + 1) sv.1 [] ∧ sv.2.length > 1 ∧
        ∃ k ∈ starts ++ ends, Edge g k sv.1) ∧
    ((compactSegments g starts ends).map (·.1)).Nodup :=
  ⟨fun sv => (mem_compactSegments g starts ends sv).1, compactSegments_keys g starts ends⟩

/-- the strong form: an edge `a → b` of the compacted graph is either an edge of `g` out of a
node that starts no segment, or the shortcut of the segment recorded for `a`, whose non-empty
interior followed by `b` is a chain of single-successor nodes of `g` -/
theorem compactGraph_edge_cases (g : Graph) (starts ends : List Nat) (a b : Nat)
    (h : Edge (compactGraph g starts ends).1 a b) :
    (Edge g a b ∧ Assoc.lookup (compactGraph g starts ends).2 a = none) ∨
      ∃ I, Assoc.lookup (compactGraph g starts ends).2 a = some I ∧ I ≠ [] ∧
        Chain1 g (a :: I ++ [b]) := by
  have hok := fun sv => (mem_compactSegments g starts ends sv).1
  have hnd := compactSegments_keys g starts ends
  unfold compactGraph at h ⊢
  simp only at h ⊢
  rcases edge_foldSegments _ _ h with ⟨h1, h2⟩ | ⟨sv, hsv, hx, hy⟩
  · left
    refine ⟨h1, ?_⟩
    cases hl : Assoc.lookup ((compactSegments g starts ends).map (fun sv => (sv.1, sv.2.dropLast))) a with
    | none => rfl
    | some I =>
      exfalso
      obtain ⟨sv, hsv, e1, _⟩ := lookup_comp hl
      apply h2 sv hsv
      refine ⟨e1.symm, ?_⟩
      unfold Edge succs at h1
      rw [← e1, (seg_chain (hok sv hsv)).src] at h1
      simpa using h1
  · right
    have c := seg_chain (hok sv hsv)
    refine ⟨sv.2.dropLast, ?_, c.inner_ne, ?_⟩
    · rw [hx]; exact lookup_comp_of_mem hnd hsv
    · rw [hx, hy, List.cons_append, c.snoc]; exact c.chain

/-- the weak form: every edge of the compacted graph is an edge of `g` or stands for a real chain -/
theorem compactGraph_sound_edges (g : Graph) (starts ends : List Nat) (a b : Nat)
    (h : Edge (compactGraph g starts ends).1 a b) :
    Edge g a b ∨ ∃ I, (a, I) ∈ (compactGraph g starts ends).2 ∧ Walk g (a :: I ++ [b]) := by
  rcases compactGraph_edge_cases g starts ends a b h with ⟨h1, _⟩ | ⟨I, h1, _, h3⟩
  · exact Or.inl h1
  · exact Or.inr ⟨I, Assoc.mem_of_lookup h1, walk_of_chain1 h3⟩

/-- the recorded interiors: non-empty chains of single-successor nodes that are neither entry nor
exit nodes, behind a successor of an entry or exit node -/
theorem compactGraph_interior_spec (g : Graph) (starts ends : List Nat) (a : Nat) (I : List Nat)
    (h : Assoc.lookup (compactGraph g starts ends).2 a = some I) :
    I ≠ [] ∧ Chain1 g (a :: I) ∧ I.Nodup ∧ (∀ x ∈ I, x ∉ starts ∧ x ∉ ends) ∧
      ∃ k ∈ starts ++ ends, Edge g k a := by
  have hok := fun sv => (mem_compactSegments g starts ends sv).1
  have hnd := compactSegments_keys g starts ends
  unfold compactGraph at h
  simp only at h
  obtain ⟨sv, hsv, e1, e2⟩ := lookup_comp h
  obtain ⟨hc, hnd', hint, hne, happ, _⟩ := seg_chain (hok sv hsv)
  subst e2
  refine ⟨hne, ?_, ?_, hint, ?_⟩
  · rw [← e1]
    rw [← happ] at hc
    exact chain1_append_left (sv.1 :: sv.2.dropLast) [sv.2.getLastD 0] hc
  · rw [← happ] at hnd'
    exact (List.nodup_append.1 hnd').1
  · rw [← e1]; exact (hok sv hsv).2.2

/-- `compactGraph` delivers what the path enumeration needs -/
theorem T17_compact_sound (g : Graph) (starts ends : List Nat) :
    Sound g (compactGraph g starts ends).1 (compactGraph g starts ends).2 := by
  refine ⟨?_, ?_, ?_, ?_⟩
  · intro a b h
    unfold expand interior
    rcases compactGraph_edge_cases g starts ends a b h with ⟨h1, h2⟩ | ⟨I, h1, _, h3⟩
    · rw [h2]; exact ⟨h1, trivial⟩
    · rw [h1]; exact walk_of_chain1 h3
  · intro a
    unfold interior
    cases hl : Assoc.lookup (compactGraph g starts ends).2 a with
    | none => trivial
    | some I => exact walk_of_chain1 (compactGraph_interior_spec g starts ends a I hl).2.1
  · intro a ha b c hb hc
    rcases compactGraph_edge_cases g starts ends a b hb with ⟨_, h2⟩ | ⟨I, h1, hne, h3⟩
    · exact absurd h2 ha
    · rcases compactGraph_edge_cases g starts ends a c hc with ⟨_, h2⟩ | ⟨I', h1', _, h3'⟩
      · exact absurd h2 ha
      · rw [h1] at h1'
        cases h1'
        have e := dropLast_append_getLastD 0 I hne
        rw [← e] at h3 h3'
        have hb' := chain1_last_two (a :: I.dropLast) (I.getLastD 0) b (by simpa using h3)
        have hc' := chain1_last_two (a :: I.dropLast) (I.getLastD 0) c (by simpa using h3')
        rw [hb'] at hc'
        simpa using hc'
  · intro a I h
    exact (compactGraph_interior_spec g starts ends a I h).1

/-- in either case the expansion of the edge is a walk of `g` -/
theorem compactGraph_expand (g : Graph) (starts ends : List Nat) (a b : Nat)
    (h : Edge (compactGraph g starts ends).1 a b) :
    Walk g (expand (compactGraph g starts ends).2 a b) :=
  (T17_compact_sound g starts ends).step a b h

/-- `vec = pre ++ cur :: interior comp cur` is the path so far: the nodes up
to the current graph-level node `cur` form a walk of `g`, and `cur` is followed by the interior of
its segment.  Then every reported `(exit, path)` has: `path` is a walk of `g`; `exit` is an exit
node; `path` extends `vec` and ends with `exit` followed by the interior of `exit`'s segment. -/
theorem explore_walk {g g' : Graph} {comp : List (Nat × List Nat)} (hs : Sound g g' comp)
    (ends : List Nat) (maxDepth fuel cur : Nat) (visited pre : List Nat) (depth : Nat)
    (hpre : Walk g (pre ++ [cur])) :
    ∀ ep ∈ explore g' comp ends maxDepth fuel cur visited (pre ++ cur :: interior comp cur) depth,
      Walk g ep.2 ∧ ep.1 ∈ ends ∧ ep.1 ∈ ep.2 ∧
      ep.2.head? = (pre ++ [cur]).head? ∧
      ∃ q, ep.2 = (pre ++ cur :: interior comp cur) ++ q ++ ep.1 :: interior comp ep.1 := by
  intro ep hep
  obtain ⟨h1, q, h2⟩ := explore_shape _ _ _ _ _ _ _ _ _ _ hep
  refine ⟨explore_walk_aux hs ends maxDepth fuel cur visited pre depth ep hpre hep, h1, ?_, ?_, q, h2⟩
  · rw [h2]; simp
  · rw [h2]
    cases pre <;> simp

/-- `explore_walk` for the compacted graph of `compactGraph` -/
theorem explore_walk_compact (g : Graph) (starts ends : List Nat)
    (maxDepth fuel cur : Nat) (visited pre : List Nat) (depth : Nat)
    (hpre : Walk g (pre ++ [cur])) :
    ∀ ep ∈ explore (compactGraph g starts ends).1 (compactGraph g starts ends).2 ends maxDepth fuel cur
        visited (pre ++ cur :: interior (compactGraph g starts ends).2 cur) depth,
      Walk g ep.2 ∧ ep.1 ∈ ends ∧ ep.1 ∈ ep.2 ∧ ep.2.head? = (pre ++ [cur]).head? :=
  fun ep hep =>
    let ⟨a, b, c, d, _⟩ := explore_walk (T17_compact_sound g starts ends) ends maxDepth fuel cur visited
      pre depth hpre ep hep
    ⟨a, b, c, d⟩

/-- the paths from an entry node that starts no segment are walks of `g` from that node to the exit;
the exit is followed by its own interior (`[]` when the exit starts no segment) -/
theorem pathsFrom_real {g g' : Graph} {comp : List (Nat × List Nat)} (hs : Sound g g' comp)
    (ends : List Nat) (maxDepth kmer : Nat) (hk : Assoc.lookup comp kmer = none) :
    ∀ ep ∈ pathsFrom g' comp ends maxDepth kmer, ∀ p ∈ ep.2,
      Walk g p ∧ ep.1 ∈ ends ∧ ∃ q, p = kmer :: q ++ ep.1 :: interior comp ep.1 := by
  intro ep hep p hp
  obtain ⟨h1, s, q, _, h2⟩ := pathsFrom_shape (e := ep.1) (ps := ep.2) hep p hp
  exact ⟨pathsFrom_walk hs hk (e := ep.1) (ps := ep.2) hep p hp, h1,
    s :: interior comp s ++ q, by rw [h2]; simp⟩

/-- **T17 paths are real**: every variant of every reported group `((kmer, exit), variants)` is
`buildVariant` of a path that is a walk of the ORIGINAL graph `g`, starts at the entry node `kmer`
(an element of `starts`), ends at the exit node `exit` (an element of `ends`; it is the LAST node of
the path: in a reported group neither the entry nor the exit starts a compacted segment) and has
at least three nodes. -/
theorem T17_paths_real (W kGraph : Nat) (g : Graph) (starts ends : List Nat) (maxDepth : Nat) :
    ∀ grp ∈ (buildVariantGroups W kGraph g starts ends maxDepth).snpGroups ++
        (buildVariantGroups W kGraph g starts ends maxDepth).indelGroups,
      grp.1.1 ∈ starts ∧ grp.1.2 ∈ ends ∧
      ∀ var ∈ grp.2, ∃ path, var = buildVariant W kGraph starts ends grp.1.1 path ∧
        Walk g path ∧ path.head? = some grp.1.1 ∧ path.getLast? = some grp.1.2 ∧
        3 ≤ path.length := by
  intro grp hgrp
  obtain ⟨kmer, hk, hmem⟩ := buildVariantGroups_mem hgrp
  obtain ⟨h1, h2, _, _, h5⟩ := groupsFrom_real (T17_compact_sound g starts ends) hmem
  rw [h1]
  exact ⟨hk, h2, h5⟩

/-- by-product: in a reported group neither the entry nor the exit node starts a compacted segment -/
theorem T17_group_ends_plain (W kGraph : Nat) (g : Graph) (starts ends : List Nat) (maxDepth : Nat) :
    ∀ grp ∈ (buildVariantGroups W kGraph g starts ends maxDepth).snpGroups ++
        (buildVariantGroups W kGraph g starts ends maxDepth).indelGroups,
      Assoc.lookup (compactGraph g starts ends).2 grp.1.1 = none ∧
      Assoc.lookup (compactGraph g starts ends).2 grp.1.2 = none := by
  intro grp hgrp
  obtain ⟨kmer, _, hmem⟩ := buildVariantGroups_mem hgrp
  obtain ⟨h1, _, h3, h4, _⟩ := groupsFrom_real (T17_compact_sound g starts ends) hmem
  rw [h1]
  exact ⟨h3, h4⟩

/-- if the nodes of the path are `kGraph`-mers (`< 4^kGraph`) and consecutive nodes overlap, the
sequence of `buildVariant` has `path.length + kGraph - 1` letters and its `i`-th window of
`kGraph` letters encodes to the `i`-th node of the path -/
theorem buildVariant_spells (W kGraph : Nat) (starts ends : List Nat) (kmer : Nat) (path : List Nat)
    (hW : 2 * (kGraph + 1) ≤ W) (hhead : path.head? = some kmer)
    (hlt : ∀ n ∈ path, n < 4 ^ kGraph)
    (hov : ∀ (i a b : Nat), path[i]? = some a → path[i + 1]? = some b → Overlap kGraph a b) :
    (buildVariant W kGraph starts ends kmer path).1.length = path.length + kGraph - 1 ∧
    ∀ (i x : Nat), path[i]? = some x →
      encodeKmer W (((buildVariant W kGraph starts ends kmer path).1.drop i).take kGraph) = x := by
  cases path with
  | nil => simp at hhead
  | cons a rest =>
    simp at hhead
    subst hhead
    rw [buildVariant_seq W kGraph starts ends a rest (hlt a (List.mem_cons_self ..)) (by omega)]
    refine ⟨?_, ?_⟩
    · simp [cseq, digs_length]; omega
    · intro i x hi
      rw [encode_window W kGraph _ (cseq_codes kGraph a rest) i (by omega)]
      cases kGraph with
      | zero =>
        have := hlt x (List.mem_of_getElem? hi)
        simp [Spec.packL] at this ⊢
        omega
      | succ m =>
        exact cseq_windows m rest a (chainR_of_getElem? _ hov) hlt i x hi

/-- `T17_paths_real` and `buildVariant_spells` together: if every edge of the original graph joins two overlapping
`kGraph`-mers, every reported sequence spells a walk of the original graph from the entry node
to the exit node of its group: window `i` of the sequence encodes to node `i` of the walk -/
theorem T17_paths_spelled (W kGraph : Nat) (g : Graph) (starts ends : List Nat) (maxDepth : Nat)
    (hW : 2 * (kGraph + 1) ≤ W)
    (hg : ∀ a b, Edge g a b → a < 4 ^ kGraph ∧ b < 4 ^ kGraph ∧ Overlap kGraph a b) :
    ∀ grp ∈ (buildVariantGroups W kGraph g starts ends maxDepth).snpGroups ++
        (buildVariantGroups W kGraph g starts ends maxDepth).indelGroups,
      ∀ var ∈ grp.2, ∃ path : List Nat,
        Walk g path ∧ path.head? = some grp.1.1 ∧ path.getLast? = some grp.1.2 ∧
        var.1.length = path.length + kGraph - 1 ∧
        ∀ (i x : Nat), path[i]? = some x → encodeKmer W ((var.1.drop i).take kGraph) = x := by
  intro grp hgrp var hvar
  obtain ⟨_, _, h⟩ := T17_paths_real W kGraph g starts ends maxDepth grp hgrp
  obtain ⟨path, rfl, hwalk, hhead, hlast, hlen⟩ := h var hvar
  obtain ⟨hlt, hov⟩ := walk_nodes hg hwalk (by omega)
  obtain ⟨h1, h2⟩ := buildVariant_spells W kGraph starts ends grp.1.1 path hW hhead hlt hov
  exact ⟨path, hwalk, hhead, hlast, h1, h2⟩

/-- the edges of `build_graph` join overlapping `(k-1)`-mers, when the keys of the table are packed
split k-mers (`< 4^(k-1)`) -/
theorem buildGraph_edges_overlap (W : Nat) (a : Arr) (hk : ValidK a.k) (hw : WidthOk W a.k)
    (hkeys : ∀ key ∈ a.kmers, key < 4 ^ (a.k - 1)) :
    ∀ x y, Edge (buildGraph W a).1 x y →
      x < 4 ^ (a.k - 1) ∧ y < 4 ^ (a.k - 1) ∧ Overlap (a.k - 1) x y := by
  intro x y h
  obtain ⟨_, _, _, _, _, F, _, hF, hlen, rfl, rfl⟩ := buildGraph_edge_word W a hk hw hkeys x y h
  exact overlap_take_drop (a.k - 1) F hF hlen

/-- **reported sequences are real**: for the graph of a table (valid `k`, keys below `4^(k-1)`),
whatever the entry and exit nodes, every sequence of every reported group spells a walk of the
table's graph from the group's entry node to its exit node -/
theorem T17_table_paths_spelled (W : Nat) (a : Arr) (hk : ValidK a.k) (hw : WidthOk W a.k)
    (hkeys : ∀ key ∈ a.kmers, key < 4 ^ (a.k - 1)) (starts ends : List Nat) (maxDepth : Nat) :
    ∀ grp ∈ (buildVariantGroups W (a.k - 1) (buildGraph W a).1 starts ends maxDepth).snpGroups ++
        (buildVariantGroups W (a.k - 1) (buildGraph W a).1 starts ends maxDepth).indelGroups,
      ∀ var ∈ grp.2, ∃ path : List Nat,
        Walk (buildGraph W a).1 path ∧ path.head? = some grp.1.1 ∧ path.getLast? = some grp.1.2 ∧
        var.1.length = path.length + (a.k - 1) - 1 ∧
        ∀ (i x : Nat), path[i]? = some x → encodeKmer W ((var.1.drop i).take (a.k - 1)) = x := by
  exact T17_paths_spelled W (a.k - 1) (buildGraph W a).1 starts ends maxDepth (kGraph_bounds hk hw).2.1
    (buildGraph_edges_overlap W a hk hw hkeys)

/-! ### examples: the hypotheses are satisfiable, the conclusions are not vacuous -/

/-- a SNP bubble of 3-mers (A=0, C=1, T=2, G=3): `AACGTTGCA` / `AACCTTGCA`;
AAC=1 → ACG=7 → CGT=30 → GTT=58 → TTG=43, AAC → ACC=5 → CCT=22 → CTT=26 → TTG, TTG → TGC=45 → GCA=52 -/
def exBubble : Graph :=
  [(1, [7, 5]), (7, [30]), (30, [58]), (58, [43]), (5, [22]), (22, [26]), (26, [43]), (43, [45]), (45, [52])]

example : compactWalk exBubble [1] [43] 10 7 [] = [30, 58, 43] := by decide +kernel
example : Walk exBubble (7 :: compactWalk exBubble [1] [43] 10 7 []) :=
  (compactWalk_walk exBubble [1] [43] 10 7).1
example : Assoc.lookup exBubble 30 = some [58] :=
  (compactWalk_walk exBubble [1] [43] 10 7).2.2.2.1 1 30 58 (by decide +kernel) (by decide +kernel)

example : compactSegments exBubble [1] [43] = [(7, [30, 58, 43]), (5, [22, 26, 43])] := by decide +kernel
example : ∃ k ∈ [1] ++ [43], Edge exBubble k 7 :=
  ((compactSegments_spec exBubble [1] [43]).1 (7, [30, 58, 43]) (by decide +kernel)).2.2

-- the shortcut 7 → 43 of the compacted graph stands for the chain 7 → 30 → 58 → 43
example : compactGraph exBubble [1] [43] =
    ([(1, [7, 5]), (7, [43]), (30, []), (58, [43]), (5, [43]), (22, []), (26, [43]), (43, [45]), (45, [52])],
     [(7, [30, 58]), (5, [22, 26])]) := by decide +kernel
example : ¬ Edge exBubble 7 43 := by decide +kernel
example : expand (compactGraph exBubble [1] [43]).2 7 43 = [7, 30, 58, 43] := by decide +kernel
example : Walk exBubble (expand (compactGraph exBubble [1] [43]).2 7 43) :=
  compactGraph_expand exBubble [1] [43] 7 43 (by decide +kernel)
example : ∃ I, (7, I) ∈ (compactGraph exBubble [1] [43]).2 ∧ Walk exBubble (7 :: I ++ [43]) :=
  (compactGraph_sound_edges exBubble [1] [43] 7 43 (by decide +kernel)).resolve_left (by decide +kernel)

-- the exploration from the successor 7 of the entry node 1
example : explore (compactGraph exBubble [1] [43]).1 (compactGraph exBubble [1] [43]).2 [43] 10 12 7 [1, 7]
    ([1] ++ 7 :: interior (compactGraph exBubble [1] [43]).2 7) 0 = [(43, [1, 7, 30, 58, 43])] := by decide +kernel
example : ∀ ep ∈ explore (compactGraph exBubble [1] [43]).1 (compactGraph exBubble [1] [43]).2 [43] 10 12 7 [1, 7]
    ([1] ++ 7 :: interior (compactGraph exBubble [1] [43]).2 7) 0,
    Walk exBubble ep.2 ∧ ep.1 ∈ [43] ∧ ep.1 ∈ ep.2 ∧ ep.2.head? = ([1] ++ [7]).head? :=
  explore_walk_compact exBubble [1] [43] 10 12 7 [1, 7] [1] 0 (by decide +kernel)

example : (buildVariantGroups 64 3 exBubble [1] [43] 10).snpGroups =
    [((1, 43), [([65, 65, 67, 71, 84, 84, 71], [3, 3]), ([65, 65, 67, 67, 84, 84, 71], [3, 3])])] := by
  decide +kernel
example : ∃ path, (([65, 65, 67, 71, 84, 84, 71], [3, 3]) : Variant) = buildVariant 64 3 [1] [43] 1 path ∧
    Walk exBubble path ∧ path.head? = some 1 ∧ path.getLast? = some 43 ∧ 3 ≤ path.length :=
  (T17_paths_real 64 3 exBubble [1] [43] 10
    ((1, 43), [([65, 65, 67, 71, 84, 84, 71], [3, 3]), ([65, 65, 67, 67, 84, 84, 71], [3, 3])])
    (by decide +kernel)).2.2 _ (by decide +kernel)

-- AACGTTG spells AAC, ACG, CGT, GTT, TTG
example : (buildVariant 64 3 [1] [43] 1 [1, 7, 30, 58, 43]).1 = [65, 65, 67, 71, 84, 84, 71] := by decide +kernel
example : encodeKmer 64 (((buildVariant 64 3 [1] [43] 1 [1, 7, 30, 58, 43]).1.drop 2).take 3) = 30 :=
  (buildVariant_spells 64 3 [1] [43] 1 [1, 7, 30, 58, 43] (by decide +kernel) rfl (by decide +kernel)
    (fun i a b ha hb => chainR_getElem? _ i a b (by decide +kernel : ChainR (Overlap 3) [1, 7, 30, 58, 43]) ha hb)).2
    2 30 rfl
example : ∀ a b, Edge exBubble a b → a < 4 ^ 3 ∧ b < 4 ^ 3 ∧ Overlap 3 a b := by
  intro a b h
  have ha : a ∈ exBubble.map (·.1) := by
    unfold Edge succs at h
    cases hl : Assoc.lookup exBubble a with
    | none => rw [hl] at h; simp at h
    | some l => exact Assoc.mem_keys_of_lookup hl
  have : ∀ a ∈ exBubble.map (·.1), ∀ b ∈ succs exBubble a, a < 4 ^ 3 ∧ b < 4 ^ 3 ∧ Overlap 3 a b := by
    decide +kernel
  exact this a ha b h

-- one row of a table with k = 5 (arms AC / TG, cells A - R N)
example : Overlap 4 18 75 ∧ Edge (buildGraph 64
    { k := 5, rc := true, names := [], kmers := [27], variants := [[65, 45, 82, 78]], counts := [],
      kBits := 64 }).1 18 75 := by decide +kernel
example : 18 < 4 ^ (5 - 1) ∧ 75 < 4 ^ (5 - 1) ∧ Overlap (5 - 1) 18 75 :=
  buildGraph_edges_overlap 64
    { k := 5, rc := true, names := [], kmers := [27], variants := [[65, 45, 82, 78]], counts := [],
      kBits := 64 } (by unfold ValidK; decide +kernel) (by unfold WidthOk; decide +kernel) (by decide +kernel) 18 75 (by decide +kernel)

/-! ### counterexamples to stronger statements -/

/-- `pathsFrom` alone: the exit node is NOT always the last node of the path.  Here the exit 6 is also
the successor of the entry node 1, so it starts the segment 6 → 9 → 10 → 11 and is followed by its
interior 9, 10.  (Such paths never reach a reported group: their second-last nodes coincide,
`T17_paths_real`.)  The same example shows that the first successor of the entry node is never
tested for being an exit: the path 1 → 6 is not reported. -/
example : pathsFrom (compactGraph [(1, [6, 3]), (3, [6]), (6, [9]), (9, [10]), (10, [11])] [1] [6]).1
    (compactGraph [(1, [6, 3]), (3, [6]), (6, [9]), (9, [10]), (10, [11])] [1] [6]).2 [6] 10 1 =
    [(6, [[1, 3, 6, 9, 10]])] := by decide +kernel

/-- `pathsFrom` from a node that starts a segment is NOT sound: with the exit nodes 5 and 8 the entry
node 0 is a successor of the exit 5, the chain 0 → 1 → 2 → 3 is compacted to 0 → 3, and the path
0, 3, 8 reported from 0 skips the interior 1, 2: it is not a walk of the original graph.  (No group is
reported from such an entry node, since it has a single successor in the compacted graph.) -/
example : pathsFrom (compactGraph [(5, [0]), (0, [1]), (1, [2]), (2, [3]), (3, [8, 9])] [0] [5, 8]).1
    (compactGraph [(5, [0]), (0, [1]), (1, [2]), (2, [3]), (3, [8, 9])] [0] [5, 8]).2 [5, 8] 10 0 =
    [(8, [[0, 3, 8]])] ∧ ¬ Walk [(5, [0]), (0, [1]), (1, [2]), (2, [3]), (3, [8, 9])] [0, 3, 8] := by
  decide +kernel

end SkaModel.Props.C17G
