/-
C08 — `ska delete`: `delete_samples` refines column deletion on the plain table, its refusals, and
the one-name-per-line file reader (see DESIGN.md §7 C08).
-/
import SkaModel.Lemmas.DeleteLemmas

namespace SkaModel.Props.C08

open SkaModel SkaModel.Spec

/-- naming no sample, or as many DISTINCT names as there are samples, is refused -/
theorem T08_refuse_count (a : Arr) (del : List String)
    (h : del = [] ∨ del.eraseDups.length = a.names.length) :
    a.deleteSamples del = none := by
  unfold Arr.deleteSamples
  rcases h with h | h <;> simp [h]

/-- `delete_samples` panics (no output) exactly when the list is empty, or names as
many DISTINCT samples as the file has, or names a sample that is not in the file. Repeated entries do
not matter: `["s1","s1"]` on a two-sample file deletes `s1`, `["s1","s2","s2"]` on a two-sample file
is refused like `["s1","s2"]` (examples below; `T08_dups_irrelevant`). -/
theorem T08_refuse (a : Arr) (del : List String) :
    a.deleteSamples del = none ↔
      (del = [] ∨ del.eraseDups.length = a.names.length ∨ ∃ n ∈ del, n ∉ a.names) := by
  rw [deleteSamples_eq]
  have h1 : (del.isEmpty || del.eraseDups.length == a.names.length) = true
      ↔ (del = [] ∨ del.eraseDups.length = a.names.length) := by
    rw [Bool.or_eq_true, List.isEmpty_iff, beq_iff_eq]
  have h2 : del.eraseDups.any (fun n => !a.names.contains n) = true ↔ ∃ n ∈ del, n ∉ a.names := by
    rw [List.any_eq_true]
    constructor
    · rintro ⟨n, hn, hc⟩
      exact ⟨n, List.mem_eraseDups.1 hn, by simpa using hc⟩
    · rintro ⟨n, hn, hc⟩
      exact ⟨n, List.mem_eraseDups.2 hn, by simpa using hc⟩
  by_cases c1 : (del.isEmpty || del.eraseDups.length == a.names.length) = true
  · rw [if_pos c1]
    exact ⟨fun _ => (h1.1 c1).elim Or.inl (fun h => Or.inr (Or.inl h)), fun _ => rfl⟩
  · rw [if_neg c1]
    by_cases c2 : del.eraseDups.any (fun n => !a.names.contains n) = true
    · rw [if_pos c2]
      exact ⟨fun _ => Or.inr (Or.inr (h2.1 c2)), fun _ => rfl⟩
    · rw [if_neg c2]
      refine ⟨fun h => (nomatch h), fun h => ?_⟩
      rcases h with h | h | h
      · exact absurd (h1.2 (Or.inl h)) c1
      · exact absurd (h1.2 (Or.inr h)) c1
      · exact absurd (h2.2 h) c2

/-- naming all samples is refused, however often a name is repeated (and whatever
else is named): on a file with pairwise distinct sample names, a list in which every sample occurs
never deletes. -/
theorem T08_refuse_all (a : Arr) (del : List String) (hn : a.names.Nodup)
    (hall : ∀ n ∈ a.names, n ∈ del) : a.deleteSamples del = none := by
  rw [T08_refuse]
  by_cases h3 : ∃ n ∈ del, n ∉ a.names
  · exact Or.inr (Or.inr h3)
  · refine Or.inr (Or.inl ?_)
    apply Dedup.length_eraseDups_eq hn
    intro n
    constructor
    · intro hd
      apply Classical.byContradiction
      intro hc
      exact h3 ⟨n, hd, hc⟩
    · exact hall n

/-- the outcome (refusal or the file written) depends on the SET of names
given only: the list and its distinct entries behave alike. -/
theorem T08_dups_irrelevant (a : Arr) (del : List String) :
    a.deleteSamples del = a.deleteSamples del.eraseDups := by
  unfold Arr.deleteSamples
  rw [Dedup.eraseDups_idem, Dedup.eraseDups_isEmpty]

/-- lists with the same members are treated alike (order and repetitions are irrelevant for refusal;
for the result see `T08_dups_irrelevant`) -/
theorem T08_refuse_set (a : Arr) (del del' : List String) (h : ∀ n, n ∈ del ↔ n ∈ del') :
    a.deleteSamples del = none ↔ a.deleteSamples del' = none := by
  have hl : del.eraseDups.length = del'.eraseDups.length :=
    Dedup.length_eraseDups_eq (Dedup.eraseDups_nodup del') fun n => (h n).trans List.mem_eraseDups.symm
  have he : del = [] ↔ del' = [] := by
    rw [List.eq_nil_iff_forall_not_mem, List.eq_nil_iff_forall_not_mem]
    exact forall_congr' fun n => not_congr (h n)
  rw [T08_refuse, T08_refuse, hl, he]
  have hm : (∃ n ∈ del, n ∉ a.names) ↔ (∃ n ∈ del', n ∉ a.names) :=
    ⟨fun ⟨n, h1, h2⟩ => ⟨n, (h n).mp h1, h2⟩, fun ⟨n, h1, h2⟩ => ⟨n, (h n).mpr h1, h2⟩⟩
  rw [hm]

/-- the kept positions: exactly the positions of the names not requested, in increasing order
(for files without repeated sample names) -/
theorem T08_keepIdx (names del : List String) (hn : names.Nodup) :
    (∀ i, i ∈ Table.keepIdx names del ↔ ∃ h : i < names.length, names[i] ∉ del)
    ∧ (Table.keepIdx names del).Pairwise (· < ·)
    ∧ (Table.keepIdx names del).map (fun i => names.getD i "") = names.filter (fun n => !del.contains n) :=
  ⟨mem_keepIdx names del hn, keepIdx_sorted names del hn, keepIdx_names names del hn⟩

theorem all_named_iff (names del : List String) (hn : names.Nodup) (h3 : ∀ n ∈ del, n ∈ names) :
    del.eraseDups.length = names.length ↔ ∀ n ∈ names, n ∈ del := by
  constructor
  · intro hl n hmem
    apply Classical.byContradiction
    intro hnd
    have hsub : del.eraseDups ⊆ names.erase n := by
      intro x hx
      have hx' : x ∈ del := List.mem_eraseDups.mp hx
      have hne : x ≠ n := fun e => hnd (e ▸ hx')
      exact (List.mem_erase_of_ne hne).mpr (h3 x hx')
    have hle := (Dedup.eraseDups_nodup del).length_le_of_subset hsub
    rw [List.length_erase_of_mem hmem] at hle
    have hpos : 0 < names.length := List.length_pos_of_mem hmem
    omega
  · intro hall
    exact Dedup.length_eraseDups_eq hn fun n => ⟨h3 n, hall n⟩

/-- on a file with pairwise distinct sample names `delete_samples` returns exactly
when the list is not empty, names samples of the file only, and leaves some sample unnamed -/
theorem T08_accept (a : Arr) (del : List String) (hn : a.names.Nodup) :
    (∃ a', a.deleteSamples del = some a') ↔
      (del ≠ [] ∧ (∀ n ∈ del, n ∈ a.names) ∧ ∃ n ∈ a.names, n ∉ del) := by
  constructor
  · rintro ⟨a', ha'⟩
    have hnr : ¬ (del = [] ∨ del.eraseDups.length = a.names.length ∨ ∃ n ∈ del, n ∉ a.names) := by
      intro h
      rw [(T08_refuse a del).mpr h] at ha'
      cases ha'
    have h3 : ∀ n ∈ del, n ∈ a.names := by
      intro n hd
      apply Classical.byContradiction
      intro hc
      exact hnr (Or.inr (Or.inr ⟨n, hd, hc⟩))
    refine ⟨fun e => hnr (Or.inl e), h3, ?_⟩
    apply Classical.byContradiction
    intro hc
    apply hnr
    refine Or.inr (Or.inl ((all_named_iff a.names del hn h3).mpr ?_))
    intro n hmem
    apply Classical.byContradiction
    intro hnd
    exact hc ⟨n, hmem, hnd⟩
  · rintro ⟨h1, h3, n, hmem, hnd⟩
    cases hd : a.deleteSamples del with
    | some a' => exact ⟨a', rfl⟩
    | none =>
      rcases (T08_refuse a del).mp hd with h | h | ⟨m, hm, hc⟩
      · exact absurd h h1
      · exact absurd ((all_named_iff a.names del hn h3).mp h n hmem) hnd
      · exact absurd (h3 m hm) hc

/-- deleting existing samples (not none, not all: fewer distinct names than samples) succeeds; the
result is the plain table with those columns removed and the all-gap rows dropped; it is well formed,
every row is present somewhere, the stored counts are the true counts, and the remaining names are the
names not requested, in file order. (`abs`, `WF`, `RowsPresent`, `counts` hold without `Nodup`; the names
equation needs it — see `ex_dupNames`.) -/
theorem T08_delete (a : Arr) (del : List String) (ha : a.WF) (hn : a.names.Nodup)
    (h1 : del ≠ []) (h2 : del.eraseDups.length ≠ a.names.length) (h3 : ∀ n ∈ del, n ∈ a.names) :
    ∃ a', a.deleteSamples del = some a'
      ∧ a'.abs = a.abs.deleteSamples del
      ∧ a'.WF ∧ a'.RowsPresent
      ∧ a'.counts = a'.variants.map (Arr.cellCount false)
      ∧ a'.names = a.names.filter (fun n => !del.contains n)
      ∧ a'.k = a.k ∧ a'.rc = a.rc ∧ a'.kBits = a.kBits := by
  refine ⟨a.deleteResult del, ?_, deleteResult_abs a del, deleteResult_wf a del ha,
    deleteResult_rowsPresent a del, deleteResult_counts a del, ?_, rfl, rfl, rfl⟩
  · cases hd : a.deleteSamples del with
    | none =>
      rcases (T08_refuse a del).mp hd with h | h | ⟨n, hn', hc⟩
      · exact absurd h h1
      · exact absurd h h2
      · exact absurd (h3 n hn') hc
    | some a' => rw [deleteSamples_some hd]
  · rw [deleteResult_names, keepIdx_names a.names del hn]

/-- whenever `delete_samples` returns, it returns the column-deleted table (no hypotheses) -/
theorem T08_delete_abs (a a' : Arr) (del : List String) (h : a.deleteSamples del = some a') :
    a'.abs = a.abs.deleteSamples del ∧ a'.RowsPresent ∧ a'.counts = a'.variants.map (Arr.cellCount false)
      ∧ (a.WF → a'.WF) := by
  rw [deleteSamples_some h]
  exact ⟨deleteResult_abs a del, deleteResult_rowsPresent a del, deleteResult_counts a del,
    deleteResult_wf a del⟩

/-- `Modes.delete` is `delete_samples` -/
theorem T08_mode (a : Arr) (del : List String) : Modes.delete a del = a.deleteSamples del := rfl

/-- first whitespace-separated field of a line (`line.split_whitespace().next()`), on characters; white
space is Lean's `Char.isWhitespace` (space, tab, CR, LF), not Rust's Unicode `White_Space`, which
`FileList.nameList` models -/
def firstField (cs : List Char) : List Char :=
  (cs.dropWhile Char.isWhitespace).takeWhile (fun c => !c.isWhitespace)

/-- one name per line: the first field of every line that has one -/
def parseNames (lines : List String) : List String :=
  lines.filterMap (fun l =>
    let f := firstField l.toList
    if f.isEmpty then none else some (String.ofList f))

theorem firstField_padded (lead n rest : List Char) (hl : ∀ c ∈ lead, c.isWhitespace = true)
    (hne : n ≠ []) (hn : ∀ c ∈ n, c.isWhitespace = false)
    (hr : rest = [] ∨ ∃ c t, rest = c :: t ∧ c.isWhitespace = true) :
    firstField (lead ++ (n ++ rest)) = n := by
  unfold firstField
  rw [List.dropWhile_append_of_pos hl]
  obtain ⟨c, t, rfl⟩ := List.exists_cons_of_ne_nil hne
  have hc : c.isWhitespace = false := hn c (List.mem_cons_self ..)
  rw [List.cons_append, List.dropWhile_cons]
  simp only [hc, Bool.false_eq_true, if_false]
  rw [← List.cons_append, List.takeWhile_append_of_pos fun x hx => by simp [hn x hx]]
  rcases hr with rfl | ⟨d, u, rfl, hd⟩
  · simp
  · simp [hd]

/-- blank lines are skipped -/
theorem parseNames_blank (l : String) (rest : List String) (h : ∀ c ∈ l.toList, c.isWhitespace = true) :
    parseNames (l :: rest) = parseNames rest := by
  have : firstField l.toList = [] := by
    unfold firstField
    have := List.dropWhile_append_of_pos (l₂ := []) h
    rw [List.append_nil] at this
    rw [this]; rfl
  simp [parseNames, this]

/-- lines with surrounding blanks and trailing fields: line `i` is `lead ++ name ++ rest` -/
theorem T08_names_padded (ls : List (List Char × String × List Char))
    (h : ∀ t ∈ ls, t.2.1 ≠ "" ∧ (∀ c ∈ t.2.1.toList, c.isWhitespace = false) ∧
      (∀ c ∈ t.1, c.isWhitespace = true) ∧ (t.2.2 = [] ∨ ∃ c u, t.2.2 = c :: u ∧ c.isWhitespace = true)) :
    parseNames (ls.map (fun t => String.ofList (t.1 ++ (t.2.1.toList ++ t.2.2)))) = ls.map (·.2.1) := by
  induction ls with
  | nil => rfl
  | cons t ls ih =>
    obtain ⟨h1, h2, hlead, hrest⟩ := h t (List.mem_cons_self ..)
    have hne : t.2.1.toList ≠ [] := fun e => h1 (String.toList_eq_nil_iff.mp e)
    have hf : firstField (String.ofList (t.1 ++ (t.2.1.toList ++ t.2.2))).toList = t.2.1.toList := by
      rw [String.toList_ofList]; exact firstField_padded t.1 t.2.1.toList t.2.2 hlead hne h2 hrest
    have ih' := ih (fun m hm => h m (List.mem_cons_of_mem _ hm))
    unfold parseNames at ih' ⊢
    rw [List.map_cons, List.filterMap_cons]
    simp only [hf]
    have : t.2.1.toList.isEmpty = false := by
      cases hh : t.2.1.toList with
      | nil => exact absurd hh hne
      | cons _ _ => rfl
    simp only [this, Bool.false_eq_true, if_false, String.ofList_toList]
    rw [ih']
    rfl

/-- a file with one name per line (names non-empty, without white space) reads back as
the list of names -/
theorem T08_names (names : List String) (h : ∀ n ∈ names, n ≠ "" ∧ ∀ c ∈ n.toList, c.isWhitespace = false) :
    parseNames names = names := by
  have := T08_names_padded (names.map (fun n => ([], n, []))) (by
    intro t ht
    obtain ⟨n, hn, rfl⟩ := List.mem_map.1 ht
    exact ⟨(h n hn).1, (h n hn).2, fun _ hc => (nomatch hc), Or.inl rfl⟩)
  simpa [List.map_map, Function.comp_def, String.ofList_toList] using this

theorem T08_names_id (names : List String) (h : ∀ n ∈ names, n ≠ "" ∧ ∀ c ∈ n.toList, c.isWhitespace = false) :
    parseNames (names.map id) = names := by
  rw [List.map_id]; exact T08_names names h

def exA : Arr := { k := 3, rc := true, names := ["s1", "s2", "s3"], kmers := [5, 7, 9], variants := [[65, 67, 45], [45, 71, 45], [84, 84, 84]], counts := [2, 1, 3], kBits := 64 }

example : exA.WF ∧ exA.names.Nodup := by decide +kernel

/-- deleting `s2` drops row 7 (it was present in `s2` only) -/
example : exA.deleteSamples ["s2"] = some
    { k := 3, rc := true, names := ["s1", "s3"], kmers := [5, 9], variants := [[65, 45], [84, 84]],
      counts := [1, 2], kBits := 64 } := by decide +kernel

example : exA.abs.deleteSamples ["s2"] = { names := ["s1", "s3"], rows := [(5, [65, 45]), (9, [84, 84])] } := by
  decide +kernel

example : Table.keepIdx exA.names ["s2"] = [0, 2] := by decide +kernel

example : exA.deleteSamples [] = none := by decide +kernel
example : exA.deleteSamples ["s1", "s2", "s3"] = none := by decide +kernel
example : exA.deleteSamples ["s1", "zz"] = none := by decide +kernel
/-- three entries on a three-sample file naming one sample: that sample is deleted (a count of
entries instead of distinct names, 3 = 3, would refuse) -/
example : (exA.deleteSamples ["s1", "s1", "s1"]).map (·.names) = some ["s2", "s3"] := by decide +kernel
/-- two entries naming one sample: that sample is deleted -/
example : (exA.deleteSamples ["s1", "s1"]).map (·.names) = some ["s2", "s3"] := by decide +kernel
/-- all three samples named, one of them twice: refused (a count of entries, 4 ≠ 3, would let it
through and delete every sample) -/
example : exA.deleteSamples ["s1", "s2", "s3", "s3"] = none := by decide +kernel
example : exA.deleteSamples ["s3", "s1", "s3", "s2", "s1"] = none := by decide +kernel
/-- the same by the general theorem -/
example : exA.deleteSamples ["s1", "s2", "s3", "s3"] = none :=
  T08_refuse_all exA _ (by decide +kernel) (by decide +kernel)

/-- a two-sample file (the first two columns of `exA`) -/
def exA2 : Arr := { k := 3, rc := true, names := ["s1", "s2"], kmers := [5, 7, 9], variants := [[65, 67], [45, 71], [84, 84]], counts := [2, 1, 2], kBits := 64 }

example : exA2.WF ∧ exA2.names.Nodup := by decide +kernel
/-- `s1 s1` on a two-sample file deletes `s1` (a count of entries, 2 = 2, would refuse) -/
example : exA2.deleteSamples ["s1", "s1"] = some
    { k := 3, rc := true, names := ["s2"], kmers := [5, 7, 9], variants := [[67], [71], [84]],
      counts := [1, 1, 1], kBits := 64 } := by decide +kernel
example : exA2.deleteSamples ["s1", "s1"] = exA2.deleteSamples ["s1"] := by decide +kernel
/-- `s1 s2 s2` on a two-sample file is refused (a count of entries, 3 ≠ 2, would delete both and
write a file without samples) -/
example : exA2.deleteSamples ["s1", "s2", "s2"] = none := by decide +kernel
example : exA2.deleteSamples ["s1", "s2"] = none := by decide +kernel

/-- with a repeated sample name only its first column is removed, so the remaining names are not
`names.filter (· ∉ del)`; the table equation of `T08_delete_abs` still holds -/
def exDup : Arr := { exA with names := ["x", "x", "y"] }
theorem ex_dupNames : (exDup.deleteSamples ["x"]).map (·.names) = some ["x", "y"]
    ∧ exDup.names.filter (fun n => !["x"].contains n) = ["y"] := by decide +kernel

example : parseNames ["s1", "  s2\tcomment", "", "s3 "] = ["s1", "s2", "s3"] := by decide +kernel

end SkaModel.Props.C08
