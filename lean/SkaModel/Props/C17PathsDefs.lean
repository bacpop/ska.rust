/-
C17 / C18 — definitions for "every reported path is a real walk of the original graph"
(`SkaModel/Props/C17Paths.lean`).
-/
import SkaModel.Impl.SkaloPipe

namespace SkaModel.Props.C17G

open SkaModel SkaModel.Skalo

/-- `a → b` is an edge of the graph -/
def Edge (g : Graph) (a b : Nat) : Prop := b ∈ succs g a

/-- consecutive elements are edges -/
def Walk (g : Graph) : List Nat → Prop
  | a :: b :: rest => Edge g a b ∧ Walk g (b :: rest)
  | _ => True

/-- consecutive elements are *the only* successor: `all_kmers[a] == [b]` -/
def Chain1 (g : Graph) : List Nat → Prop
  | a :: b :: rest => Assoc.lookup g a = some [b] ∧ Chain1 g (b :: rest)
  | _ => True

/-- the interior nodes hidden behind the compacted node `a` (`[]` when `a` starts no segment) -/
def interior (comp : List (Nat × List Nat)) (a : Nat) : List Nat := (Assoc.lookup comp a).getD []

/-- the chain of original nodes an edge `a → b` of the compacted graph stands for -/
def expand (comp : List (Nat × List Nat)) (a b : Nat) : List Nat := a :: interior comp a ++ [b]

/-- `b / 4 = a % 4^(k-1)`: the last `k-1` bases of `a` are the first `k-1` bases of `b` -/
def Overlap (kGraph a b : Nat) : Prop := b / 4 = a % 4 ^ (kGraph - 1)

/-- what the path enumeration needs to know about a compacted graph `g'` with interiors `comp`
relative to the original graph `g` (established for `compactGraph` by `T17_compact_sound`) -/
structure Sound (g g' : Graph) (comp : List (Nat × List Nat)) : Prop where
  /-- every edge of `g'`, with the interior of its source spliced in, is a walk of `g` -/
  step : ∀ a b, Edge g' a b → Walk g (expand comp a b)
  /-- a node followed by its interior is a walk of `g` -/
  inner : ∀ a, Walk g (a :: interior comp a)
  /-- a node that starts a segment has at most one successor in `g'` -/
  single : ∀ a, Assoc.lookup comp a ≠ none → ∀ b c, Edge g' a b → Edge g' a c → b = c
  /-- recorded interiors are not empty -/
  nonempty : ∀ a I, Assoc.lookup comp a = some I → I ≠ []

instance (g : Graph) (a b : Nat) : Decidable (Edge g a b) := inferInstanceAs (Decidable (b ∈ succs g a))

instance decWalk (g : Graph) : (l : List Nat) → Decidable (Walk g l)
  | [] => isTrue trivial
  | [_] => isTrue trivial
  | a :: b :: rest =>
    match (inferInstance : Decidable (Edge g a b)), decWalk g (b :: rest) with
    | isTrue h1, isTrue h2 => isTrue ⟨h1, h2⟩
    | isFalse h1, _ => isFalse (fun h => h1 h.1)
    | _, isFalse h2 => isFalse (fun h => h2 h.2)

instance decChain1 (g : Graph) : (l : List Nat) → Decidable (Chain1 g l)
  | [] => isTrue trivial
  | [_] => isTrue trivial
  | a :: b :: rest =>
    match (inferInstance : Decidable (Assoc.lookup g a = some [b])), decChain1 g (b :: rest) with
    | isTrue h1, isTrue h2 => isTrue ⟨h1, h2⟩
    | isFalse h1, _ => isFalse (fun h => h1 h.1)
    | _, isFalse h2 => isFalse (fun h => h2 h.2)

instance (k a b : Nat) : Decidable (Overlap k a b) := inferInstanceAs (Decidable (_ = _))

end SkaModel.Props.C17G

