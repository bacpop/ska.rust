/-
C05 ∘ C04 — `ska map -f vcf` carries exactly the information of `ska map -f aln` of the
specification.

`C04.T04_map_final`: the modelled pseudoalignment of sample `s` is `Spec.mapSeq …`.
`C05.T05_rel_ref` : for ANY alignment of the right width the modelled VCF records are
`Spec.vcfSpec ref aln` up to contig naming. Composition: `T05_map`.
-/
import SkaModel.Props.C04Final
import SkaModel.Props.C05

namespace SkaModel.Props.C05

open SkaModel SkaModel.Spec SkaModel.VCF SkaModel.Props.C16

theorem mapSeq_length (k : Nat) (rc : Bool) (dict : Nat → Option (List UInt8)) (ref : List (Array UInt8))
    (amask rmask : Bool) (s : Nat) :
    (Spec.mapSeq k rc dict ref amask rmask s).length = (ref.map (·.size)).sum := by
  unfold Spec.mapSeq
  rw [List.length_flatMap]
  simp only [List.length_map, List.length_range]

theorem pseudoalignment_length (r : RefSka) (n : Nat) (mapped : List ((Nat × Nat) × List UInt8)) :
    (r.pseudoalignment n mapped).length = n := by
  unfold RefSka.pseudoalignment
  simp

/-- the modelled alignment, as lists, is the specified alignment of all `n` samples -/
theorem T05_map_aln (W k : Nat) (rc : Bool) (hk : ValidK k) (hw : WidthOk W k)
    (names : List String) (ref : List (Array UInt8)) (amask rmask : Bool) (r : RefSka)
    (hnew : RefSka.new W k rc names ref amask rmask = some r) (d : MDict)
    (hgs : rc = true → RM.GapSafe d) (n : Nat) :
    (r.pseudoalignment n (r.map d)).map Array.toList =
      (List.range n).map (fun s => Spec.mapSeq k rc (fun key => Assoc.lookup d.kmers key) ref amask rmask s) := by
  have hlen := pseudoalignment_length r n (r.map d)
  apply List.ext_getElem (by simp [hlen])
  intro i h1 h2
  simp only [List.length_map, hlen] at h1
  simp only [List.getElem_map, List.getElem_range]
  rw [← C04.T04_map_final W k rc hk hw names ref amask rmask r hnew d hgs n i h1]
  rw [getD_eq_getElem _ _ (hlen.symm ▸ h1)]

/-- every sequence of the modelled alignment has the width of the concatenated reference -/
theorem T05_map_width (W k : Nat) (rc : Bool) (hk : ValidK k) (hw : WidthOk W k)
    (names : List String) (ref : List (Array UInt8)) (amask rmask : Bool) (r : RefSka)
    (hnew : RefSka.new W k rc names ref amask rmask = some r) (d : MDict)
    (hgs : rc = true → RM.GapSafe d) (n : Nat) :
    ∀ s ∈ r.pseudoalignment n (r.map d), s.size = (ref.map (·.size)).sum := by
  intro s hs
  have hmem := List.mem_map_of_mem (f := Array.toList) hs
  rw [T05_map_aln W k rc hk hw names ref amask rmask r hnew d hgs n] at hmem
  obtain ⟨i, _, hi⟩ := List.mem_map.1 hmem
  rw [← Array.length_toList, ← hi, mapSeq_length]

/-- **`T05_map`** (C05 composed with C04). For a successfully built reference (`RefSka.new … = some r`,
every contig with at least one base and without '-' bytes), every valid `k`, both widths, both strand
modes (dictionary `GapSafe` when `rc`), both masks and `n` samples: the VCF records written from the
modelled pseudoalignment, read as (contig name, 1-based position, REF, decoded genotype characters),
are exactly `Spec.vcfSpec` of the *specified* alignment `Spec.mapSeq` of the `n` samples, with contig
index `c` named `names[c]`. -/
theorem T05_map (W k : Nat) (rc : Bool) (hk : ValidK k) (hw : WidthOk W k)
    (names : List String) (ref : List (Array UInt8)) (amask rmask : Bool) (r : RefSka)
    (hnew : RefSka.new W k rc names ref amask rmask = some r) (d : MDict)
    (hgs : rc = true → RM.GapSafe d) (n : Nat)
    (hsz : ∀ c ∈ ref, 1 ≤ c.size)
    (hgap : ∀ c ∈ ref, ∀ b ∈ c.toList, b ≠ 45) :
    (RefSka.vcfRecords r (r.pseudoalignment n (r.map d))).map
        (fun rec => (rec.chrom, rec.pos, rec.ref, rec.gts.map (decodeGt rec))) =
      (vcfSpec ref ((List.range n).map
          (fun s => Spec.mapSeq k rc (fun key => Assoc.lookup d.kmers key) ref amask rmask s))).map
        (fun x => (names.getD x.1 "", x.2.1, x.2.2.1, x.2.2.2)) := by
  obtain ⟨_, _, hnames, hseq, _⟩ := C04.T04_new_fields W k rc hk hw names ref amask rmask r hnew
  rw [T05_rel_ref r ref _ hseq hsz hgap (T05_map_width W k rc hk hw names ref amask rmask r hnew d hgs n),
    T05_map_aln W k rc hk hw names ref amask rmask r hnew d hgs n, hnames]

end SkaModel.Props.C05
