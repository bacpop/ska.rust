/-
C17 "SNP calls are real" / C18 "no sample is genotyped for an allele it does not carry", caller
stage of the reference-free `ska lo` pipeline (`SkaModel/Impl/SkaloPipe.lean`): every letter of
every reported SNP column is traced back to the table: its entries to the colours of the variants'
k-mers ending at its position (`T17_groupSnps_justified`), the colour map `kmer_2_samples` of
`build_graph` to the cells of the rows (`T17_colour_sound`), both together in `T17_calls_real`; and
on the groups of a table's graph nothing in the caller panics (`T17_lo_no_panic`).
-/
import SkaModel.Lemmas.LOColourRow
import SkaModel.Props.C17
import SkaModel.Props.C17Pipe

namespace SkaModel.Props.C17Q

open SkaModel SkaModel.Skalo SkaModel.Spec SkaModel.Props.C16 SkaModel.Props.C17G SkaModel.LOG

/-- **T17_groupSnps_justified**: every column `c` of `groupSnps` is the column of a retained position
`pos ≥ kGraph`; every variant of the group has its k-mer ending at `pos` in the colour map and unused
by earlier columns (`done`); and for every sample `i < n` the entry `x = c[i]` is one of
'-', N, A, C, G, T with
* `x` ∈ {A, C, G, T} ⇒ some variant carried by `i` shows `x` at `pos`, and every variant carried by
  `i` shows `x`;
* `x` = N ⇒ two variants carried by `i` show different bases;
* `x` = '-' ⇒ `i` carries no variant. -/
theorem T17_groupSnps_justified (W kGraph n mNum mDen : Nat) (col : Colours) (done : List Nat)
    (vs : List Variant) (cols : List (List UInt8)) (save : List Nat)
    (h : groupSnps W kGraph n mNum mDen col done vs = some (cols, save)) :
    ∀ c ∈ cols, ∃ pos ∈ getPotentialSnp vs, kGraph ≤ pos ∧ c.length = n ∧
      (∀ v ∈ vs, ∃ w S, getRange v.1 (pos - kGraph) (pos + 1) = some w ∧
        Assoc.lookup col (encodeKmer W w) = some S ∧ encodeKmer W w ∉ done) ∧
      ∀ i, i < n → ∀ x, c[i]? = some x →
        (x = 45 ∨ x = 78 ∨ x = 65 ∨ x = 67 ∨ x = 71 ∨ x = 84) ∧
        ((x = 65 ∨ x = 67 ∨ x = 71 ∨ x = 84) →
          (∃ v ∈ vs, Carries W kGraph col pos i v x) ∧
          ∀ v' ∈ vs, ∀ b', Carries W kGraph col pos i v' b' → b' = x) ∧
        (x = 78 → ∃ v ∈ vs, ∃ v' ∈ vs, ∃ b b', b ≠ b' ∧
          Carries W kGraph col pos i v b ∧ Carries W kGraph col pos i v' b') ∧
        (x = 45 → ∀ v ∈ vs, ∀ b, ¬ Carries W kGraph col pos i v b) := by
  intro c hc
  obtain ⟨pos, hpos, hk, hlen, hall, hent⟩ :=
    LORL.groupSnps_justified W kGraph n mNum mDen col done vs _ h c hc
  refine ⟨pos, hpos, hk, hlen, hall, fun i hi x hx => ?_⟩
  have hE := hent i hi
  rw [List.getD_eq_getElem?_getD, hx] at hE
  exact LORL.entry_readings _ vs x hE

/-- the same three readings as equivalences: under the conclusion of `T17_groupSnps_justified` for
one sample the entry is determined by which variants the sample carries -/
theorem T17_entry_iff {α : Type} (Car : α → UInt8 → Prop) (vs : List α) (x : UInt8)
    (h6 : x = 45 ∨ x = 78 ∨ x = 65 ∨ x = 67 ∨ x = 71 ∨ x = 84)
    (hb : (x = 65 ∨ x = 67 ∨ x = 71 ∨ x = 84) →
      (∃ v ∈ vs, Car v x) ∧ ∀ v' ∈ vs, ∀ b', Car v' b' → b' = x)
    (hN : x = 78 → ∃ v ∈ vs, ∃ v' ∈ vs, ∃ b b', b ≠ b' ∧ Car v b ∧ Car v' b')
    (hgap : x = 45 → ∀ v ∈ vs, ∀ b, ¬ Car v b) :
    (x = 45 ↔ ∀ v ∈ vs, ∀ b, ¬ Car v b) ∧
    (x = 78 ↔ ∃ v ∈ vs, ∃ v' ∈ vs, ∃ b b', b ≠ b' ∧ Car v b ∧ Car v' b') ∧
    (∀ b, (b = 65 ∨ b = 67 ∨ b = 71 ∨ b = 84) →
      (x = b ↔ (∃ v ∈ vs, Car v b) ∧ ∀ v' ∈ vs, ∀ b', Car v' b' → b' = b)) := by
  refine ⟨⟨hgap, ?_⟩, ⟨hN, ?_⟩, ?_⟩
  · intro hno
    rcases h6 with h | h | h | h | h | h
    · exact h
    · obtain ⟨v, hv, _, _, b, _, _, hc, _⟩ := hN h
      exact absurd hc (hno v hv b)
    all_goals
      obtain ⟨⟨v, hv, hc⟩, _⟩ := hb (by simp [h])
      exact absurd hc (hno v hv x)
  · rintro ⟨v, hv, v', hv', b, b', hne, hc, hc'⟩
    rcases h6 with h | h | h | h | h | h
    · exact absurd hc (hgap h v hv b)
    · exact h
    all_goals
      obtain ⟨_, hall⟩ := hb (by simp [h])
      exact absurd ((hall v hv b hc).trans (hall v' hv' b' hc').symm) hne
  · intro b hbb
    constructor
    · intro e
      subst e
      exact hb hbb
    · rintro ⟨⟨v, hv, hc⟩, hall⟩
      rcases h6 with h | h | h | h | h | h
      · exact absurd hc (hgap h v hv b)
      · obtain ⟨u, hu, u', hu', c, c', hne, h1, h2⟩ := hN h
        exact absurd ((hall u hu c h1).trans (hall u' hu' c' h2).symm) hne
      all_goals
        obtain ⟨_, hall'⟩ := hb (by simp [h])
        exact (hall' v hv b hc).symm

/-- **T17_analyse_justified**: every column of `analyse` is a column of `groupSnps` for an SNP group
`kv` of `gr` whose variants are filtered by the internal-indel test (with the extremities `ext` of
`processIndels`), hence justified as in `T17_groupSnps_justified`, except that the k-mers blocked by
the earlier groups (`done` there) are not exposed -/
theorem T17_analyse_justified (W kGraph n mNum mDen ik : Nat) (col : Colours) (gr : Groups)
    (cols : List (List UInt8)) (recs : List IndelRec)
    (h : analyse W kGraph n mNum mDen ik col gr = some (cols, recs)) :
    ∃ ext, (∃ recs', processIndels W kGraph n mNum mDen col gr.indelGroups = some (recs', ext)) ∧
    ∀ c ∈ cols, ∃ kv ∈ gr.snpGroups, ∃ vs : List Variant,
      vs = kv.2.filter (fun v => !(internalIndels W kGraph ext v.1 > ik)) ∧
      ∃ pos ∈ getPotentialSnp vs, kGraph ≤ pos ∧ c.length = n ∧
      (∀ v ∈ vs, ∃ w S, getRange v.1 (pos - kGraph) (pos + 1) = some w ∧
        Assoc.lookup col (encodeKmer W w) = some S) ∧
      ∀ i, i < n → ∀ x, c[i]? = some x →
        (x = 45 ∨ x = 78 ∨ x = 65 ∨ x = 67 ∨ x = 71 ∨ x = 84) ∧
        ((x = 65 ∨ x = 67 ∨ x = 71 ∨ x = 84) →
          (∃ v ∈ vs, Carries W kGraph col pos i v x) ∧
          ∀ v' ∈ vs, ∀ b', Carries W kGraph col pos i v' b' → b' = x) ∧
        (x = 78 → ∃ v ∈ vs, ∃ v' ∈ vs, ∃ b b', b ≠ b' ∧
          Carries W kGraph col pos i v b ∧ Carries W kGraph col pos i v' b') ∧
        (x = 45 → ∀ v ∈ vs, ∀ b, ¬ Carries W kGraph col pos i v b) := by
  obtain ⟨ext, hpi, hcols⟩ := LORL.analyse_justified W kGraph n mNum mDen ik col gr cols recs h
  refine ⟨ext, hpi, fun c hc => ?_⟩
  obtain ⟨kv, hkv, done, pos, hpos, hk, hlen, hall, hent⟩ := hcols c hc
  refine ⟨kv, hkv, _, rfl, pos, hpos, hk, hlen, fun v hv => ?_, fun i hi x hx => ?_⟩
  · obtain ⟨w, S, h1, h3, _⟩ := hall v hv
    exact ⟨w, S, h1, h3⟩
  · have hE := hent i hi
    rw [List.getD_eq_getElem?_getD, hx] at hE
    exact LORL.entry_readings _ _ x hE

/-- the coloured k-mers of all rows in table order: `(k-mer, samples)` -/
abbrev colourEntries := LORL.colourEntries

/-- **T17_colour_first** (first insertion wins, exactly): a lookup in the colour map of `build_graph`
finds the first entry with that key in the list of the rows' coloured k-mers (rows in table order, bases
in the order A C G T, the k-mer before its reverse complement; `LORL.buildGraph_lookup`) -/
theorem T17_colour_first (W : Nat) (a : Arr) (f : Nat) (S : List Nat) :
    Assoc.lookup (buildGraph W a).2 f = some S ↔
      ∃ l1 l2, colourEntries W a = l1 ++ (f, S) :: l2 ∧ ∀ e ∈ l1, e.1 ≠ f := by
  rw [LORL.buildGraph_lookup]
  exact Assoc.lookup_eq_some_split _ f S

/-- the entries: `(f, S)` is a coloured k-mer of the table iff some row `(packL (u ++ l), cells)` and
some base `n` shown in it have `f` = the packed k-mer `u n l` or its reverse complement, and `S` =
the samples showing `n` -/
theorem T17_colour_entries (W : Nat) (a : Arr) (hk : ValidK a.k) (hw : WidthOk W a.k)
    (hkeys : ∀ key ∈ a.kmers, key < 4 ^ (a.k - 1)) (f : Nat) (S : List Nat) :
    (f, S) ∈ colourEntries W a ↔
      ∃ kv ∈ a.kmers.zip a.variants, ∃ u l, kv.1 = packL (u ++ l) ∧ u.length = halfK a.k ∧
        l.length = halfK a.k ∧ (∀ c ∈ u, c < 4) ∧ (∀ c ∈ l, c < 4) ∧ ∃ n ∈ C17.shownBases kv.2,
          (f = packL (u ++ [code n] ++ l) ∨ f = packL (rcCodes (u ++ [code n] ++ l))) ∧
          S = C17.samplesOf kv.2 n :=
  (LORL.mem_colourEntries W a hk hw hkeys f S).trans
    ⟨fun ⟨kv, u, l, n, r, hf, hS⟩ =>
      ⟨kv, r.row, u, l, r.key, r.lenU, r.lenL, r.codesU, r.codesL, n, r.shown, hf, hS⟩,
    fun ⟨kv, hkv, u, l, e, hu, hl, hcu, hcl, n, hn, hf, hS⟩ =>
      ⟨kv, u, l, n, ⟨hkv, e, hu, hl, hcu, hcl, hn⟩, hf, hS⟩⟩

/-- **T17_colour_sound**: a colour set `S` of a k-mer `f` is the sample set `samplesOf cells n` of a
row `(key, cells)` of the table and a base `n` shown in it, such that `f` is the packed k-mer
`U n L` of the row or its reverse complement; it is not empty and every sample in it has a cell that
is not '-' and whose IUPAC expansion contains `n` -/
theorem T17_colour_sound (W : Nat) (a : Arr) (hk : ValidK a.k) (hw : WidthOk W a.k)
    (hkeys : ∀ key ∈ a.kmers, key < 4 ^ (a.k - 1)) (f : Nat) (S : List Nat)
    (h : Assoc.lookup (buildGraph W a).2 f = some S) :
    ∃ kv ∈ a.kmers.zip a.variants, ∃ u l, kv.1 = packL (u ++ l) ∧ u.length = halfK a.k ∧
      l.length = halfK a.k ∧ (∀ c ∈ u, c < 4) ∧ (∀ c ∈ l, c < 4) ∧ ∃ n ∈ C17.shownBases kv.2,
        (f = packL (u ++ [code n] ++ l) ∨ f = packL (rcCodes (u ++ [code n] ++ l))) ∧
        S = C17.samplesOf kv.2 n ∧ S ≠ [] ∧
        ∀ i ∈ S, i < kv.2.length ∧ kv.2.getD i 45 ≠ 45 ∧ n ∈ degenerate (kv.2.getD i 45) :=
  LORL.colour_sound W a hk hw hkeys f S h

/-- **T17_colour_complete**: both k-mers of every row and every base shown in it are keys -/
theorem T17_colour_complete (W : Nat) (a : Arr) (hk : ValidK a.k) (hw : WidthOk W a.k)
    (hkeys : ∀ key ∈ a.kmers, key < 4 ^ (a.k - 1)) (kv : Nat × List UInt8)
    (hkv : kv ∈ a.kmers.zip a.variants) (u l : List Nat) (e : kv.1 = packL (u ++ l))
    (hu : u.length = halfK a.k) (hl : l.length = halfK a.k) (hcu : ∀ c ∈ u, c < 4) (hcl : ∀ c ∈ l, c < 4)
    (n : UInt8) (hn : n ∈ C17.shownBases kv.2) :
    (∃ S, Assoc.lookup (buildGraph W a).2 (packL (u ++ [code n] ++ l)) = some S) ∧
    (∃ S, Assoc.lookup (buildGraph W a).2 (packL (rcCodes (u ++ [code n] ++ l))) = some S) :=
  LORL.colour_complete W a hk hw hkeys kv hkv u l e hu hl hcu hcl n hn

/-- the reverse complement of a packed split k-mer: both arms reverse-complemented and swapped -/
abbrev rcKey := LORL.rcKey

theorem T17_rcKey (k : Nat) (u l : List Nat) (hcu : ∀ c ∈ u, c < 4) (hcl : ∀ c ∈ l, c < 4)
    (hlen : (u ++ l).length = k - 1) :
    rcKey k (packL (u ++ l)) = packL (rcCodes l ++ rcCodes u) :=
  LORL.rcKey_arms k u l hcu hcl hlen

/-- **T17_colour_row_unique**: when the keys are distinct and canonical (`key ≤ rcKey key`), two
(row, base) pairs that produce the same k-mer — as the k-mer itself or as its reverse complement —
are in the same row -/
theorem T17_colour_row_unique (W : Nat) (a : Arr) (hk : ValidK a.k) (hw : WidthOk W a.k)
    (hnd : a.kmers.Nodup) (hcanon : ∀ key ∈ a.kmers, key ≤ rcKey a.k key)
    (kv kv' : Nat × List UInt8) (hkv : kv ∈ a.kmers.zip a.variants) (hkv' : kv' ∈ a.kmers.zip a.variants)
    (u l u' l' : List Nat) (e : kv.1 = packL (u ++ l)) (e' : kv'.1 = packL (u' ++ l'))
    (hu : u.length = halfK a.k) (hl : l.length = halfK a.k) (hu' : u'.length = halfK a.k)
    (hl' : l'.length = halfK a.k) (hcu : ∀ c ∈ u, c < 4) (hcl : ∀ c ∈ l, c < 4)
    (hcu' : ∀ c ∈ u', c < 4) (hcl' : ∀ c ∈ l', c < 4)
    (n n' : UInt8) (f : Nat)
    (hf : f = packL (u ++ [code n] ++ l) ∨ f = packL (rcCodes (u ++ [code n] ++ l)))
    (hf' : f = packL (u' ++ [code n'] ++ l') ∨ f = packL (rcCodes (u' ++ [code n'] ++ l'))) :
    kv = kv' := by
  apply LORL.row_eq_of_key hnd hkv hkv'
  rcases LORL.same_kmer_cases a.k u l u' l' (code n) (code n') hu hl hu' hl' (validK_eq hk) hcu hcl hcu' hcl'
    (code_lt n) (code_lt n') f hf hf' with ⟨h1, h2, _⟩ | ⟨h1, h2⟩
  · rw [e, e', h1, h2]
  · have c1 : kv.1 ≤ LORL.rcKey a.k kv.1 := hcanon kv.1 (List.of_mem_zip hkv).1
    have c2 : kv'.1 ≤ LORL.rcKey a.k kv'.1 := hcanon kv'.1 (List.of_mem_zip hkv').1
    rw [e, ← h2] at c1
    rw [e', ← h1] at c2
    rw [e, e']
    exact Nat.le_antisymm c1 c2

/-- **T17_colour_exact**: when the keys are distinct and strictly canonical (`key < rcKey key`: no key
is its own reverse complement), the colour set of both k-mers of every row and shown base is exactly
the set of samples showing that base in that row -/
theorem T17_colour_exact (W : Nat) (a : Arr) (hk : ValidK a.k) (hw : WidthOk W a.k)
    (hkeys : ∀ key ∈ a.kmers, key < 4 ^ (a.k - 1))
    (hnd : a.kmers.Nodup) (hcanon : ∀ key ∈ a.kmers, key < rcKey a.k key)
    (kv : Nat × List UInt8) (hkv : kv ∈ a.kmers.zip a.variants)
    (u l : List Nat) (e : kv.1 = packL (u ++ l))
    (hu : u.length = halfK a.k) (hl : l.length = halfK a.k) (hcu : ∀ c ∈ u, c < 4) (hcl : ∀ c ∈ l, c < 4)
    (n : UInt8) (hn : n ∈ C17.shownBases kv.2) :
    Assoc.lookup (buildGraph W a).2 (packL (u ++ [code n] ++ l)) = some (C17.samplesOf kv.2 n) ∧
    Assoc.lookup (buildGraph W a).2 (packL (rcCodes (u ++ [code n] ++ l))) = some (C17.samplesOf kv.2 n) := by
  have key : ∀ f S, (f = packL (u ++ [code n] ++ l) ∨ f = packL (rcCodes (u ++ [code n] ++ l))) →
      Assoc.lookup (buildGraph W a).2 f = some S → S = C17.samplesOf kv.2 n := by
    intro f S hf hS
    obtain ⟨kv', hkv', u', l', e', hu', hl', hcu', hcl', n', hn', hf', hS', _⟩ :=
      T17_colour_sound W a hk hw hkeys f S hS
    have hrow : kv = kv' :=
      T17_colour_row_unique W a hk hw hnd (fun key hkey => Nat.le_of_lt (hcanon key hkey)) kv kv' hkv hkv'
        u l u' l' e e' hu hl hu' hl' hcu hcl hcu' hcl' n n' f hf hf'
    subst hrow
    rcases LORL.same_kmer_cases a.k u l u' l' (code n) (code n') hu hl hu' hl' (validK_eq hk) hcu hcl hcu' hcl'
      (code_lt n) (code_lt n') f hf hf' with ⟨_, _, h3⟩ | ⟨h1, _⟩
    · rw [hS', LORL.code_inj_shown kv.2 kv.2 n n' hn hn' h3]
    · exfalso
      have c1 : kv.1 < LORL.rcKey a.k kv.1 := hcanon kv.1 (List.of_mem_zip hkv).1
      rw [e', ← h1, ← e, ← e'] at c1
      exact Nat.lt_irrefl _ c1
  obtain ⟨⟨S1, h1⟩, ⟨S2, h2⟩⟩ := T17_colour_complete W a hk hw hkeys kv hkv u l e hu hl hcu hcl n hn
  exact ⟨by rw [h1, key _ S1 (Or.inl rfl) h1], by rw [h2, key _ S2 (Or.inr rfl) h2]⟩

/-- **T17_edges_coloured**: the k-mer `combine_kmers x y` of every edge `x → y` of the graph of a
table has a non-empty colour set -/
theorem T17_edges_coloured (W : Nat) (a : Arr) (hk : ValidK a.k) (hw : WidthOk W a.k)
    (hkeys : ∀ key ∈ a.kmers, key < 4 ^ (a.k - 1)) (x y : Nat) (h : Edge (buildGraph W a).1 x y) :
    ∃ S, Assoc.lookup (buildGraph W a).2 (combineKmers W x y) = some S ∧ S ≠ [] :=
  LORL.edge_coloured W a hk hw hkeys x y h

/-- the bridge: where the windows of `kGraph` letters at `i` and `i + 1` encode to `x` and `y`, the
window of `kGraph + 1` letters at `i` encodes to `combine_kmers x y` -/
theorem T17_window_combine (W kGraph : Nat) (hk1 : 1 ≤ kGraph) (hW : 2 * (kGraph + 1) ≤ W) (s : List UInt8)
    (i x y : Nat) (hi : i + kGraph + 1 ≤ s.length)
    (hx : encodeKmer W ((s.drop i).take kGraph) = x)
    (hy : encodeKmer W ((s.drop (i + 1)).take kGraph) = y) :
    encodeKmer W ((s.drop i).take (kGraph + 1)) = combineKmers W x y :=
  LORL.window_combine W kGraph hk1 hW s i x y hi hx hy

/-- **T17_path_kmers_coloured**: every k-mer (window of `a.k` letters) of every sequence of every
reported group of the table pipeline is a key of the colour map with a non-empty sample set:
every k-mer of every reported path is carried by some sample -/
theorem T17_path_kmers_coloured (W : Nat) (a : Arr) (hk : ValidK a.k) (hw : WidthOk W a.k)
    (hkeys : ∀ key ∈ a.kmers, key < 4 ^ (a.k - 1)) (starts ends : List Nat) (maxDepth : Nat) :
    ∀ grp ∈ (buildVariantGroups W (a.k - 1) (buildGraph W a).1 starts ends maxDepth).snpGroups ++
        (buildVariantGroups W (a.k - 1) (buildGraph W a).1 starts ends maxDepth).indelGroups,
      ∀ var ∈ grp.2, ∀ i, i + a.k ≤ var.1.length →
        ∃ S, Assoc.lookup (buildGraph W a).2 (encodeKmer W ((var.1.drop i).take a.k)) = some S ∧ S ≠ [] := by
  intro grp hgrp var hvar i hi
  rw [← (kGraph_bounds hk hw).2.2] at hi ⊢
  exact LORL.var_windows_coloured W a hk hw hkeys grp.1 var
    (LORL.var_spec W a hk hw hkeys starts ends maxDepth grp hgrp var hvar) i hi

/-- **T17_snp_group_shape**: in an SNP group of the table pipeline all sequences have the same length
`L`, the same first and the same last `k-1` letters; hence every retained position `pos` satisfies
`k-1 ≤ pos` and `pos + (k-1) + 1 ≤ L` (the same for any sub-list of the variants, as left by the
internal-indel filter) -/
theorem T17_snp_group_shape (W : Nat) (a : Arr) (hk : ValidK a.k) (hw : WidthOk W a.k)
    (hkeys : ∀ key ∈ a.kmers, key < 4 ^ (a.k - 1)) (starts ends : List Nat) (maxDepth : Nat) :
    ∀ kv ∈ (buildVariantGroups W (a.k - 1) (buildGraph W a).1 starts ends maxDepth).snpGroups,
      (∀ v ∈ kv.2, ∀ v' ∈ kv.2, v.1.length = v'.1.length ∧ v.1.take (a.k - 1) = v'.1.take (a.k - 1) ∧
        v.1.drop (v.1.length - (a.k - 1)) = v'.1.drop (v.1.length - (a.k - 1))) ∧
      ∀ p : Variant → Bool, ∀ pos ∈ getPotentialSnp (kv.2.filter p),
        a.k - 1 ≤ pos ∧ ∀ v ∈ kv.2.filter p, pos + (a.k - 1) + 1 ≤ v.1.length := by
  intro kv hkv
  have hb := validK_bounds hk hw
  refine ⟨?_, ?_⟩
  · intro v hv v' hv'
    have hl := LORL.snp_equal_length W (a.k - 1) _ starts ends maxDepth kv hkv v hv v' hv'
    have s1 := LORL.var_spec W a hk hw hkeys starts ends maxDepth kv (List.mem_append_left _ hkv) v hv
    have s2 := LORL.var_spec W a hk hw hkeys starts ends maxDepth kv (List.mem_append_left _ hkv) v' hv'
    exact ⟨hl, LORL.var_shared W (a.k - 1) (by omega) _ kv.1 v v' s1 s2 hl⟩
  · intro p pos hpos
    obtain ⟨h1, h2⟩ := LORL.table_snps_roomy W a hk hw hkeys starts ends maxDepth kv hkv p pos hpos
    exact ⟨h1, fun v hv => (h2 v hv).1⟩

/-- **T17_groupSnps_no_panic**: `groupSnps` returns `some` as soon as every retained position leaves
room for the two k-mers in every variant and the k-mer ending at the position is coloured -/
theorem T17_groupSnps_no_panic (W kGraph n mNum mDen : Nat) (col : Colours) (done : List Nat) (vs : List Variant)
    (h : ∀ pos ∈ getPotentialSnp vs, kGraph ≤ pos ∧ ∀ v ∈ vs, pos + kGraph + 1 ≤ v.1.length ∧
      ∃ S, Assoc.lookup col (encodeKmer W ((v.1.drop (pos - kGraph)).take (kGraph + 1))) = some S) :
    groupSnps W kGraph n mNum mDen col done vs ≠ none :=
  Option.ne_none_iff_exists'.mpr (LORL.groupSnps_some W kGraph n mNum mDen col done vs h)

/-- **T17_analyse_no_panic**: for the graph and the colours of a table (valid `k`, keys below
`4^(k-1)`), whatever the entry and exit nodes and the parameters, `processIndels` and `analyse` on the
groups of `buildVariantGroups` do not panic -/
theorem T17_analyse_no_panic (W : Nat) (a : Arr) (hk : ValidK a.k) (hw : WidthOk W a.k)
    (hkeys : ∀ key ∈ a.kmers, key < 4 ^ (a.k - 1)) (starts ends : List Nat)
    (maxDepth n mNum mDen ik : Nat) :
    processIndels W (a.k - 1) n mNum mDen (buildGraph W a).2
      (buildVariantGroups W (a.k - 1) (buildGraph W a).1 starts ends maxDepth).indelGroups ≠ none ∧
    analyse W (a.k - 1) n mNum mDen ik (buildGraph W a).2
      (buildVariantGroups W (a.k - 1) (buildGraph W a).1 starts ends maxDepth) ≠ none :=
  ⟨Option.ne_none_iff_exists'.mpr (LORL.processIndels_some W (a.k - 1) n mNum mDen (buildGraph W a).2 _
      (LORL.table_indels_ok W a hk hw hkeys starts ends maxDepth)),
    Option.ne_none_iff_exists'.mpr (LORL.analyse_table_some W a hk hw hkeys starts ends maxDepth n mNum mDen ik)⟩

/-- **T17_identify_no_panic**: `identify_good_kmers` finds the colour of every k-mer it looks up -/
theorem T17_identify_no_panic (W : Nat) (a : Arr) (hk : ValidK a.k) (hw : WidthOk W a.k)
    (hkeys : ∀ key ∈ a.kmers, key < 4 ^ (a.k - 1)) (kGraph : Nat) :
    identifyGoodKmers W kGraph (buildGraph W a).1 (buildGraph W a).2 ≠ none :=
  Option.ne_none_iff_exists'.mpr (LORL.identifyGoodKmers_table_some W a hk hw hkeys kGraph)

/-- **T17_lo_no_panic**: the reference-free pipeline from the table — graph, entry nodes, groups,
caller — returns a result -/
theorem T17_lo_no_panic (W : Nat) (a : Arr) (hk : ValidK a.k) (hw : WidthOk W a.k)
    (hkeys : ∀ key ∈ a.kmers, key < 4 ^ (a.k - 1)) (maxDepth n mNum mDen ik : Nat) :
    ∃ starts ends cols recs,
      identifyGoodKmers W (a.k - 1) (buildGraph W a).1 (buildGraph W a).2 = some (starts, ends) ∧
      analyse W (a.k - 1) n mNum mDen ik (buildGraph W a).2
        (buildVariantGroups W (a.k - 1) (buildGraph W a).1 starts ends maxDepth) = some (cols, recs) := by
  obtain ⟨⟨starts, ends⟩, hr⟩ := LORL.identifyGoodKmers_table_some W a hk hw hkeys (a.k - 1)
  obtain ⟨⟨cols, recs⟩, hr'⟩ := LORL.analyse_table_some W a hk hw hkeys starts ends maxDepth n mNum mDen ik
  exact ⟨starts, ends, cols, recs, hr, hr'⟩

/-- sample `i` shows the k-mer `f` in the table, on one of the two strands: there are a row
`(key, cells)` with arms `u`, `l` and a base `n'` such that `f` packs the k-mer `u n' l` or its reverse
complement, and the cell of sample `i` in that row is not '-' and its IUPAC expansion contains `n'` -/
def ShownInTable (a : Arr) (f i : Nat) : Prop :=
  ∃ row ∈ a.kmers.zip a.variants, ∃ u l, row.1 = packL (u ++ l) ∧ u.length = halfK a.k ∧
    l.length = halfK a.k ∧ (∀ c ∈ u, c < 4) ∧ (∀ c ∈ l, c < 4) ∧
    ∃ n' ∈ C17.shownBases row.2,
      (f = packL (u ++ [code n'] ++ l) ∨ f = packL (rcCodes (u ++ [code n'] ++ l))) ∧
      i < row.2.length ∧ row.2.getD i 45 ≠ 45 ∧ n' ∈ degenerate (row.2.getD i 45)

/-- a sample in the colour set of a k-mer shows that k-mer in the table -/
theorem T17_coloured_shown (W : Nat) (a : Arr) (hk : ValidK a.k) (hw : WidthOk W a.k)
    (hkeys : ∀ key ∈ a.kmers, key < 4 ^ (a.k - 1)) (f : Nat) (S : List Nat)
    (h : Assoc.lookup (buildGraph W a).2 f = some S) (i : Nat) (hi : i ∈ S) : ShownInTable a f i := by
  obtain ⟨row, hrow, u, l, e, hu, hl, hcu, hcl, n', hn', hf, _, _, hS⟩ :=
    T17_colour_sound W a hk hw hkeys f S h
  exact ⟨row, hrow, u, l, e, hu, hl, hcu, hcl, n', hn', hf, hS i hi⟩

/-- with the colours of a table, `Carries` means: the letter of `v` at `pos` gives `b` (as
`decodeBase ∘ code`, the identity on A/C/G/T), and sample `i` shows in the table the k-mer of `v` that
ends at `pos` -/
theorem T17_carries_shown (W : Nat) (a : Arr) (hk : ValidK a.k) (hw : WidthOk W a.k)
    (hkeys : ∀ key ∈ a.kmers, key < 4 ^ (a.k - 1)) (pos i : Nat) (hpos : a.k - 1 ≤ pos) (v : Variant)
    (b : UInt8) (h : Carries W (a.k - 1) (buildGraph W a).2 pos i v b) :
    ∃ x, v.1[pos]? = some x ∧ b = decodeBase (code x) ∧ (isACGT x = true → b = x) ∧
      pos + 1 ≤ v.1.length ∧
      ShownInTable a (encodeKmer W ((v.1.drop (pos - (a.k - 1))).take a.k)) i := by
  obtain ⟨_, hkW, hkk⟩ := kGraph_bounds hk hw
  obtain ⟨w, S, h1, h2, h3, h4⟩ := h
  obtain ⟨x, hx, hb, rfl⟩ := LORL.call_letter W (a.k - 1) (by omega) v.1 pos hpos w h1
  have hs := T17_coloured_shown W a hk hw hkeys _ S h3 i h4
  rw [hkk] at hs
  exact ⟨x, hx, by rw [← h2, hb], fun hx' => by rw [← h2, hb, LOC.decode_code_base hx'],
    (List.getElem?_eq_some_iff.mp hx).1, hs⟩

/-- **T17_calls_real** (`T17_analyse_justified` and `T17_colour_sound` together, for the colours of a
table and any groups): if
`analyse` reports a column `c`, there are an SNP group `kv` and a position `pos ≥ k-1` such that
* every entry `c[i] = b` with `b` one of A, C, G, T comes with a variant `v` of the group whose letter
  `x` at `pos` gives `b` (`b = x` when `x` is one of A C G T) and whose k-mer ending at `pos` sample
  `i` shows in the table (on one of the two strands);
* every entry `c[i] = N` comes with two such variants showing different bases.
So no sample is given an allele whose k-mer it does not carry in the table. -/
theorem T17_calls_real (W : Nat) (a : Arr) (hk : ValidK a.k) (hw : WidthOk W a.k)
    (hkeys : ∀ key ∈ a.kmers, key < 4 ^ (a.k - 1)) (n mNum mDen ik : Nat) (gr : Groups)
    (cols : List (List UInt8)) (recs : List IndelRec)
    (h : analyse W (a.k - 1) n mNum mDen ik (buildGraph W a).2 gr = some (cols, recs)) :
    ∀ c ∈ cols, ∃ kv ∈ gr.snpGroups, ∃ pos, a.k - 1 ≤ pos ∧ c.length = n ∧
      (∀ i, i < n → ∀ b, (b = 65 ∨ b = 67 ∨ b = 71 ∨ b = 84) → c[i]? = some b →
        ∃ v ∈ kv.2, ∃ x, v.1[pos]? = some x ∧ b = decodeBase (code x) ∧ (isACGT x = true → b = x) ∧
          ShownInTable a (encodeKmer W ((v.1.drop (pos - (a.k - 1))).take a.k)) i) ∧
      (∀ i, i < n → c[i]? = some 78 →
        ∃ v ∈ kv.2, ∃ v' ∈ kv.2, ∃ x x', v.1[pos]? = some x ∧ v'.1[pos]? = some x' ∧
          decodeBase (code x) ≠ decodeBase (code x') ∧
          ShownInTable a (encodeKmer W ((v.1.drop (pos - (a.k - 1))).take a.k)) i ∧
          ShownInTable a (encodeKmer W ((v'.1.drop (pos - (a.k - 1))).take a.k)) i) := by
  obtain ⟨ext, _, hcols⟩ := T17_analyse_justified W (a.k - 1) n mNum mDen ik _ gr cols recs h
  intro c hc
  obtain ⟨kv, hkv, vs, hvs, pos, _, hpos, hlen, _, hent⟩ := hcols c hc
  refine ⟨kv, hkv, pos, hpos, hlen, ?_, ?_⟩
  · intro i hi b hb4 hci
    obtain ⟨_, hacgt, _, _⟩ := hent i hi b hci
    obtain ⟨⟨v, hv, hcar⟩, _⟩ := hacgt hb4
    obtain ⟨x, hx, hbx, hbx', _, hsh⟩ := T17_carries_shown W a hk hw hkeys pos i hpos v b hcar
    rw [hvs] at hv
    exact ⟨v, (List.mem_filter.mp hv).1, x, hx, hbx, hbx', hsh⟩
  · intro i hi hci
    obtain ⟨_, _, hN, _⟩ := hent i hi 78 hci
    obtain ⟨v, hv, v', hv', b, b', hne, hc1, hc2⟩ := hN rfl
    obtain ⟨x, hx, hbx, _, _, hsh⟩ := T17_carries_shown W a hk hw hkeys pos i hpos v b hc1
    obtain ⟨x', hx', hbx', _, _, hsh'⟩ := T17_carries_shown W a hk hw hkeys pos i hpos v' b' hc2
    rw [hvs] at hv hv'
    exact ⟨v, (List.mem_filter.mp hv).1, v', (List.mem_filter.mp hv').1, x, x', hx, hx',
      by rw [← hbx, ← hbx']; exact hne, hsh, hsh'⟩

/-- **T17_pipeline_calls_real**: the same for the groups of `buildVariantGroups` on the table's graph,
where the sequences are written over A, C, G, T: an entry `c[i] = b` (one of A, C, G, T) is the letter
at `pos` of a reported sequence `v` of the group — which spells a walk of the table's graph,
`T17_table_paths_spelled` — and sample `i` shows in the table the k-mer of `v` ending at `pos` -/
theorem T17_pipeline_calls_real (W : Nat) (a : Arr) (hk : ValidK a.k) (hw : WidthOk W a.k)
    (hkeys : ∀ key ∈ a.kmers, key < 4 ^ (a.k - 1)) (starts ends : List Nat)
    (maxDepth n mNum mDen ik : Nat) (cols : List (List UInt8)) (recs : List IndelRec)
    (h : analyse W (a.k - 1) n mNum mDen ik (buildGraph W a).2
      (buildVariantGroups W (a.k - 1) (buildGraph W a).1 starts ends maxDepth) = some (cols, recs)) :
    ∀ c ∈ cols, ∃ kv ∈ (buildVariantGroups W (a.k - 1) (buildGraph W a).1 starts ends maxDepth).snpGroups,
      ∃ pos, a.k - 1 ≤ pos ∧ c.length = n ∧
      ∀ i, i < n → ∀ b, (b = 65 ∨ b = 67 ∨ b = 71 ∨ b = 84) → c[i]? = some b →
        ∃ v ∈ kv.2, v.1[pos]? = some b ∧
          ShownInTable a (encodeKmer W ((v.1.drop (pos - (a.k - 1))).take a.k)) i := by
  intro c hc
  obtain ⟨kv, hkv, pos, hpos, hlen, hb, _⟩ :=
    T17_calls_real W a hk hw hkeys n mNum mDen ik _ cols recs h c hc
  refine ⟨kv, hkv, pos, hpos, hlen, ?_⟩
  intro i hi b hb4 hci
  obtain ⟨v, hv, x, hx, _, hbx, hsh⟩ := hb i hi b hb4 hci
  obtain ⟨_, _, hsp⟩ :=
    LORL.var_spec W a hk hw hkeys starts ends maxDepth kv (List.mem_append_left _ hkv) v hv
  have hxa : isACGT x = true := hsp.base x (List.mem_of_getElem? hx)
  rw [← hbx hxa] at hx
  exact ⟨v, hv, hx, hsh⟩

/-! ### examples: the hypotheses are satisfiable, the conclusions are not vacuous -/

/-- an SNP bubble A[C|G]A over four samples (k-1 = 1): AC carried by samples 0 and 2, AG by 1 and 2 -/
def exCol : Colours := [(1, [0, 2]), (3, [1, 2])]
def exVs : List Variant := [([65, 67, 65], [1]), ([65, 71, 65], [1])]

/-- one column: C, G, N (sample 2 carries both), '-' (sample 3 carries none) -/
theorem ex_groupSnps :
    groupSnps 64 1 4 1 2 exCol [] exVs = some ([[67, 71, 78, 45]], [1, 14, 4, 11, 3, 6, 12, 9]) := by decide +kernel

example :=
  T17_groupSnps_justified 64 1 4 1 2 exCol [] exVs _ _ ex_groupSnps

example : getPotentialSnp exVs = [1] := by decide +kernel
/-- sample 0 carries the first variant, which shows C at position 1 -/
example : Carries 64 1 exCol 1 0 ([65, 67, 65], [1]) 67 :=
  ⟨[65, 67], [0, 2], by decide +kernel, by decide +kernel, by decide +kernel, by decide +kernel⟩
/-- sample 2 carries both variants, which show C and G: its entry is N -/
example : Carries 64 1 exCol 1 2 ([65, 67, 65], [1]) 67 ∧ Carries 64 1 exCol 1 2 ([65, 71, 65], [1]) 71 :=
  ⟨⟨[65, 67], [0, 2], by decide +kernel, by decide +kernel, by decide +kernel, by decide +kernel⟩,
   ⟨[65, 71], [1, 2], by decide +kernel, by decide +kernel, by decide +kernel, by decide +kernel⟩⟩

example := T17_analyse_justified 64 1 2 0 1 5 C17P.exCol C17P.exGr _ _ C17P.ex_analyse

/-- a table of two samples (k = 5) that differ by one SNP: TAAGG/CTGAC… -/
def exT : Arr :=
  { k := 5, rc := true, names := ["s", "t"],
    kmers := [6, 14, 25, 59, 88, 97, 112, 116, 141, 149, 157, 225],
    variants := [[71, 45], [45, 71], [71, 71], [67, 71], [45, 84], [75, 84], [84, 84], [84, 84],
                 [65, 45], [45, 65], [65, 45], [45, 67]],
    counts := [], kBits := 64 }

theorem exT_k : ValidK exT.k := by unfold ValidK; decide +kernel
theorem exT_w : WidthOk 64 exT.k := by unfold WidthOk; decide +kernel
theorem exT_keys : ∀ key ∈ exT.kmers, key < 4 ^ (exT.k - 1) := by decide +kernel

-- the evaluations below rewrite with this value; without it each of them builds the graph again in the kernel
theorem exT_graph : buildGraph 64 exT =
    ([(13, [54]), (54, [218, 219]), (15, [62]), (22, [90]), (30, [121]), (199, [30]), (77, [54]), (62, [251]),
      (69, [22]), (90, [104]), (131, [15, 13]), (108, [177]), (228, [147, 145]), (104, [161]), (224, [131]),
      (120, [224]), (161, [135]), (121, [228]), (177, [199]), (218, [104]), (145, [69]), (251, [236]),
      (147, [77]), (219, [108]), (236, [177])],
     [(54, [0]), (218, [0]), (62, [1]), (90, [1]), (121, [0, 1]), (798, [0, 1]), (219, [0]), (310, [0]),
      (251, [1]), (278, [1]), (360, [1]), (527, [1]), (433, [0]), (915, [0]), (417, [0, 1]), (899, [0, 1]),
      (480, [0, 1]), (647, [0, 1]), (484, [0, 1]), (711, [0, 1]), (525, [0]), (872, [0]), (581, [1]),
      (1004, [1]), (589, [0]), (876, [0]), (913, [1]), (945, [1])]) := by decide +kernel

-- row 0 is (6, "G-"): arms AA / CT, k-mer AAGCT = 54, its reverse complement AGCTT = 218
example : Assoc.lookup (buildGraph 64 exT).2 54 = some [0] ∧
    Assoc.lookup (buildGraph 64 exT).2 218 = some [0] := by
  rw [exT_graph]
  decide +kernel
example : packL ([0, 0] ++ [code 71] ++ [1, 2]) = 54 ∧ packL (rcCodes ([0, 0] ++ [code 71] ++ [1, 2])) = 218 ∧
    packL ([0, 0] ++ [1, 2]) = 6 ∧ C17.samplesOf [71, 45] 71 = [0] := by decide +kernel
example := T17_colour_sound 64 exT exT_k exT_w exT_keys 54 [0] (by rw [exT_graph]; decide +kernel)
example : Assoc.lookup (buildGraph 64 exT).2 54 = Assoc.lookup (colourEntries 64 exT) 54 :=
  LORL.buildGraph_lookup 64 exT 54
example : exT.kmers.Nodup ∧ ∀ key ∈ exT.kmers, key ≤ rcKey exT.k key := by decide +kernel

/-- a table with distinct strictly canonical keys: `T17_colour_exact` applies -/
def exT2 : Arr :=
  { k := 5, rc := true, names := ["s", "t", "u"], kmers := [6, 14], variants := [[71, 45, 82], [45, 71, 65]],
    counts := [], kBits := 64 }
example : Assoc.lookup (buildGraph 64 exT2).2 (packL ([0, 0] ++ [code 71] ++ [1, 2])) =
    some (C17.samplesOf [71, 45, 82] 71) :=
  (T17_colour_exact 64 exT2 (by unfold ValidK; decide +kernel) (by unfold WidthOk; decide +kernel) (by decide +kernel) (by decide +kernel)
    (by decide +kernel) (6, [71, 45, 82]) (by decide +kernel) [0, 0] [1, 2] (by decide +kernel) (by decide +kernel) (by decide +kernel) (by decide +kernel)
    (by decide +kernel) 71 (by decide +kernel)).1
example : C17.samplesOf [71, 45, 82] 71 = [0, 2] := by decide +kernel

example : Edge (buildGraph 64 exT).1 131 15 ∧
    Assoc.lookup (buildGraph 64 exT).2 (combineKmers 64 131 15) = some [1] := by
  rw [exT_graph]
  decide +kernel
example := T17_edges_coloured 64 exT exT_k exT_w exT_keys 131 15 (by rw [exT_graph]; decide +kernel)

theorem exT_identify :
    identifyGoodKmers 64 4 (buildGraph 64 exT).1 (buildGraph 64 exT).2 = some ([131, 228], [104, 177]) := by
  rw [exT_graph]
  decide +kernel
theorem exT_groups : (buildVariantGroups 64 4 (buildGraph 64 exT).1 [131, 228] [104, 177] 4).snpGroups =
    [((131, 177), [([84, 65, 65, 71, 71, 84, 71, 65, 67], [4, 4]), ([84, 65, 65, 71, 67, 84, 71, 65, 67], [4, 4])]),
     ((131, 104),
      [([84, 65, 65, 71, 71, 84, 71, 65, 67, 71, 84, 67, 65, 71, 67, 84, 84, 65], [4, 4, 13, 13]),
       ([84, 65, 65, 71, 71, 84, 71, 65, 67, 71, 84, 67, 65, 67, 67, 84, 84, 65], [4, 4, 13, 13]),
       ([84, 65, 65, 71, 67, 84, 71, 65, 67, 71, 84, 67, 65, 67, 67, 84, 84, 65], [4, 4, 13, 13])]),
     ((228, 104), [([71, 84, 67, 65, 71, 67, 84, 84, 65], [4, 4]), ([71, 84, 67, 65, 67, 67, 84, 84, 65], [4, 4])])] := by
  rw [exT_graph]
  decide +kernel

/-- every 5-mer of the first reported sequence TAAGGTGAC is coloured -/
example : ∀ i, i + 5 ≤ 9 → ∃ S, Assoc.lookup (buildGraph 64 exT).2
    (encodeKmer 64 ((([84, 65, 65, 71, 71, 84, 71, 65, 67] : List UInt8).drop i).take 5)) = some S ∧ S ≠ [] :=
  T17_path_kmers_coloured 64 exT exT_k exT_w exT_keys [131, 228] [104, 177] 4
    ((131, 177), [([84, 65, 65, 71, 71, 84, 71, 65, 67], [4, 4]), ([84, 65, 65, 71, 67, 84, 71, 65, 67], [4, 4])])
    (List.mem_append_left _ (by rw [show exT.k - 1 = 4 from rfl, exT_groups]; decide +kernel))
    ([84, 65, 65, 71, 71, 84, 71, 65, 67], [4, 4]) (by decide +kernel)

example : getPotentialSnp [(([84, 65, 65, 71, 71, 84, 71, 65, 67] : List UInt8), [4, 4]),
    ([84, 65, 65, 71, 67, 84, 71, 65, 67], [4, 4])] = [4] := by decide +kernel

/-- the caller does not panic on that table -/
example : analyse 64 4 2 1 2 2 (buildGraph 64 exT).2
    (buildVariantGroups 64 4 (buildGraph 64 exT).1 [131, 228] [104, 177] 4) ≠ none :=
  (T17_analyse_no_panic 64 exT exT_k exT_w exT_keys [131, 228] [104, 177] 4 2 1 2 2).2
example := T17_lo_no_panic 64 exT exT_k exT_w exT_keys 4 2 1 2 2

/-- a complete run on that table from the entry node 228 = GTCA: one column "GC" -/
theorem exT_run : (buildVariantGroups 64 4 (buildGraph 64 exT).1 [228] [104] 4).snpGroups =
    [((228, 104), [([71, 84, 67, 65, 71, 67, 84, 84, 65], [4, 4]), ([71, 84, 67, 65, 67, 67, 84, 84, 65], [4, 4])])] ∧
    (buildVariantGroups 64 4 (buildGraph 64 exT).1 [228] [104] 4).indelGroups = [] := by
  rw [exT_graph]
  decide +kernel
theorem exT_analyse : analyse 64 4 2 1 2 2 (buildGraph 64 exT).2
    (buildVariantGroups 64 4 (buildGraph 64 exT).1 [228] [104] 4) = some ([[71, 67]], []) := by
  have hnil : processIndels 64 4 2 1 2 (buildGraph 64 exT).2 [] = some ([], []) := by
    rw [LOP.processIndels_eq]
    simp [dereplicate]
  unfold analyse
  rw [exT_run.1, exT_run.2]
  simp only [hnil, List.map_cons, List.map_nil, List.mergeSort_singleton]
  rw [exT_graph]
  decide +kernel

/-- `T17_pipeline_calls_real` on that run -/
example := T17_pipeline_calls_real 64 exT exT_k exT_w exT_keys [228] [104] 4 2 1 2 2 _ _ exT_analyse
/-- the entry G of sample 0: the sequence GTCAGCTTA has G at position 4, its 5-mer ending there is
GTCAG = 915, the reverse complement of CTGAC = the row (97, "KT") = CT?AC with the base G, which
sample 0 shows (K = G/T) -/
example : encodeKmer 64 ((([71, 84, 67, 65, 71, 67, 84, 84, 65] : List UInt8).drop (4 - 4)).take 5) = 915 := by decide +kernel
example : ShownInTable exT 915 0 :=
  ⟨(97, [75, 84]), by decide +kernel, [1, 2], [0, 1], by decide +kernel, by decide +kernel, by decide +kernel, by decide +kernel, by decide +kernel,
    71, by decide +kernel, Or.inr (by decide +kernel), by decide +kernel, by decide +kernel, by decide +kernel⟩

/-- the model does return `none` (a Rust panic) outside the pipeline: a missing colour … -/
example : groupSnps 64 1 4 1 2 [] [] exVs = none := by decide +kernel
/-- … or a second variant too short for the k-mer after the position (slice out of range) -/
example : groupSnps 64 1 4 1 2 exCol [] [([65, 67, 65], [1]), ([65, 71], [1])] = none := by decide +kernel

/-! ### what fails for arbitrary tables -/

def exPal : Arr :=
  { k := 5, rc := true, names := ["s", "t"], kmers := [30], variants := [[65, 84]], counts := [], kBits := 64 }
def exNonCanon : Arr :=
  { k := 5, rc := true, names := ["s", "t"], kmers := [1, 234], variants := [[65, 45], [45, 84]],
    counts := [], kBits := 64 }

/-- FINDING (palindromic row): the arms AC / GT are reverse complements of each other, so ACAGT and
ACTGT are reverse complements; with cells "A", "T" both k-mers get the sample set of the base seen
first (A: sample 0) and sample 1, which shows T, is in no colour set: the exact-set reading
(`T17_colour_exact`) fails without `key < rcKey key`.  (ska stores W/S in such rows, for which the sets coincide.) -/
example : (buildGraph 64 exPal).2 = [(78, [0]), (110, [0])] ∧
    rcKey 5 30 = 30 ∧ packL [0, 1, 2, 3, 2] = 110 ∧ C17.samplesOf [65, 84] 84 = [1] := by decide +kernel

/-- FINDING (non-canonical keys): rows AA?AC and GT?TT are reverse complements of each other; AAAAC
(sample 0, row 1) and GTTTT (sample 1, row 2) are the same k-mer on the two strands, the first
insertion wins and sample 1 is in no colour set -/
example : (buildGraph 64 exNonCanon).2 = [(1, [0]), (938, [0])] ∧
    rcKey 5 1 = 234 := by decide +kernel

end SkaModel.Props.C17Q
