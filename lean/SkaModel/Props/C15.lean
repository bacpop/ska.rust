/-
C15 — Ambiguity codes form the union algebra over {A,C,G,T}; complement respects it.

Every statement about a table is a complete enumeration (`decide +kernel`) against the
table regenerated from the running code (`Generated/Tables.lean`): the facts indexed by a
byte are the fields of one enumeration of the 256 bytes (`ByteFacts`, `bytes_all`), those indexed by
a 2-bit code or a 4-bit set have small enumerations of their own. `T15_fold` is the
unbounded statement, by induction.
-/
import SkaModel.Impl.Base
import SkaModel.Spec.Iupac
import SkaModel.Lemmas.Bytes

namespace SkaModel.Props.C15

open SkaModel SkaModel.Spec

/-- weight of base `j` under a symbol whose set is `m`, times 6 -/
def specProb6 (m j : Nat) : Nat :=
  if m = 15 then 0 else if (m >>> j) &&& 1 = 1 then 6 / maskCard m else 0

/-- Everything below that is said of a single byte. -/
structure ByteFacts (c : UInt8) : Prop where
  encode : (encodeBase c).toNat = Tables.at8 Tables.encodeBase c.toNat
  valid : validBase c = (Tables.at8 Tables.validBase c.toNat == 1)
  ambigTable : isAmbiguous c = (Tables.at8 Tables.isAmbiguous c.toNat == 1)
  u8ToBase : (u8ToBase c).toNat = Tables.at8 Tables.u8ToBase c.toNat
  add : ∀ b : Fin 4, iupacAdd b.val c = (match maskOfLetter c with
    | some m => letterOfMask (m ||| (1 <<< b.val))
    | none => 0)
  rc : rcIupacAt c = (match maskOfLetter c with
    | some m => letterOfMask (compMask m)
    | none => 45)
  ambig : ∀ m, maskOfLetterU c = some m → isAmbiguous c = (maskCard m != 1)
  prob : ∀ m, maskOfLetterU c = some m → c < 97 → ∀ j : Fin 4, prob6 c j.val = specProb6 m j.val

/-- decided as the conjunction of the fields, in their order -/
instance (c : UInt8) : Decidable (ByteFacts c) :=
  decidable_of_iff (_ ∧ _ ∧ _ ∧ _ ∧ _ ∧ _ ∧ _ ∧ _)
    ⟨fun ⟨h1, h2, h3, h4, h5, h6, h7, h8⟩ => ⟨h1, h2, h3, h4, h5, h6, h7, h8⟩,
      fun ⟨h1, h2, h3, h4, h5, h6, h7, h8⟩ => ⟨h1, h2, h3, h4, h5, h6, h7, h8⟩⟩

/- The facts are swept together because what is dear in such a sweep is the kernel evaluating
the `UInt8` functions (`maskOfLetter`, `isAmbiguous`: some fifteen byte comparisons each), not
the 256 cases or the table reads: a field that mentions `maskOfLetter c` again finds it
evaluated already, so each function is run once per byte and not once per theorem. The
theorems that follow are the fields, each written out. -/
theorem bytes_all : ∀ c : UInt8, ByteFacts c :=
  forall_uint8 (by decide +kernel)

/-! ### The hand-written byte functions are the functions the code computes -/

theorem T15_tie_encode : ∀ b : UInt8, (encodeBase b).toNat = Tables.at8 Tables.encodeBase b.toNat :=
  fun b => (bytes_all b).encode

theorem T15_tie_valid : ∀ b : UInt8, validBase b = (Tables.at8 Tables.validBase b.toNat == 1) :=
  fun b => (bytes_all b).valid

theorem T15_tie_ambig : ∀ b : UInt8, isAmbiguous b = (Tables.at8 Tables.isAmbiguous b.toNat == 1) :=
  fun b => (bytes_all b).ambigTable

theorem T15_tie_decode : ∀ c, c < 4 → (decodeBase c).toNat = Tables.at8 Tables.decodeBase c :=
  forall_code (by decide +kernel)

theorem T15_tie_rcbase : ∀ c, c < 4 → rcBase c = Tables.at8 Tables.rcBase c :=
  forall_code (by decide +kernel)

theorem T15_tie_u8tobase : ∀ b : UInt8, (u8ToBase b).toNat = Tables.at8 Tables.u8ToBase b.toNat :=
  fun b => (bytes_all b).u8ToBase

/-- Adding base `b` to the code `c` gives the code of the enlarged set; every
byte that is not one of the 15 IUPAC letters (either case) maps to no code. -/
theorem T15_add : ∀ b, b < 4 → ∀ c : UInt8,
    iupacAdd b c = (match maskOfLetter c with
                    | some m => letterOfMask (m ||| (1 <<< b))
                    | none => 0) :=
  fun b hb c => (bytes_all c).add ⟨b, hb⟩

theorem mask_letter_roundtrip : ∀ m : Fin 16, m.val ≠ 0 → maskOfLetter (letterOfMask m.val) = some m.val := by
  decide +kernel

theorem decode_is_singleton : ∀ b, b < 4 → decodeBase b = letterOfMask (1 <<< b) :=
  forall_code (by decide +kernel)

def maskOfCodes (bs : List Nat) : Nat := bs.foldl (fun m b => m ||| (1 <<< b)) 0

private theorem or_shift_lt16 (m b : Nat) (hm : m < 16) (hb : b < 4) : m ||| (1 <<< b) < 16 := by
  have : (1 <<< b) < 2 ^ 4 := by
    have h4 : ∀ b : Fin 4, (1 <<< b.val) < 2 ^ 4 := by decide
    exact h4 ⟨b, hb⟩
  exact Nat.or_lt_two_pow (n := 4) hm this

private theorem or_shift_ne_zero (m b : Nat) : m ||| (1 <<< b) ≠ 0 := by
  intro h
  have h2 : (1 <<< b) = 0 := by
    have := Nat.or_eq_zero_iff.mp h
    exact this.2
  simp [Nat.shiftLeft_eq] at h2

private theorem fold_step (acc : UInt8) (m : Nat) (hm : m < 16) (hm0 : m ≠ 0)
    (hacc : acc = letterOfMask m) (bs : List Nat) (hbs : ∀ b ∈ bs, b < 4) :
    bs.foldl (fun a b => iupacAdd b a) acc
      = letterOfMask (bs.foldl (fun m b => m ||| (1 <<< b)) m) := by
  induction bs generalizing acc m with
  | nil => simpa using hacc
  | cons b bs ih =>
    have hb : b < 4 := hbs b (by simp)
    simp only [List.foldl_cons]
    apply ih (m := m ||| (1 <<< b))
    · exact or_shift_lt16 m b hm hb
    · exact or_shift_ne_zero m b
    · rw [T15_add b hb acc, hacc, mask_letter_roundtrip ⟨m, hm⟩ hm0]
    · intro x hx; exact hbs x (by simp [hx])

/-- **Unbounded.** The code stored for a split k-mer after any non-empty sequence
of observations `b0, bs…` (first `or_insert(decode_base)`, then `IUPAC[..]` for
each further one) is the letter of the *set* of observed bases — hence
independent of order and multiplicity. -/
theorem T15_fold (b0 : Nat) (bs : List Nat) (h0 : b0 < 4) (hbs : ∀ b ∈ bs, b < 4) :
    bs.foldl (fun a b => iupacAdd b a) (decodeBase b0) = letterOfMask (maskOfCodes (b0 :: bs)) := by
  -- the first base starts the set as `maskOfCodes` does: `∅ ∪ {b0}`
  exact fold_step (decodeBase b0) (0 ||| (1 <<< b0)) (or_shift_lt16 0 b0 (by decide) h0)
    (or_shift_ne_zero 0 b0) (by rw [Nat.zero_or]; exact decode_is_singleton b0 h0) bs hbs

theorem maskOfCodes_perm {l₁ l₂ : List Nat} (h : l₁.Perm l₂) : maskOfCodes l₁ = maskOfCodes l₂ := by
  unfold maskOfCodes
  apply h.foldl_eq'
  intro a _ b _ m
  rw [Nat.or_assoc, Nat.or_assoc, Nat.or_comm (1 <<< a)]

theorem maskOfCodes_dup (m : Nat) (b : Nat) : (m ||| (1 <<< b)) ||| (1 <<< b) = m ||| (1 <<< b) := by
  rw [Nat.or_assoc, Nat.or_self]

/-- the stored code does not depend on the order of the observations -/
theorem T15_fold_perm (b0 : Nat) (bs : List Nat) (c0 : Nat) (cs : List Nat)
    (h0 : b0 < 4) (hbs : ∀ b ∈ bs, b < 4) (hc0 : c0 < 4) (hcs : ∀ b ∈ cs, b < 4)
    (hperm : (b0 :: bs).Perm (c0 :: cs)) :
    bs.foldl (fun a b => iupacAdd b a) (decodeBase b0)
      = cs.foldl (fun a b => iupacAdd b a) (decodeBase c0) := by
  rw [T15_fold b0 bs h0 hbs, T15_fold c0 cs hc0 hcs, maskOfCodes_perm hperm]

/-- `RC_IUPAC` maps each of the 15 code letters (either case) to the letter of
the complemented set and every other byte — U included, which is never stored —
to `-`. -/
theorem T15_rc : ∀ c : UInt8,
    rcIupacAt c = (match maskOfLetter c with
                   | some m => letterOfMask (compMask m)
                   | none => 45) :=
  fun c => (bytes_all c).rc

/-- complement is an involution on the stored (upper-case) codes (`-` is fixed: `T15_rc_fixes`) -/
theorem T15_rc_invol : ∀ m : Fin 16, m.val ≠ 0 →
    rcIupacAt (rcIupacAt (letterOfMask m.val)) = letterOfMask m.val := by decide +kernel

theorem T15_rc_fixes : rcIupacAt 83 = 83 ∧ rcIupacAt 87 = 87 ∧ rcIupacAt 78 = 78 ∧ rcIupacAt 45 = 45 := by
  decide +kernel

theorem compMask_props : ∀ m : Fin 16, compMask (compMask m.val) = m.val ∧ maskCard (compMask m.val) = maskCard m.val := by
  decide +kernel

/-- On IUPAC letters and U (either case) a symbol is ambiguous exactly when its
set is not a single base (the gap: `T15_ambig_gap`). -/
theorem T15_ambig : ∀ c : UInt8, ∀ m, maskOfLetterU c = some m →
    isAmbiguous c = (maskCard m != 1) :=
  fun c m hm => (bytes_all c).ambig m hm

theorem T15_ambig_gap : isAmbiguous 45 = false := by decide +kernel

/-- For stored (upper-case) codes and U the distance weights are uniform over
the code's set and 0 off it, except that N carries no weight (the gap: `T15_prob_gap`). -/
theorem T15_prob : ∀ c : UInt8, c < 97 → ∀ m, maskOfLetterU c = some m →
    ∀ j, j < 4 → prob6 c j = specProb6 m j :=
  fun c hc m hm j hj => (bytes_all c).prob m hm hc ⟨j, hj⟩

theorem T15_prob_gap : ∀ j : Fin 4, prob6 45 j.val = 0 := by decide +kernel

example : iupacAdd 0 89 = 72 := by decide +kernel           -- A + Y = H
example : [2, 0].foldl (fun a b => iupacAdd b a) (decodeBase 1) = 72 := by decide +kernel  -- C,T,A = H
example : rcIupacAt 66 = 86 := by decide +kernel            -- B -> V

end SkaModel.Props.C15
