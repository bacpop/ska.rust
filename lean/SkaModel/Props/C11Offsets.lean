/-
C11 (offsets) — the index bookkeeping of `build_and_merge`.

`Impl/BuildAndMerge.lean` models the split tree with the Rust code's offsets: the sample
index handed to `SkaDict::new` is `position in the slice + offset`, the bottom half of a
split gets `offset`, the top half `offset + split_point`. `Impl/MergeDict.lean` has the same
tree over samples that already carry their index. Here:

* `parallelAppendOff_eq`, `T11_offsets`: the two are equal when sample `i` of the file list
  is given `idx = i` (so the offsets computed by the tree are exactly the global positions);
* `T11_threads_off`, `T02_samples_off`: hence, by `C11.T11_threads` / `C11.buildAndMerge_rep`, the
  result of `buildAndMergeOff` does not depend on the thread count and column `i` is raw
  sample `i`'s dictionary.
-/
import SkaModel.Impl.BuildAndMerge
import SkaModel.Props.C11
import SkaModel.Lemmas.Offsets

namespace SkaModel.Props.C11

open SkaModel SkaModel.Assoc SkaModel.OFF

theorem multiAppendOff_eq (k : Nat) (rc : Bool) (total offset : Nat) (files : List RawSample) :
    multiAppendOff k rc total offset files = multiAppend k rc total (idxd k rc files offset) := by
  rw [multiAppendOff, map_add_eq_idxd, Nat.zero_add]

theorem parallelAppendOff_idxd (k : Nat) (rc : Bool) (total : Nat) : ∀ (depth offset : Nat) (files : List RawSample),
    parallelAppendOff k rc total depth offset files = parallelAppend k rc total depth (idxd k rc files offset) := by
  intro depth
  induction depth with
  | zero =>
    intro offset files
    rw [parallelAppendOff, parallelAppend, multiAppendOff_eq]
  | succ depth ih =>
    intro offset files
    rw [parallelAppendOff, parallelAppend]
    simp only [length_idxd, idxd_take, idxd_drop, multiAppendOff_eq, ih]

/-- the split tree with the Rust offsets (`offset` for the bottom half,
`offset + split` for the top half) is the split tree over the samples carrying `idx = position + offset`. -/
theorem parallelAppendOff_eq (k : Nat) (rc : Bool) (total : Nat) (depth offset : Nat) (files : List RawSample) :
    parallelAppendOff k rc total depth offset files =
      parallelAppend k rc total depth (files.zipIdx.map (fun ri => ri.1.at k rc (ri.2 + offset))) := by
  rw [parallelAppendOff_idxd, map_add_eq_idxd, Nat.zero_add]

/-- the sample list `build_and_merge` effectively works on: raw sample `i` at slot `i` -/
def indexed (k : Nat) (rc : Bool) (files : List RawSample) : List SampleDict :=
  files.zipIdx.map (fun ri => ri.1.at k rc ri.2)

theorem indexed_eq_idxd (k : Nat) (rc : Bool) (files : List RawSample) : indexed k rc files = idxd k rc files 0 := rfl

theorem length_indexed (k : Nat) (rc : Bool) (files : List RawSample) : (indexed k rc files).length = files.length := by
  rw [indexed_eq_idxd, length_idxd]

theorem getElem_indexed (k : Nat) (rc : Bool) (files : List RawSample) (i : Nat) (hi : i < files.length) :
    (indexed k rc files)[i]'(by rw [length_indexed]; exact hi) = files[i].at k rc i := by
  simp only [indexed_eq_idxd]
  rw [getElem_idxd, Nat.zero_add]

/-- `build_and_merge` with the offsets of the Rust code is `buildAndMerge` of the
per-sample dictionaries in which sample `i` has `idx = i`. -/
theorem T11_offsets (k : Nat) (rc : Bool) (threads : Nat) (files : List RawSample) :
    buildAndMergeOff k rc threads files =
      buildAndMerge k rc threads (files.zipIdx.map (fun ri => ri.1.at k rc ri.2)) := by
  have hlen : (files.zipIdx.map (fun ri => ri.1.at k rc ri.2)).length = files.length := length_indexed k rc files
  have hidx : files.zipIdx.map (fun ri => ri.1.at k rc ri.2) = idxd k rc files 0 := rfl
  unfold buildAndMergeOff buildAndMerge
  simp only [hlen]
  rw [hidx, parallelAppendOff_idxd, multiAppendOff_eq]

/-- what `SkaDict::new` guarantees of every input: the k-mers come from a hash map (distinct keys),
no stored letter is 0, and there is at least one k-mer (`ska build` refuses inputs without any) -/
structure RawOK (files : List RawSample) : Prop where
  keysNodup : ∀ r ∈ files, (Assoc.keys r.kmers).Nodup
  noZero : ∀ r ∈ files, ∀ kb ∈ r.kmers, kb.2 ≠ 0
  nonempty : ∀ r ∈ files, r.kmers ≠ []

theorem indexed_sliceWF (k : Nat) (rc : Bool) {files : List RawSample} (h : RawOK files) :
    SliceWF k rc (indexed k rc files).length 0 (indexed k rc files) := by
  refine .of_forall (fun j hj => ?_) fun s hs => ?_
  · rw [getElem_indexed k rc files j (length_indexed k rc files ▸ hj)]
    rfl
  · obtain ⟨r, hr, i, rfl⟩ := mem_idxd hs
    exact ⟨rfl, rfl, h.keysNodup r hr, h.noZero r hr⟩

theorem indexed_nonempty (k : Nat) (rc : Bool) {files : List RawSample} (hne : ∀ r ∈ files, r.kmers ≠ []) :
    AllNonempty (indexed k rc files) := by
  intro s hs
  obtain ⟨r, hr, i, rfl⟩ := mem_idxd hs
  exact hne r hr

/-- thread independence with the Rust offsets: for inputs as `SkaDict::new`
produces them, any two thread counts make `build_and_merge` succeed with dictionaries that have the
same `k`, `rc`, number of samples, names, key set and cells. -/
theorem T11_threads_off (k : Nat) (rc : Bool) {files : List RawSample} (h : RawOK files) (threads₁ threads₂ : Nat) :
    ∃ d₁ d₂, buildAndMergeOff k rc threads₁ files = .ok d₁ ∧ buildAndMergeOff k rc threads₂ files = .ok d₂ ∧
      Same d₁ d₂ := by
  rw [T11_offsets, T11_offsets]
  exact T11_threads (indexed_sliceWF k rc h) (indexed_nonempty k rc h.nonempty) threads₁ threads₂

/-- column `i` is raw sample `i`, with the Rust offsets: for every thread count
the build succeeds, has `files.length` columns, the names in input order, cell `(key, i)` = the letter
raw sample `i` has for `key` (0 when it lacks it, 0 beyond the last column), and a row exists exactly
for the k-mers of some input. -/
theorem T02_samples_off (k : Nat) (rc : Bool) {files : List RawSample} (h : RawOK files) (threads : Nat) :
    ∃ d, buildAndMergeOff k rc threads files = .ok d ∧ d.k = k ∧ d.rc = rc ∧ d.nSamples = files.length ∧
      d.names = files.map (·.name) ∧
      (∀ i (hi : i < files.length) key, cell d key i = (Assoc.lookup files[i].kmers key).getD 0) ∧
      (∀ i key, files.length ≤ i → cell d key i = 0) ∧
      (∀ key, key ∈ Assoc.keys d.kmers ↔ ∃ r ∈ files, key ∈ Assoc.keys r.kmers) := by
  rw [T11_offsets]
  have hwf := indexed_sliceWF k rc h
  have hne := indexed_nonempty k rc h.nonempty
  obtain ⟨d, hd, hrep⟩ := buildAndMerge_rep hwf hne threads
  obtain ⟨hnames, hcell, hout⟩ := hrep.columns hwf
  rw [length_indexed] at hout
  refine ⟨d, hd, hrep.hk, hrep.hrc, hrep.wf.nS.trans (length_indexed k rc files), ?_, ?_, hout, ?_⟩
  · rw [hnames]
    apply List.ext_getElem (by simp [length_indexed])
    intro i h1 h2
    simp only [List.length_map, length_indexed] at h1
    simp only [List.getElem_map]
    rw [getElem_indexed k rc files i h1]
    rfl
  · intro i hi key
    rw [hcell i (by rw [length_indexed]; exact hi) key, getElem_indexed k rc files i hi]
    rfl
  · intro key
    rw [hrep.keys]
    constructor
    · rintro ⟨s, hs, hk⟩
      obtain ⟨r, hr, i, rfl⟩ := mem_idxd hs
      exact ⟨r, hr, hk⟩
    · rintro ⟨r, hr, hk⟩
      obtain ⟨i, hi, rfl⟩ := List.getElem_of_mem hr
      refine ⟨files[i].at k rc i, ?_, hk⟩
      rw [← getElem_indexed k rc files i hi]
      exact List.getElem_mem _

/-- both statements together: the two thread counts agree and the (common) columns are the inputs -/
theorem T11_threads_off_cols (k : Nat) (rc : Bool) {files : List RawSample} (h : RawOK files) (threads₁ threads₂ : Nat) :
    ∃ d₁ d₂, buildAndMergeOff k rc threads₁ files = .ok d₁ ∧ buildAndMergeOff k rc threads₂ files = .ok d₂ ∧
      Same d₁ d₂ ∧ d₁.names = files.map (·.name) ∧ d₂.names = files.map (·.name) ∧
      (∀ i (hi : i < files.length) key,
        cell d₁ key i = (Assoc.lookup files[i].kmers key).getD 0 ∧
        cell d₂ key i = (Assoc.lookup files[i].kmers key).getD 0) := by
  obtain ⟨d₁, h₁, -, -, -, n₁, c₁, -, -⟩ := T02_samples_off k rc h threads₁
  obtain ⟨d₂, h₂, -, -, -, n₂, c₂, -, -⟩ := T02_samples_off k rc h threads₂
  obtain ⟨e₁, e₂, g₁, g₂, hs⟩ := T11_threads_off k rc h threads₁ threads₂
  have : e₁ = d₁ := Except.ok.inj (g₁.symm.trans h₁)
  subst this
  have : e₂ = d₂ := Except.ok.inj (g₂.symm.trans h₂)
  subst this
  exact ⟨e₁, e₂, h₁, h₂, hs, n₁, n₂, fun i hi key => ⟨c₁ i hi key, c₂ i hi key⟩⟩

private def exRaw : List RawSample :=
  (List.range 25).map (fun i => { name := s!"s{i}", kmers := [(i, 1), (i + 1, 2), (100, 4)] })

example : (buildAndMergeOff 31 true 8 exRaw |>.toOption.map (·.names)) =
    (buildAndMerge 31 true 8 (indexed 31 true exRaw) |>.toOption.map (·.names)) := by
  rw [T11_offsets]
  rfl

end SkaModel.Props.C11
