/-
C20 — cov tabulates exact k-mer multiplicities and labels the cutoff it defines: the discrete
part of `coverage.rs` (`Impl/Coverage.lean`).  The gradient identity over ℝ is in `C20Real.lean`;
this file is Mathlib-free.
-/
import SkaModel.Impl.Coverage
import SkaModel.Props.C01Dict

namespace SkaModel.Props.C20

open SkaModel SkaModel.Coverage

theorem findCutoffFrom_spec (neg : Nat → Bool) (maxCutoff : Nat) :
    ∀ fuel cutoff, maxCutoff ≤ cutoff + fuel →
      let r := findCutoffFrom neg maxCutoff fuel cutoff
      cutoff ≤ r ∧ (∀ c, cutoff ≤ c → c < r → neg c = false) ∧
      ((r < maxCutoff ∧ neg r = true) ∨ (maxCutoff ≤ r ∧ (r = cutoff ∨ r = maxCutoff))) := by
  intro fuel
  induction fuel with
  | zero =>
    intro cutoff h
    exact ⟨Nat.le_refl _, fun c h1 h2 => absurd h2 (Nat.not_lt.2 h1), Or.inr ⟨h, Or.inl rfl⟩⟩
  | succ n ih =>
    intro cutoff h
    simp only [findCutoffFrom]
    split
    · next hlt =>
      split
      · next hn =>
        exact ⟨Nat.le_refl _, fun c h1 h2 => absurd h2 (Nat.not_lt.2 h1), Or.inl ⟨hlt, hn⟩⟩
      · next hn =>
        obtain ⟨h1, h2, h3⟩ := ih (cutoff + 1) (by omega)
        refine ⟨Nat.le_of_succ_le h1, fun c hc1 hc2 => ?_, h3.imp_right fun ⟨hM, hr⟩ => ⟨hM, ?_⟩⟩
        · rcases Nat.eq_or_lt_of_le hc1 with rfl | hc
          · exact Bool.eq_false_iff.2 hn
          · exact h2 c hc hc2
        · exact Or.inr (hr.elim (fun e => by omega) id)
    · next hlt =>
      exact ⟨Nat.le_refl _, fun c h1 h2 => absurd h2 (Nat.not_lt.2 h1),
        Or.inr ⟨Nat.le_of_not_lt hlt, Or.inl rfl⟩⟩

/-- **Cutoff rule.** `find_cutoff` returns the smallest count `c ≥ 1` at which the coverage
component outweighs the error component (`a(c) - b(c) < 0`), capped at the table length. -/
theorem T20_cutoff (neg : Nat → Bool) (maxCutoff : Nat) :
    let r := findCutoff neg maxCutoff
    1 ≤ r ∧ (∀ c, 1 ≤ c → c < r → neg c = false) ∧
    ((r < maxCutoff ∧ neg r = true) ∨ (maxCutoff ≤ r ∧ r = max 1 maxCutoff)) := by
  have := findCutoffFrom_spec neg maxCutoff maxCutoff 1 (by omega)
  simp only [findCutoff] at this ⊢
  obtain ⟨h1, h2, h3⟩ := this
  refine ⟨h1, h2, h3.imp_right fun ⟨hM, hr⟩ => ⟨hM, ?_⟩⟩
  rcases hr with hr | hr
  · rw [hr] at hM ⊢; exact (Nat.max_eq_left hM).symm
  · rw [hr] at h1 ⊢; exact (Nat.max_eq_right h1).symm

/-- rows below the cutoff are labelled Error, all others Coverage -/
theorem T20_labels (cutoff c : Nat) : isError cutoff c = true ↔ c < cutoff := by
  simp [isError]

example : findCutoff (fun c => decide (c ≥ 7)) 30 = 7 := by decide
example : findCutoff (fun _ => false) 12 = 12 := by decide


/-- **Histogram.** The table has exactly 1000 rows and row `c` (1-based, `1 ≤ c ≤ 1000`) is the
number of k-mers with multiplicity exactly `c`; multiplicities above 1000 are not tabulated. -/
theorem T20_histogram (mults : List Nat) :
    (histogram mults).length = 1000 ∧
    ∀ c, 1 ≤ c → c ≤ 1000 →
      (histogram mults)[c - 1]? = some ((mults.filter (· == c)).length) := by
  refine ⟨by rw [histogram, List.length_map, List.length_range]; rfl, ?_⟩
  intro c h1 h2
  have hlt : c - 1 < MAX_COUNT := Nat.lt_of_lt_of_le (Nat.sub_lt h1 Nat.one_pos) h2
  rw [histogram, List.getElem?_map, List.getElem?_range hlt, Option.map_some,
    Nat.sub_add_cancel h1]

theorem truncate_split (counts : List Nat) :
    counts = truncate counts ++ (counts.reverse.takeWhile (· < MIN_FREQ)).reverse := by
  unfold truncate
  rw [← List.reverse_append, List.takeWhile_append_dropWhile, List.reverse_reverse]

theorem truncate_dropped (counts : List Nat) :
    ∀ x ∈ counts.drop (truncate counts).length, x < 50 := by
  intro x hx
  have hs := truncate_split counts
  have hd : counts.drop (truncate counts).length
      = (counts.reverse.takeWhile (· < MIN_FREQ)).reverse := by
    conv => lhs; arg 2; rw [hs]
    exact List.drop_left
  rw [hd, List.mem_reverse] at hx
  have hall := List.all_takeWhile (p := (· < MIN_FREQ)) (l := counts.reverse)
  rw [List.all_eq_true] at hall
  exact of_decide_eq_true (hall x hx)

theorem truncate_last (counts : List Nat) (h : truncate counts ≠ []) :
    50 ≤ (truncate counts).getLast h := by
  unfold truncate at h ⊢
  rw [List.getLast_reverse]
  have := List.head_dropWhile_not (· < MIN_FREQ) (l := counts.reverse) (by simpa using h)
  rw [decide_eq_false_iff_not] at this
  simp only [MIN_FREQ] at this ⊢
  omega

theorem truncate_prefix (counts : List Nat) : truncate counts <+: counts :=
  ⟨_, (truncate_split counts).symm⟩

theorem truncate_last_getD (counts : List Nat) :
    (truncate counts).length = 0 ∨ 50 ≤ counts[(truncate counts).length - 1]?.getD 0 := by
  by_cases hne : truncate counts = []
  · exact Or.inl (by rw [hne]; rfl)
  · right
    have hlt : (truncate counts).length - 1 < (truncate counts).length :=
      Nat.sub_lt (List.length_pos_iff.2 hne) Nat.one_pos
    have hl := truncate_last counts hne
    rw [List.getLast_eq_getElem, (truncate_prefix counts).getElem hlt] at hl
    rw [List.getElem?_eq_getElem (Nat.lt_of_lt_of_le hlt (truncate_prefix counts).length_le)]
    exact hl

theorem truncate_maximal (counts : List Nat) (n : Nat)
    (h : n = 0 ∨ 50 ≤ counts[n - 1]?.getD 0) : n ≤ (truncate counts).length := by
  cases n with
  | zero => exact Nat.zero_le _
  | succ m =>
    rw [or_iff_right (Nat.succ_ne_zero m), Nat.add_sub_cancel] at h
    apply Nat.lt_of_not_le
    intro hle
    -- `counts[m]` lies in the dropped part
    rw [← Nat.add_sub_cancel' hle, ← List.getElem?_drop] at h
    cases hx : (counts.drop (truncate counts).length)[m - (truncate counts).length]? with
    | none => rw [hx] at h; exact absurd h (by decide)
    | some x =>
      rw [hx] at h
      exact absurd (truncate_dropped counts x (List.mem_of_getElem? hx)) (Nat.not_lt.2 h)

/-- **Truncation.** `truncate counts` is a prefix of `counts`; if non-empty it ends in an entry
`≥ 50`; every dropped entry is `< 50`; and its length is the largest `n ≤ counts.length` with
`n = 0 ∨ counts[n-1] ≥ 50` — the table ends at the last multiplicity shared by ≥ 50 k-mers. -/
theorem T20_truncate (counts : List Nat) :
    truncate counts <+: counts
    ∧ (∀ h : truncate counts ≠ [], 50 ≤ (truncate counts).getLast h)
    ∧ (∀ x ∈ counts.drop (truncate counts).length, x < 50)
    ∧ (truncate counts).length ≤ counts.length
    ∧ ((truncate counts).length = 0
        ∨ 50 ≤ counts[(truncate counts).length - 1]?.getD 0)
    ∧ (∀ n, n ≤ counts.length → (n = 0 ∨ 50 ≤ counts[n - 1]?.getD 0) →
        n ≤ (truncate counts).length) :=
  ⟨truncate_prefix counts, truncate_last counts, truncate_dropped counts,
    (truncate_prefix counts).length_le, truncate_last_getD counts,
    fun n _ h => truncate_maximal counts n h⟩

/-- one step of `kmer_dict`: `*dict.entry(key).or_insert(0) += 1` -/
abbrev bump (d : Std.HashMap Nat Nat) (key : Nat) : Std.HashMap Nat Nat :=
  d.insert key (d.getD key 0 + 1)

theorem foldl_bump_getD (keys : List Nat) (d : Std.HashMap Nat Nat) (key : Nat) :
    (keys.foldl bump d).getD key 0 = d.getD key 0 + (keys.filter (· == key)).length := by
  induction keys generalizing d with
  | nil => simp
  | cons x xs ih =>
    rw [List.foldl_cons, ih, List.filter_cons]
    unfold bump
    rw [Std.HashMap.getD_insert]
    by_cases hx : x = key
    · subst hx; simp; omega
    · have : (x == key) = false := by simpa using hx
      simp [this]

theorem foldl_bump_mem (keys : List Nat) (d : Std.HashMap Nat Nat) (key : Nat) :
    key ∈ keys.foldl bump d ↔ key ∈ d ∨ key ∈ keys := by
  induction keys generalizing d with
  | nil => simp
  | cons x xs ih =>
    rw [List.foldl_cons, ih]
    unfold bump
    rw [Std.HashMap.mem_insert, List.mem_cons, beq_iff_eq, eq_comm, or_comm (a := key = x),
      or_assoc]

theorem kmerDict_eq (W k : Nat) (rc : Bool) (reads : List (Array UInt8)) :
    kmerDict W k rc reads = (reads.flatMap (readKeys W k rc)).foldl bump {} := by
  unfold kmerDict
  rw [List.foldl_flatMap]

/-- **Exact multiplicities.** The value stored for `key` (0 if absent) is the number of windows,
over all reads of both files, whose split-k-mer key is `key`; and a key is present iff it occurs. -/
theorem T20_count (W k : Nat) (rc : Bool) (reads : List (Array UInt8)) (key : Nat) :
    (kmerDict W k rc reads).getD key 0
        = ((reads.flatMap (readKeys W k rc)).filter (· == key)).length
    ∧ (key ∈ kmerDict W k rc reads ↔ key ∈ reads.flatMap (readKeys W k rc)) := by
  rw [kmerDict_eq]
  constructor
  · rw [foldl_bump_getD]; simp
  · rw [foldl_bump_mem]; simp

/-- **Counted keys = specification windows.** For a supported `k` and width, the keys counted for
a read are the canonical arm keys of the specification's valid windows, in order. -/
theorem T20_readKeys (W k : Nat) (rc : Bool) (hk : Props.C16.ValidK k) (hw : Props.C16.WidthOk W k)
    (r : Array UInt8) :
    readKeys W k rc r = (Spec.windows k r).map (fun j => (Spec.obs k rc r j).1) :=
  Props.C01.T01_iter_map W k rc hk hw r (fun t => t.1.1)

example : truncate [60, 10, 70, 3, 49] = [60, 10, 70] := by decide
example : truncate [1, 2, 3] = [] := by decide
example : (histogram [1, 1, 3, 1001])[0]? = some 2 := by
  rw [(T20_histogram _).2 1 (by omega) (by omega)]; rfl
example : (({} : Std.HashMap Nat Nat) |> [5, 7, 5].foldl bump).getD 5 0 = 2 := by
  rw [foldl_bump_getD]; simp
example : C16.ValidK 31 ∧ C16.WidthOk 64 31 := by
  unfold C16.ValidK C16.WidthOk; omega

end SkaModel.Props.C20
