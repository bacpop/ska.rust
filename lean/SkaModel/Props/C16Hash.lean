/-
C16 (hash) — the rolling ntHash of the read iterator equals the hash computed
from scratch at every window, on both strands, including after restarts over N.
-/
import SkaModel.Props.C16Roll
import SkaModel.Props.C01Iter
import SkaModel.Lemmas.NtHash

namespace SkaModel.Props.C16

open SkaModel SkaModel.Spec SkaModel.NH

theorem T16_seed_lt (c : Nat) : hashSeedAt c < 2 ^ 64 ∧ rcHashSeedAt c < 2 ^ 64 :=
  ⟨hashSeedAt_lt c, rcHashSeedAt_lt c⟩

/-- the model's rotations are `BitVec.rotateLeft` / `BitVec.rotateRight` on 64 bits -/
theorem T16_rot_bv (x n : Nat) (hx : x < 2 ^ 64) :
    rotl64 x n = ((BitVec.ofNat 64 x).rotateLeft n).toNat ∧
    rotr64 x n = ((BitVec.ofNat 64 x).rotateRight n).toNat :=
  ⟨rotl64_eq_bv hx n, rotr64_eq_bv hx n⟩

theorem T16_rot (x y : Nat) (hx : x < 2 ^ 64) (hy : y < 2 ^ 64) (a b n : Nat) :
    rotl64 x n < 2 ^ 64 ∧ rotr64 x n < 2 ^ 64 ∧
    rotl64 (rotl64 x a) b = rotl64 x (a + b) ∧
    rotr64 (rotl64 x n) n = x ∧ rotl64 (rotr64 x n) n = x ∧
    rotl64 (x ^^^ y) n = rotl64 x n ^^^ rotl64 y n ∧
    rotr64 (x ^^^ y) n = rotr64 x n ^^^ rotr64 y n ∧
    rotl64 x 64 = x ∧ rotl64 x 0 = x ∧ rotr64 x 1 = rotl64 x 63 ∧
    rotl64 x (n % 64) = rotl64 x n ∧ rotr64 x (n % 64) = rotr64 x n :=
  ⟨rotl64_lt hx n, rotr64_lt hx n, rotl64_rotl64 hx a b, rotr64_rotl64 hx n, rotl64_rotr64 hx n,
    rotl64_xor hx hy n, rotr64_xor hx hy n, rotl64_64 hx, rotl64_zero hx, rotr64_one hx,
    rotl64_mod x n, rotr64_mod x n⟩

/-- Rolling the hash of a window `b₀ :: rest` of `k` bases by the entering base
`b` gives the hash of `rest ++ [b]`, on both components and for every `k ≥ 1`
(rotation amounts are taken modulo 64, so `k` need not be below 64). -/
theorem T16_hash_roll (b0 : UInt8) (rest : List UInt8) (b : UInt8) (k : Nat) (rc : Bool)
    (hk : (b0 :: rest).length = k) :
    (NtHash.new (b0 :: rest) k rc).roll (code b0) (code b) = NtHash.new (rest ++ [b]) k rc := by
  apply ntHash_ext
  · rfl
  · rw [roll_fh_eq, new_k, new_fh, new_fh, roll_fh b0 rest b k hk]
  · cases rc with
    | false => rfl
    | true =>
      rw [roll_rh_eq, new_k, new_rh_true, new_rh_true, Option.map_some]
      congr 1
      exact roll_rh b0 rest b k hk

/-- the two components separately, in the form of `roll_fwd` -/
theorem T16_hash_roll_components (b0 : UInt8) (rest : List UInt8) (b : UInt8) (k : Nat)
    (hk : (b0 :: rest).length = k) (fh rh : Nat)
    (hfh : (NtHash.new (b0 :: rest) k true).fh = fh)
    (hrh : (NtHash.new (b0 :: rest) k true).rh = some rh) :
    (NtHash.new (rest ++ [b]) k true).fh
      = rotl64 fh 1 ^^^ rotl64 (hashSeedAt (code b0)) k ^^^ hashSeedAt (code b) ∧
    (NtHash.new (rest ++ [b]) k true).rh
      = some (rotr64 rh 1 ^^^ rotr64 (rcHashSeedAt (code b0)) 1
          ^^^ rotl64 (rcHashSeedAt (code b)) (k - 1)) := by
  have h := T16_hash_roll b0 rest b k true hk
  rw [← h]
  constructor
  · rw [roll_fh_eq, hfh]; rfl
  · rw [roll_rh_eq, hrh]; rfl

/-- with both strands in use a window and its reverse complement hash to the
same value; `k` is arbitrary (in the program `k = w.length`) -/
theorem T16_hash_strand (w : List UInt8) (comp : UInt8 → UInt8)
    (hc : ∀ b, code (comp b) = code b ^^^ 2) (k : Nat) :
    (NtHash.new w k true).curr = (NtHash.new (w.reverse.map comp) k true).curr := by
  obtain ⟨h1, h2⟩ := strand w comp hc k
  rw [new_curr_true, new_curr_true, h1, h2, Nat.min_comm]

/-- the forward hash of the one is the reverse hash of the other -/
theorem T16_hash_strand_swap (w : List UInt8) (comp : UInt8 → UInt8)
    (hc : ∀ b, code (comp b) = code b ^^^ 2) (k : Nat) :
    some (NtHash.new (w.reverse.map comp) k true).fh = (NtHash.new w k true).rh ∧
    (NtHash.new (w.reverse.map comp) k true).rh = some (NtHash.new w k true).fh := by
  obtain ⟨h1, h2⟩ := strand w comp hc k
  rw [new_rh_true, new_rh_true, new_fh, new_fh, h1, h2]
  exact ⟨rfl, rfl⟩

theorem windowAt_length (c : SKConf) (j : Nat) : (c.windowAt j).length = c.k := by
  simp [SKConf.windowAt]

theorem windowAt_step (c : SKConf) (j : Nat) (hk : 1 ≤ c.k) :
    ∃ rest, c.windowAt j = c.seq.getD j 0 :: rest ∧
      c.windowAt (j + 1) = rest ++ [c.seq.getD (j + c.k) 0] := by
  obtain ⟨n, hn⟩ := Nat.exists_eq_add_of_le' hk
  unfold SKConf.windowAt
  rw [hn]
  exact ⟨_, map_range_succ_cons (fun p => c.seq.getD p 0) j n, by
    rw [List.range_succ, List.map_append, List.map_singleton, Nat.add_right_comm j 1 n]; rfl⟩

theorem windowAt_succ (c : SKConf) (j : Nat) (hk : 1 ≤ c.k) :
    c.windowAt (j + 1) = (c.windowAt j).tail ++ [c.seq.getD (j + c.k) 0] := by
  obtain ⟨rest, h1, h2⟩ := windowAt_step c j hk
  rw [h1, h2, List.tail_cons]

theorem windowAt_roll (c : SKConf) (j : Nat) (hk : 1 ≤ c.k) :
    (NtHash.new (c.windowAt j) c.k c.rc).roll (code (c.seq.getD j 0))
        (code (c.seq.getD (j + c.k) 0))
      = NtHash.new (c.windowAt (j + 1)) c.k c.rc := by
  obtain ⟨rest, h1, h2⟩ := windowAt_step c j hk
  have hl := windowAt_length c j
  rw [h1] at hl
  rw [h1, h2]
  exact T16_hash_roll _ rest _ c.k c.rc hl

/-- the byte `roll_fwd` hands to the hash as the leaving base is the code of the
first base of the window -/
theorem leaving_base (c : SKConf) (hk : ValidK c.k) (hw : WidthOk c.W c.k) (s : SKState) (j : Nat)
    (hf : FieldsOk c s j) :
    (s.upper >>> ((c.k - 2) * 2)) % 256 = code (c.seq.getD j 0) := by
  obtain ⟨hh2, hkh, _⟩ := validK_bounds hk hw
  obtain ⟨A, hA, hAl, hU, _⟩ := armU_slide c j (Nat.le_of_succ_le hh2)
  rw [hf.upper, hU]
  exact roll_leaving _ _ _ _ (code_lt _) hA hAl hkh

theorem updateRc_hash (c : SKConf) (s : SKState) : (c.updateRc s).hash = s.hash := rfl

theorem fresh_hash (c : SKConf) (hk : 1 ≤ c.k) {idx : Nat}
    {r : Nat × Nat × Nat × Nat × Option NtHash} {s : SKState}
    (hb : c.build idx true = some r) (hfr : Lemmas.Fresh c r s) :
    s.hash = some (NtHash.new (c.windowAt (s.index + 1 - c.k)) c.k c.rc) := by
  obtain ⟨ix, u, l, m, hg⟩ := r
  obtain ⟨_, st, _, hix, hhg⟩ := Lemmas.build_some hb
  have h1 : s.hash = hg := hfr.hash
  have h2 : s.index = ix := hfr.index
  rw [h1, h2, hhg, if_pos rfl, start_of_last ((last_iff hk).1 hix)]

theorem new_hash (c : SKConf) (hk : 1 ≤ c.k) (hreads : c.isReads = true) (s : SKState)
    (h : c.new = some s) :
    s.hash = some (NtHash.new (c.windowAt (s.index + 1 - c.k)) c.k c.rc) := by
  obtain ⟨r, hb, hfr⟩ := Lemmas.new_some h
  rw [hreads] at hb
  exact fresh_hash c hk hb hfr

theorem rollFwd_hash (c : SKConf) (hk : ValidK c.k) (hw : WidthOk c.W c.k) {s s' : SKState}
    (hf : FieldsOk c s (s.index + 1 - c.k))
    (hh : s.hash = some (NtHash.new (c.windowAt (s.index + 1 - c.k)) c.k c.rc))
    (h : c.rollFwd s = some s') :
    s'.hash = some (NtHash.new (c.windowAt (s'.index + 1 - c.k)) c.k c.rc) := by
  have hk1 : 1 ≤ c.k := hk.pos
  obtain ⟨_, ⟨_, r, hb, hfr⟩ | ⟨_, hst⟩⟩ := Lemmas.rollFwd_some h
  · -- restart: `build` makes a fresh generator
    rw [hh, Option.isSome_some] at hb
    exact fresh_hash c hk1 hb hfr
  · -- ordinary step: the generator is rolled by the leaving and the entering base
    generalize s.index + 1 - c.k = j at hf hh
    have hnew := hf.next hk1
    rw [hst.hash, hh, Option.map_some, leaving_base c hk hw s j hf, hst.index, hnew,
      windowAt_roll c j hk1, Nat.add_right_comm, Nat.add_sub_cancel]

/-- every state of the read iterator carries the from-scratch ntHash of its own
window — the rolling update and the restarts over N never drift -/
theorem T16_hash (c : SKConf) (hk : ValidK c.k) (hw : WidthOk c.W c.k)
    (hreads : c.isReads = true) :
    ∀ s ∈ c.states,
      s.hash = some (NtHash.new (c.windowAt (s.index + 1 - c.k)) c.k c.rc) := by
  have hk1 : 1 ≤ c.k := hk.pos
  intro s hs
  exact (Lemmas.states_induction c (fun s => FieldsOk c s (s.index + 1 - c.k) ∧
      s.hash = some (NtHash.new (c.windowAt (s.index + 1 - c.k)) c.k c.rc))
    (fun s h => ⟨new_fields c hk hw s h, new_hash c hk1 hreads s h⟩)
    (fun s s' hp h =>
      ⟨(rollFwd_spec c hk hw s s' _ hp.1 h).1, rollFwd_hash c hk hw hp.1 hp.2 h⟩) s hs).2

/-- what `get_hash` returns for every state -/
theorem T16_get_hash (c : SKConf) (hk : ValidK c.k) (hw : WidthOk c.W c.k)
    (hreads : c.isReads = true) :
    ∀ s ∈ c.states,
      c.getHash s = (NtHash.new (c.windowAt (s.index + 1 - c.k)) c.k c.rc).curr := by
  intro s hs
  unfold SKConf.getHash
  rw [T16_hash c hk hw hreads s hs]

/-- the hashes the read iterator reports, as one list: the from-scratch hash of
every valid window of the record, in order -/
theorem T16_hash_list (c : SKConf) (hk : ValidK c.k) (hw : WidthOk c.W c.k)
    (hreads : c.isReads = true) :
    c.states.map c.getHash
      = (windowsBy c.k c.seqLen c.okAt).map
          (fun j => (NtHash.new (c.windowAt j) c.k c.rc).curr) :=
  C01.states_map_start c hk.pos _ _ (T16_get_hash c hk hw hreads)

section Examples

/-- `ACGTTGCANACGGTCAT`: eight valid 5-base windows, a restart over the N -/
def exSeq : Array UInt8 := #[65, 67, 71, 84, 84, 71, 67, 65, 78, 65, 67, 71, 71, 84, 67, 65, 84]

def exC (rc : Bool) : SKConf := { W := 64, k := 5, rc := rc, seq := exSeq, isReads := true }

theorem exC_valid (rc : Bool) : ValidK (exC rc).k ∧ WidthOk (exC rc).W (exC rc).k := by
  unfold ValidK WidthOk; show (5 ≤ 5 ∧ 5 ≤ 63 ∧ 5 % 2 = 1) ∧ ((64 = 64 ∧ 5 ≤ 31) ∨ 64 = 128); omega

/-- the iterator goes through eight states, four before the N and four after -/
example (rc : Bool) : (exC rc).states.map (·.index) = [4, 5, 6, 7, 13, 14, 15, 16] := by
  rw [C01.T01_states_index (exC rc) (by show 0 < 5; omega)]
  cases rc <;> decide +kernel

/-- both strands: the hashes reported at the eight states (values checked against
`#eval` of the rolling model) -/
example : (exC true).states.map (exC true).getHash
    = [9484111204451142604, 5501594302523765518, 3825307670861535831, 43438430455904687,
       12526894322365338540, 7072493488978643311, 3773670765894119495, 5357376124064287430] := by
  rw [T16_hash_list (exC true) (exC_valid true).1 (exC_valid true).2 rfl]
  decide +kernel

/-- forward strand only -/
example : (exC false).states.map (exC false).getHash
    = [13769358179397492040, 14943053776815200050, 11325208717469117615, 43438430455904687,
       12526894322365338540, 18112430965216477842, 17891469674743621847, 16106026916025135485] := by
  rw [T16_hash_list (exC false) (exC_valid false).1 (exC_valid false).2 rfl]
  decide +kernel

/-- rolling a generator along a list of bases, keeping every intermediate value -/
def rollAlong (h0 : NtHash) (k : Nat) (seq : List UInt8) : List NtHash :=
  ((seq.zip (seq.drop k)).foldl
    (fun (acc : List NtHash × NtHash) p =>
      let h' := acc.2.roll (code p.1) (code p.2)
      (acc.1 ++ [h'], h')) ([h0], h0)).1

def scratchAlong (k : Nat) (rc : Bool) (seq : List UInt8) : List NtHash :=
  (List.range (seq.length + 1 - k)).map (fun j => NtHash.new ((seq.drop j).take k) k rc)

/-- purely at the hash level, computed by the kernel on both sides: on the two
N-free stretches of the example the rolled generators are the from-scratch ones -/
example : rollAlong (NtHash.new [65, 67, 71, 84, 84] 5 true) 5 [65, 67, 71, 84, 84, 71, 67, 65]
    = scratchAlong 5 true [65, 67, 71, 84, 84, 71, 67, 65] := by decide +kernel

example : rollAlong (NtHash.new [65, 67, 71, 71, 84] 5 true) 5 [65, 67, 71, 71, 84, 67, 65, 84]
    = scratchAlong 5 true [65, 67, 71, 71, 84, 67, 65, 84] := by decide +kernel

example : rollAlong (NtHash.new [65, 67, 71, 84, 84] 5 false) 5 [65, 67, 71, 84, 84, 71, 67, 65]
    = scratchAlong 5 false [65, 67, 71, 84, 84, 71, 67, 65] := by decide +kernel

/-- a window and its reverse complement (`ACGTT` / `AACGT`) -/
example : (NtHash.new [65, 67, 71, 84, 84] 5 true).curr = (NtHash.new [65, 65, 67, 71, 84] 5 true).curr
    ∧ (NtHash.new [65, 67, 71, 84, 84] 5 true).curr = 9484111204451142604 := by
  decide +kernel

/-- rotation amounts beyond 64 (k = 70 on a 70-base window) -/
example :
    (NtHash.new (List.replicate 69 67 ++ [71]) 70 true).roll (code 67) (code 84)
      = NtHash.new (List.replicate 68 67 ++ [71, 84]) 70 true := by decide +kernel

end Examples

end SkaModel.Props.C16
