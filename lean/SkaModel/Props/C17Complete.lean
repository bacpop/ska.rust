/-
C17 (first sentence) — completeness of SNP calling for isolated SNPs:

  "For samples derived from a common sequence whose (k-1)-mers are unique on both strands by substitutions
   at least 2k apart, the SNP alignment of `ska lo` has exactly one column per substituted site with every
   sample's true base, up to column order and strand."

Setting (`SkaModel/Lemmas/LOCDefs.lean`; `IsArrOf` in `LOCTab.lean`): `Planted k L A S P` — the decidable
hypotheses `plantedB`: `k` odd, `5 ≤ k`; ancestor `A` and samples `S` (at least two) of `L` letters A/C/G/T; the
samples equal `A` outside the sites `P`; every site shows two different bases; the sites are increasing, `2k` apart
and `2k` from both ends; the `(k-1)`-mers of `A` and of all samples are unique on both strands (`uniqueB`).  The table is
`tableOf k names S = specTable k true names (one record per sample)`; `IsArrOf a k names S` says that the array
`a` holds its rows IN ANY ORDER (`arrOf W k names S`: in table order).  `lo` is the reference-free pipeline
(graph, entry/exit nodes, variant groups, caller); `trueCols S P` the true columns; `ColsMatch cols truth`:
`cols` is `truth` up to the order of the columns and the complement (A<->T, C<->G) of individual columns.

MAIN THEOREM `T17_complete`: for every `maxDepth`, every missing-data threshold `mNum/mDen` and every `ik`,
`lo … a = some (cols, [])` with `ColsMatch cols (trueCols S P)`.  Left out: reading the input (`a` is any array
with `IsArrOf a k names S`) and writing the alignment (the claim is about the columns the caller returns).
`T17_complete_check`: the executable form `completeOn` of the claim accepts (it is `#guard`ed below on 33 generated
families and on the counterexample family, for depths 0, 1, 4 and several thresholds).

FINDING (`palS`, `famPalin` below).  On the program as found the claim FAILED: a window whose two arms are
reverse complements of each other (a palindromic split k-mer, which the uniqueness of the `(k-1)`-mers does
not exclude) is stored by `ska build` in ONE row with the IUPAC code W or S, and `build_graph` pushed every
edge of that row twice.  The doubled successor made a fake branch node: with `-d 0` / `-d 1` the SNP bubble
through it was lost (no column at all), with larger depths the paths were duplicated.  The program was
repaired (`build_graph` stores an edge once, `addEdgeOnce`); on the repaired model the theorem holds WITHOUT
any hypothesis on palindromic split k-mers (`noPalinB` is not needed), rows in any order.

Proof (`SkaModel/Lemmas/LOC*.lean`).  In coordinates the graph of a planted family is simple: every edge is
`fw j → fw (j+1)` of a sample or `rv (j+1) → rv j`, a node branches iff the base entering is a site, and the colour
set of a k-mer is the set of the samples with the same window (`T17K_graph_*`, `T17K_colours*`).  So the entry nodes
are the `(k-1)`-mer just before every site and the reverse complement of the one just after it, there is no indel
group, and every SNP group is a good group `GG` of one strand that runs from a site over at most `maxDepth`
further sites (`T17K_entries`, `T17K_groups`, `T17K_group_keys`).  The fold of `analyse` over good groups of both
strands in ANY order keeps the invariant `CInv` (`LOCInv.lean`): the columns so far are those of distinct sites, and
the k-mers blocked are those of these sites, so a site is called once, on the strand that comes first.
-/
import SkaModel.Lemmas.LOCFinal
import SkaModel.Lemmas.LOCUniq
import SkaModel.Props.C17Union

namespace SkaModel.Props.C17K

open SkaModel SkaModel.Skalo SkaModel.Spec SkaModel.Props.C16 SkaModel.Props.C17G SkaModel.LOC

abbrev Planted := LOC.Planted
abbrev plantedB := LOC.plantedB
abbrev noPalinB := LOC.noPalinB
abbrev tableOf := LOC.tableOf
abbrev arrOf := LOC.arrOf
abbrev IsArrOf := LOC.IsArrOf
abbrev lo := LOC.lo
abbrev trueCols := LOC.trueCols
abbrev ColsMatch := LOC.ColsMatch
abbrev completeOn := LOC.completeOn

/-- the array in table order holds the rows of the table -/
theorem T17K_arrOf (W k : Nat) (names : List String) (S : List (List UInt8)) :
    IsArrOf (arrOf W k names S) k names S := isArrOf_arrOf W k names S

/-- **T17_complete**: completeness of SNP calling for isolated SNPs, any exploration depth, any
missing-data threshold, any `ik`, rows of the table in any order -/
theorem T17_complete (W k L : Nat) (A : List UInt8) (S : List (List UInt8)) (P : List Nat) (names : List String)
    (a : Arr) (hk : ValidK k) (hw : WidthOk W k) (hpl : Planted k L A S P) (ha : IsArrOf a k names S)
    (mNum mDen ik maxDepth : Nat) :
    ∃ cols, lo W k S.length mNum mDen ik maxDepth a = some (cols, []) ∧ ColsMatch cols (trueCols S P) :=
  lo_complete ha (pfam_of_planted hpl) hk hw mNum mDen ik maxDepth

/-- the depth-0 case (`-d 0`: single-site bubbles only) -/
theorem T17_complete_depth0 (W k L : Nat) (A : List UInt8) (S : List (List UInt8)) (P : List Nat)
    (names : List String) (a : Arr) (hk : ValidK k) (hw : WidthOk W k) (hpl : Planted k L A S P)
    (ha : IsArrOf a k names S) (mNum mDen ik : Nat) :
    ∃ cols, lo W k S.length mNum mDen ik 0 a = some (cols, []) ∧ ColsMatch cols (trueCols S P) :=
  T17_complete W k L A S P names a hk hw hpl ha mNum mDen ik 0

/-- the table in the order of `specTable` -/
theorem T17_complete_table (W k L : Nat) (A : List UInt8) (S : List (List UInt8)) (P : List Nat)
    (names : List String) (hk : ValidK k) (hw : WidthOk W k) (hpl : Planted k L A S P)
    (mNum mDen ik maxDepth : Nat) :
    ∃ cols, lo W k S.length mNum mDen ik maxDepth (arrOf W k names S) = some (cols, []) ∧
      ColsMatch cols (trueCols S P) :=
  T17_complete W k L A S P names _ hk hw hpl (T17K_arrOf W k names S) mNum mDen ik maxDepth

/-- **T17K_graph_edges**: every edge of the graph joins the `(k-1)`-mers of a sample at consecutive
coordinates, `fw j → fw (j+1)`, or their reverse complements in the opposite direction,
`rv (j+1) → rv j`; all these are edges -/
theorem T17K_graph_edges (W k L : Nat) (A : List UInt8) (S : List (List UInt8)) (P : List Nat)
    (names : List String) (a : Arr) (hk : ValidK k) (hw : WidthOk W k) (hpl : Planted k L A S P)
    (ha : IsArrOf a k names S) (x y : Nat) :
    Edge (buildGraph W a).1 x y ↔
      ∃ s ∈ S, ∃ j, j + k ≤ L ∧
        ((x = fwN W k s j ∧ y = fwN W k s (j + 1)) ∨ (x = rvN W k s (j + 1) ∧ y = rvN W k s j)) := by
  obtain ⟨_, _, hkW⟩ := validK_bounds hk hw
  have pf := pfam_of_planted hpl
  rw [edge_iff_mem_allEdges, mem_allEdges_fam ha pf.sf hk hw]
  refine exists_congr fun s => and_congr_right fun hs => exists_congr fun j => and_congr_right fun _ => ?_
  rw [fwN_eq hkW, fwN_eq hkW, rvN_eq hkW (pf.base hs), rvN_eq hkW (pf.base hs), Prod.mk.injEq, Prod.mk.injEq]

/-- no successor is listed twice (the repaired `build_graph`), for every table -/
theorem T17K_graph_succs_nodup (W : Nat) (a : Arr) (x : Nat) : (succs (buildGraph W a).1 x).Nodup :=
  succs_nodup W a x

/-- **T17K_graph_branching**: a forward node has at least two successors iff the base entering is a site
(`j + k - 1 ∈ P`); a reverse node iff `j - 1 ∈ P`; every other node with a successor has exactly one -/
theorem T17K_graph_branching (W k L : Nat) (A : List UInt8) (S : List (List UInt8)) (P : List Nat)
    (names : List String) (a : Arr) (hk : ValidK k) (hw : WidthOk W k) (hpl : Planted k L A S P)
    (ha : IsArrOf a k names S) (s : List UInt8) (hs : s ∈ S) (j : Nat) :
    (j + k ≤ L → (2 ≤ (succs (buildGraph W a).1 (fwN W k s j)).length ↔ j + k - 1 ∈ P)) ∧
    (j + k ≤ L → j + k - 1 ∉ P → succs (buildGraph W a).1 (fwN W k s j) = [fwN W k s (j + 1)]) ∧
    (1 ≤ j → j + (k - 1) ≤ L → (2 ≤ (succs (buildGraph W a).1 (rvN W k s j)).length ↔ j - 1 ∈ P)) ∧
    (1 ≤ j → j + (k - 1) ≤ L → j - 1 ∉ P → succs (buildGraph W a).1 (rvN W k s j) = [rvN W k s (j - 1)]) := by
  have pf := pfam_of_planted hpl
  have st := strand_of_fam ha pf hk hw
  rw [fwN_eq (validK_bounds hk hw).2.2, fwN_eq (validK_bounds hk hw).2.2]
  exact ⟨fun hj => (st.succs_fN hs hj).1, fun hj => (st.succs_fN hs hj).2,
    fun h1 h2 => (succs_rvN ha pf hk hw hs h1 h2).1, fun h1 h2 => (succs_rvN ha pf hk hw hs h1 h2).2⟩

/-- **T17K_colours**: the `k`-mer of a sample at `j` and its reverse complement are keys of the colour map
with the same strictly increasing sample list: the samples with the same `k`-window at `j` -/
theorem T17K_colours (W k L : Nat) (A : List UInt8) (S : List (List UInt8)) (P : List Nat)
    (names : List String) (a : Arr) (hk : ValidK k) (hw : WidthOk W k) (hpl : Planted k L A S P)
    (ha : IsArrOf a k names S) (s : List UInt8) (hs : s ∈ S) (j : Nat) (hj : j + k ≤ L) :
    ∃ Cs : List Nat,
      Assoc.lookup (buildGraph W a).2 (encodeKmer W (win s j k)) = some Cs ∧
      Assoc.lookup (buildGraph W a).2 (encodeKmer W (rcSeq (win s j k))) = some Cs ∧
      Cs.Pairwise (· < ·) ∧
      ∀ i, i ∈ Cs ↔ ∃ t, S[i]? = some t ∧ win t j k = win s j k := by
  obtain ⟨_, _, hkW⟩ := validK_bounds hk hw
  have pf := pfam_of_planted hpl
  have hl : (LOC.win s j k).length = k := win_length (pf.le_len hs hj)
  obtain ⟨Cs, h1, h2, h3⟩ := colOK_fam ha pf hk hw s hs j hj
  obtain ⟨Cs', h1', h2', h3'⟩ := colour_fam ha pf.sf hk hw s hs j hj _ (Or.inr rfl)
  -- the key of the reverse complement carries the same samples
  have heq : Cs' = Cs := eq_of_sorted_mem h2' h2 fun i => by
    rw [h3, h3']
    exact exists_congr fun t => and_congr_right fun ht => kmer_eq_iff pf hk.1 (List.mem_of_getElem? ht) hs hj
  refine ⟨Cs, ?_, ?_, h2, h3⟩
  · rw [enc_eq W _ (by rw [hl]; exact hkW)]
    exact h1
  · rw [enc_eq W _ (by rw [rcSeq_length, hl]; exact hkW), cds_rcSeq ((pf.base hs).win _ _), ← heq]
    exact h1'

/-- the samples with the same window: those that agree on the sites inside the window (at most one) -/
theorem T17K_colours_sites (k L : Nat) (A : List UInt8) (S : List (List UInt8)) (P : List Nat)
    (hpl : Planted k L A S P) (s t : List UInt8) (hs : s ∈ S) (ht : t ∈ S) (j : Nat) (hj : j + k ≤ L) :
    (win t j k = win s j k ↔ ∀ p ∈ P, j ≤ p → p < j + k → t.getD p 0 = s.getD p 0) ∧
    (∀ p ∈ P, ∀ q ∈ P, j ≤ p → p < j + k → j ≤ q → q < j + k → p = q) := by
  have pf := pfam_of_planted hpl
  have hk2 : k ≤ 2 * k := Nat.le_mul_of_pos_left k (by decide)
  exact ⟨⟨fun e p _ h1 h2 => win_getD (pf.le_len ht hj) (pf.le_len hs hj) e h1 h2, pf.win_agree_of ht hs hj⟩,
    fun p hp q hq h1 h2 h3 h4 => pf.site_eq hp hq (Nat.lt_of_lt_of_le h2 (Nat.add_le_add h3 hk2))
      (Nat.lt_of_lt_of_le h4 (Nat.add_le_add h1 hk2))⟩

/-- **T17K_entries**: `identify_good_kmers` succeeds; the entry nodes are distinct: the `(k-1)`-mer just
before every site and the reverse complement of the `(k-1)`-mer just after it; the exit nodes are the
`(k-1)`-mer just after every site and the reverse complement of the one just before it -/
theorem T17K_entries (W k L : Nat) (A : List UInt8) (S : List (List UInt8)) (P : List Nat)
    (names : List String) (a : Arr) (hk : ValidK k) (hw : WidthOk W k) (hpl : Planted k L A S P)
    (ha : IsArrOf a k names S) :
    ∃ starts ends, identifyGoodKmers W (k - 1) (buildGraph W a).1 (buildGraph W a).2 = some (starts, ends) ∧
      starts.Nodup ∧
      (∀ x, x ∈ starts ↔ (∃ p ∈ P, ∃ s ∈ S, x = fwN W k s (p - k + 1)) ∨ (∃ p ∈ P, ∃ s ∈ S, x = rvN W k s (p + 1))) ∧
      (∀ x, x ∈ ends ↔ (∃ p ∈ P, ∃ s ∈ S, x = fwN W k s (p + 1)) ∨ (∃ p ∈ P, ∃ s ∈ S, x = rvN W k s (p - k + 1))) := by
  obtain ⟨_, _, hkW⟩ := validK_bounds hk hw
  have pf := pfam_of_planted hpl
  have hk1 : 1 ≤ k := Nat.le_trans (by decide) hk.1
  obtain ⟨starts, ends, hid, ex⟩ := identify_fam ha pf hk hw
  refine ⟨starts, ends, hid, ex.snd, fun x => ?_, fun x => ?_⟩
  · rw [ex.st, pf.isEntry_mirror hk1 hkW]
    simp only [isEntry, fwN_eq hkW]
  · rw [ex.en, pf.isExit_mirror hk1 hkW]
    simp only [isExit, fwN_eq hkW]

/-- **T17K_groups**: for the entry and exit nodes of `identify_good_kmers`: there is no indel group; every
SNP group has at least two variants and is a good group (`GG`: start coordinate `c0`, `len` letters; every
variant spells `k`-windows of samples at the corresponding coordinates; every site inside is marked by some
variant; every base a sample shows at such a site is shown by a variant) of the samples' strand
or of the reverse-complemented family (sites mirrored); the bubble of every site `p` — from the `(k-1)`-mer
just before `p` to the one just after it — is reported -/
theorem T17K_groups (W k L : Nat) (A : List UInt8) (S : List (List UInt8)) (P : List Nat)
    (names : List String) (a : Arr) (hk : ValidK k) (hw : WidthOk W k) (hpl : Planted k L A S P)
    (ha : IsArrOf a k names S) (starts ends : List Nat)
    (hid : identifyGoodKmers W (k - 1) (buildGraph W a).1 (buildGraph W a).2 = some (starts, ends))
    (maxDepth : Nat) :
    (buildVariantGroups W (k - 1) (buildGraph W a).1 starts ends maxDepth).indelGroups = [] ∧
    (∀ grp ∈ (buildVariantGroups W (k - 1) (buildGraph W a).1 starts ends maxDepth).snpGroups,
      2 ≤ grp.2.length ∧
      ((∃ c0 len, GG k L S P c0 len grp.2) ∨ (∃ c0 len, GG k L (rcFam S) (mirrorP L P) c0 len grp.2))) ∧
    (∀ p ∈ P, ∃ grp ∈ (buildVariantGroups W (k - 1) (buildGraph W a).1 starts ends maxDepth).snpGroups,
      (∃ s ∈ S, grp.1 = (fwN W k s (p - k + 1), fwN W k s (p + 1))) ∧
      ∃ c0 len, GG k L S P c0 len grp.2 ∧ c0 ≤ p ∧ p < c0 + len) := by
  obtain ⟨_, _, hkW⟩ := validK_bounds hk hw
  have pf := pfam_of_planted hpl
  obtain ⟨h1, h2, h3⟩ :=
    (strand_of_fam ha pf hk hw).groups_spec (ext_of_identify ha pf hk hw hid) hkW maxDepth
  refine ⟨h1, h2, ?_⟩
  simpa only [fwN_eq hkW] using h3

/-- a group found from the entry node of a site `p` of the samples' strand spans at most `maxDepth` further sites:
its key is (node before `p`, node after the last of them); with `maxDepth = 0` it is the single-site bubble of `p` -/
theorem T17K_group_span (W k L : Nat) (A : List UInt8) (S : List (List UInt8)) (P : List Nat)
    (names : List String) (a : Arr) (hk : ValidK k) (hw : WidthOk W k) (hpl : Planted k L A S P)
    (ha : IsArrOf a k names S) (starts ends : List Nat)
    (hid : identifyGoodKmers W (k - 1) (buildGraph W a).1 (buildGraph W a).2 = some (starts, ends))
    (maxDepth : Nat) (s : List UInt8) (hs : s ∈ S) (p : Nat) (hp : p ∈ P) (grp : (Nat × Nat) × List Variant)
    (hgrp : grp ∈ groupsFrom W (k - 1) (compactGraph (buildGraph W a).1 starts ends).1
      (compactGraph (buildGraph W a).1 starts ends).2 starts ends maxDepth (fwN W k s (p - k + 1))) :
    ∃ qs : List Nat, SitesOK P p qs ∧ qs.length ≤ maxDepth ∧
      grp.1 = (fwN W k s (p - k + 1), fwN W k s ((p :: qs).getLast (by simp) + 1)) := by
  obtain ⟨_, _, hkW⟩ := validK_bounds hk hw
  have pf := pfam_of_planted hpl
  rw [fwN_eq hkW] at hgrp
  simpa only [fwN_eq hkW] using
    (strand_of_fam ha pf hk hw).group_span (ext_of_identify ha pf hk hw hid) maxDepth hs hp hgrp

/-- **T17K_group_keys**: the keys of the SNP groups that start at the entry node of a site `p` of the samples'
strand are exactly the pairs (node before `p`, node after the site reached from `p` by `n ≤ maxDepth` steps to
the next site): the bubble of `p` (`n = 0`) and the spanning groups; with `maxDepth = 0` only the bubble -/
theorem T17K_group_keys (W k L : Nat) (A : List UInt8) (S : List (List UInt8)) (P : List Nat)
    (names : List String) (a : Arr) (hk : ValidK k) (hw : WidthOk W k) (hpl : Planted k L A S P)
    (ha : IsArrOf a k names S) (starts ends : List Nat)
    (hid : identifyGoodKmers W (k - 1) (buildGraph W a).1 (buildGraph W a).2 = some (starts, ends))
    (maxDepth : Nat) (s : List UInt8) (hs : s ∈ S) (p : Nat) (hp : p ∈ P) (key : Nat × Nat)
    (hkey : key.1 = fwN W k s (p - k + 1)) :
    (∃ grp ∈ (buildVariantGroups W (k - 1) (buildGraph W a).1 starts ends maxDepth).snpGroups, grp.1 = key) ↔
      ∃ qs : List Nat, SitesOK P p qs ∧ qs.length ≤ maxDepth ∧
        key = (fwN W k s (p - k + 1), fwN W k s ((p :: qs).getLast (by simp) + 1)) := by
  obtain ⟨_, _, hkW⟩ := validK_bounds hk hw
  have pf := pfam_of_planted hpl
  rw [fwN_eq hkW] at hkey
  simpa only [fwN_eq hkW] using
    (strand_of_fam ha pf hk hw).snp_keys (ext_of_identify ha pf hk hw hid) hkW maxDepth hs hp key hkey

/-- the sites following `p`, one after the other (`SitesOK P p qs`): each is the next site of the previous one -/
example : SitesOK [10, 20, 30] 10 [20, 30] := by
  refine ⟨⟨by decide, by decide, ?_⟩, ⟨by decide, by decide, ?_⟩, trivial⟩ <;> decide

/-- **the executable checker accepts** on every planted family -/
theorem T17_complete_check (W k L : Nat) (A : List UInt8) (S : List (List UInt8)) (P : List Nat)
    (names : List String) (a : Arr) (hk : ValidK k) (hw : WidthOk W k) (hpl : Planted k L A S P)
    (ha : IsArrOf a k names S) (mNum mDen ik maxDepth : Nat) :
    completeOn W k S.length mNum mDen ik maxDepth a S P = true :=
  completeOn_of_complete W k S.length mNum mDen ik maxDepth a S P
    (T17_complete W k L A S P names a hk hw hpl ha mNum mDen ik maxDepth)

/-- an array with the rows of the table in any other order -/
theorem T17K_arrOf_perm (W k : Nat) (names : List String) (S : List (List UInt8)) (rows' : List (Nat × List UInt8))
    (hp : rows'.Perm (tableOf k names S).rows) : IsArrOf (arrOfRows W k names rows') k names S :=
  isArrOf_rows W k names S rows' hp

/-! The hypotheses are satisfiable and the theorems apply. -/

/-- a planted family: k = 5, one site at 10 (G / A), ancestor CAGGTGGCGTGAAGAGTAGTC -/
def exA : List UInt8 := [67, 65, 71, 71, 84, 71, 71, 67, 71, 84, 71, 65, 65, 71, 65, 71, 84, 65, 71, 84, 67]
def exS : List (List UInt8) := [[67, 65, 71, 71, 84, 71, 71, 67, 71, 84, 71, 65, 65, 71, 65, 71, 84, 65, 71, 84, 67], [67, 65, 71, 71, 84, 71, 71, 67, 71, 84, 65, 65, 65, 71, 65, 71, 84, 65, 71, 84, 67]]

theorem ex_planted : Planted 5 21 exA exS [10] := by
  unfold Planted LOC.Planted LOC.plantedB
  rw [uniqueB_eq]
  decide +kernel
theorem ex_k : ValidK 5 := by unfold ValidK; decide
theorem ex_w : WidthOk 64 5 := by unfold WidthOk; decide

/-- the main theorem on that family: depth 0, no missing data allowed, table order -/
example : ∃ cols, lo 64 5 2 0 1 2 0 (arrOf 64 5 ["s0", "s1"] exS) = some (cols, []) ∧
    ColsMatch cols (trueCols exS [10]) :=
  T17_complete_table 64 5 21 exA exS [10] ["s0", "s1"] ex_k ex_w ex_planted 0 1 2 0

/-- the same with depth 4, threshold 1/2 and the 128-bit width -/
example : ∃ cols, lo 128 5 2 1 2 0 4 (arrOf 128 5 ["s0", "s1"] exS) = some (cols, []) ∧
    ColsMatch cols (trueCols exS [10]) :=
  T17_complete_table 128 5 21 exA exS [10] ["s0", "s1"] ex_k (by unfold WidthOk; decide) ex_planted 1 2 0 4

-- what the model computes on that family: one column, C/T = the complement of the true column G/A
-- (the group of the other strand is processed first)
#guard lo 64 5 2 0 1 2 0 (arrOf 64 5 ["s0", "s1"] exS) = some ([[67, 84]], [])
example : trueCols exS [10] = [[71, 65]] := by decide

/-- the rows of the table in reverse order: the theorem applies as well -/
example : ∃ cols, lo 64 5 2 0 1 2 1 (arrOfRows 64 5 ["s0", "s1"] (tableOf 5 ["s0", "s1"] exS).rows.reverse) =
    some (cols, []) ∧ ColsMatch cols (trueCols exS [10]) :=
  T17_complete 64 5 21 exA exS [10] ["s0", "s1"] _ ex_k ex_w ex_planted
    (T17K_arrOf_perm 64 5 _ exS _ (List.reverse_perm _)) 0 1 2 1
#guard lo 64 5 2 0 1 2 1 (arrOfRows 64 5 ["s0", "s1"] (tableOf 5 ["s0", "s1"] exS).rows.reverse) = some ([[67, 84]], [])

/-- `T17K_colours` on that family: the 5-mer of sample 0 at coordinate 6 (GCGTG, covering the site) is carried by
sample 0 only, the 5-mer at 0 by both samples -/
example := T17K_colours 64 5 21 exA exS [10] ["s0", "s1"] _ ex_k ex_w ex_planted (T17K_arrOf 64 5 _ exS)
  (exS.getD 0 []) (by decide) 6 (by decide)
#guard Assoc.lookup (buildGraph 64 (arrOf 64 5 ["s0", "s1"] exS)).2 (encodeKmer 64 (LOC.win (exS.getD 0 []) 6 5)) = some [0]
#guard Assoc.lookup (buildGraph 64 (arrOf 64 5 ["s0", "s1"] exS)).2 (encodeKmer 64 (LOC.win (exS.getD 0 []) 0 5)) = some [0, 1]
example := T17K_entries 64 5 21 exA exS [10] ["s0", "s1"] _ ex_k ex_w ex_planted (T17K_arrOf 64 5 _ exS)
example := T17K_graph_branching 64 5 21 exA exS [10] ["s0", "s1"] _ ex_k ex_w ex_planted (T17K_arrOf 64 5 _ exS)
  (exS.getD 0 []) (by decide) 6

/-- THE COUNTEREXAMPLE (k = 5, site 10, C / A): the window CGTCG of sample 0 at coordinate 7 has the
arms CG / CG, reverse complements of each other.  The hypotheses hold (`Planted`), `noPalinB` does not.  On the
program as found `lo` returned no column for depths 0 and 1 (the doubled edges CGTC → GTCG and TCGG → CGGA
are fake branches on the arm of the bubble); on the repaired program (an edge is stored once) the theorem
applies and the model returns the column G/T = the complement of C/A -/
def palA : List UInt8 := [71, 65, 65, 84, 65, 65, 71, 67, 71, 84, 71, 71, 71, 65, 71, 71, 67, 71, 65, 65, 71]
def palS : List (List UInt8) := [[71, 65, 65, 84, 65, 65, 71, 67, 71, 84, 67, 71, 71, 65, 71, 71, 67, 71, 65, 65, 71], [71, 65, 65, 84, 65, 65, 71, 67, 71, 84, 65, 71, 71, 65, 71, 71, 67, 71, 65, 65, 71]]

theorem pal_planted : Planted 5 21 palA palS [10] := by
  unfold Planted LOC.Planted LOC.plantedB
  rw [uniqueB_eq]
  decide +kernel
example : noPalinB 5 palS = false := by decide +kernel
example : ∃ cols, lo 64 5 2 0 1 2 0 (arrOf 64 5 ["s0", "s1"] palS) = some (cols, []) ∧
    ColsMatch cols (trueCols palS [10]) :=
  T17_complete_table 64 5 21 palA palS [10] ["s0", "s1"] ex_k ex_w pal_planted 0 1 2 0
#guard lo 64 5 2 0 1 2 0 (arrOf 64 5 ["s0", "s1"] palS) = some ([[71, 84]], [])
#guard trueCols palS [10] = [[67, 65]]

-- the executable claim on 33 generated families (k = 5, 7, 9; 2-4 samples; 1-3 sites; two and
-- three alleles; with and without the ancestral allele) for the depths 0, 1, 4 and several thresholds
#guard fams.length = 33
#guard fams.all (fun f => (testFam f).1 && (testFam f).2.2.all id)
#guard (testFam famPalin).1 && !(testFam famPalin).2.1 && (testFam famPalin).2.2.all id
-- the graph of the same families, by evaluation: edges, branching, colours
#guard fams.all (fun f => checkEdges 64 f && checkBranching 64 f && checkColours 64 f)

#print axioms T17_complete
#print axioms T17_complete_depth0
#print axioms T17_complete_table
#print axioms T17_complete_check
#print axioms T17K_graph_edges
#print axioms T17K_graph_branching
#print axioms T17K_colours
#print axioms T17K_entries
#print axioms T17K_groups
#print axioms T17K_group_keys

end SkaModel.Props.C17K

namespace SkaModel.Props.C17U

open SkaModel SkaModel.Skalo SkaModel.Spec SkaModel.Props.C16 SkaModel.Props.C17G SkaModel.LOG
open SkaModel.LORL SkaModel.LOC

/-- **T17U_complete**: `T17_complete` (completeness of SNP calling for isolated SNPs) for the pipeline on the
merged colours -/
theorem T17U_complete (W k L : Nat) (A : List UInt8) (S : List (List UInt8)) (P : List Nat) (names : List String)
    (a : Arr) (hk : ValidK k) (hw : WidthOk W k) (hpl : C17K.Planted k L A S P) (ha : C17K.IsArrOf a k names S)
    (mNum mDen ik maxDepth : Nat) :
    ∃ cols, loU W k S.length mNum mDen ik maxDepth a = some (cols, []) ∧
      C17K.ColsMatch cols (C17K.trueCols S P) := by
  rw [T17U_lo_eq _ _ _ _ _ _ _ _ (T17U_cons_fam ha (LOC.pfam_of_planted hpl).sf hk hw)]
  exact C17K.T17_complete W k L A S P names a hk hw hpl ha mNum mDen ik maxDepth

end SkaModel.Props.C17U

#print axioms SkaModel.Props.C17U.T17U_complete
