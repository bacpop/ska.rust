/-
C02 — The split k-mer dictionary of a sample (`Spec.maskFor k rc recs`, the set of
middle bases of every canonical split k-mer) does not depend on the order of the
records, on letter case, or (both strands in use) on the strand each record is
given on.
-/
import SkaModel.Spec.Transforms
import SkaModel.Lemmas.MaskOf
import SkaModel.Lemmas.Transforms
import SkaModel.Lemmas.RevCompSeq

namespace SkaModel.Props.C02

open SkaModel SkaModel.Spec

/-- every byte of every record is one of A C G T N a c g t n -/
def DnaInput (recs : List (Array UInt8)) : Prop :=
  ∀ r, r ∈ recs → ∀ b, b ∈ r.toList → isDna b = true

theorem allDna_of_forall {r : Array UInt8} (h : ∀ b, b ∈ r.toList → isDna b = true) :
    AllDna r := by
  intro p hp
  have e : r.getD p 0 = r[p] := by
    rw [Array.getD_eq_getD_getElem?]; simp [hp]
  rw [e]
  exact h _ (Array.getElem_mem_toList hp)

/-- the dictionary of a concatenation is the union of the dictionaries -/
theorem T02_maskFor_append (k : Nat) (rc : Bool) (a b : List (Array UInt8)) (key : Nat) :
    maskFor k rc (a ++ b) key = maskFor k rc a key ||| maskFor k rc b key := by
  unfold maskFor
  rw [observations_append, maskOf_append]

theorem T02_perm_observations (k : Nat) (rc : Bool) {recs₁ recs₂ : List (Array UInt8)}
    (h : recs₁.Perm recs₂) : (observations k rc recs₁).Perm (observations k rc recs₂) :=
  List.Perm.flatMap_right _ h

/-- the dictionary does not depend on the order of the records -/
theorem T02_perm (k : Nat) (rc : Bool) {recs₁ recs₂ : List (Array UInt8)}
    (h : recs₁.Perm recs₂) (key : Nat) :
    maskFor k rc recs₁ key = maskFor k rc recs₂ key :=
  maskOf_congr_mem (fun _ => (T02_perm_observations k rc h).mem_iff) key

/-- changing the case of any positions of a record does not change what it contributes
(no hypothesis on the bytes: `validBase` and `code` do not read bit 5) -/
theorem T02_case_single (k : Nat) (rc : Bool) (m : List Bool) (r : Array UInt8) :
    observations k rc [applyCase m r] = observations k rc [r] :=
  (applyCase_sameCodes m r).observations k rc

/-- a transformation applied to a selected subset of the records, position by position -/
theorem pointwise_zipWith {α γ : Type} {R : α → α → Prop} (g : γ → α → α)
    (hrefl : ∀ a, R a a) :
    ∀ (sel : List γ) (l : List α), (∀ c a, a ∈ l → R a (g c a)) →
      Pointwise R l (List.zipWith g sel l ++ l.drop sel.length)
  | [], l, _ => by
    simp only [List.zipWith_nil_left, List.nil_append, List.length_nil, List.drop_zero]
    exact Pointwise.refl hrefl l
  | _ :: _, [], _ => by simpa using Pointwise.nil
  | c :: sel, a :: l, h => by
    simp only [List.zipWith_cons_cons, List.cons_append, List.length_cons, List.drop_succ_cons]
    exact Pointwise.cons (h c a List.mem_cons_self)
      (pointwise_zipWith g hrefl sel l (fun c' a' ha' => h c' a' (List.mem_cons_of_mem _ ha')))

/-- the dictionary does not depend on letter case: `ms` gives one case mask per record (records
beyond `ms.length` are left as they are) -/
theorem T02_case' (k : Nat) (rc : Bool) (recs : List (Array UInt8)) (ms : List (List Bool))
    (key : Nat) :
    maskFor k rc (List.zipWith applyCase ms recs ++ recs.drop ms.length) key
      = maskFor k rc recs key :=
  (maskFor_congr (pointwise_zipWith (R := SameObs k rc) applyCase (SameObs.refl k rc) ms recs
    fun m r _ o => by rw [T02_case_single]) key).symm

/-- the dictionary does not depend on letter case: one case mask per record -/
theorem T02_case (k : Nat) (rc : Bool) (recs : List (Array UInt8)) (ms : List (List Bool))
    (hlen : ms.length = recs.length) (key : Nat) :
    maskFor k rc (List.zipWith applyCase ms recs) key = maskFor k rc recs key := by
  have := T02_case' k rc recs ms key
  rwa [hlen, List.drop_length, List.append_nil] at this

/-- a record and its reverse complement give the same dictionary (both strands in use,
k odd, input over A C G T N a c g t n) -/
theorem T02_revcomp_single (k : Nat) (hk : k % 2 = 1) (r : Array UInt8)
    (hd : ∀ b, b ∈ r.toList → isDna b = true) (key : Nat) :
    maskFor k true [revCompSeq r] key = maskFor k true [r] key :=
  (maskOf_congr_mem (sameObs_revCompSeq hk (allDna_of_forall hd)) key).symm

/-- replacing the records selected by `sel` by their reverse complements leaves the
dictionary unchanged (records beyond `sel.length` are left as they are) -/
theorem T02_revcomp (k : Nat) (hk : k % 2 = 1) (recs : List (Array UInt8)) (hd : DnaInput recs)
    (sel : List Bool) (key : Nat) :
    maskFor k true
        (List.zipWith (fun b r => if b then revCompSeq r else r) sel recs ++ recs.drop sel.length)
        key
      = maskFor k true recs key := by
  refine (maskFor_congr
    (pointwise_zipWith (R := SameObs k true) (fun (b : Bool) r => if b then revCompSeq r else r)
      (SameObs.refl k true) sel recs (fun b r hr => ?_)) key).symm
  cases b
  · exact SameObs.refl k true r
  · exact sameObs_revCompSeq hk (allDna_of_forall (hd r hr))

/-- the same, for any list that is record by record the original or its reverse complement -/
theorem T02_revcomp_getElem (k : Nat) (hk : k % 2 = 1) (recs recs' : List (Array UInt8))
    (hd : DnaInput recs) (hlen : recs'.length = recs.length)
    (h : ∀ i (hi : i < recs.length),
      recs'[i]'(hlen ▸ hi) = recs[i] ∨ recs'[i]'(hlen ▸ hi) = revCompSeq recs[i])
    (key : Nat) :
    maskFor k true recs' key = maskFor k true recs key := by
  refine (maskFor_congr (Pointwise.of_getElem hlen (fun i hi => ?_)) key).symm
  rcases h i hi with e | e
  · rw [e]; exact SameObs.refl k true _
  · rw [e]; exact sameObs_revCompSeq hk (allDna_of_forall (hd _ (List.getElem_mem hi)))

/-- `b` is `a` or its reverse complement, in any letter case -/
def StrandCaseVariant (a b : Array UInt8) : Prop :=
  ∃ m : List Bool, b = applyCase m a ∨ b = applyCase m (revCompSeq a)

theorem sameObs_of_variants {k : Nat} (hk : k % 2 = 1) {recs recs' : List (Array UInt8)}
    (hd : DnaInput recs) (hv : Pointwise StrandCaseVariant recs recs') :
    Pointwise (SameObs k true) recs recs' := by
  refine hv.mono_mem (fun a hmem b hab => ?_)
  obtain ⟨m, e | e⟩ := hab
  · intro o; rw [e, T02_case_single]
  · intro o
    rw [e, T02_case_single]
    exact sameObs_revCompSeq hk (allDna_of_forall (hd _ hmem)) o

/-- C02: reorder the records, give any of them on the other strand, write any letters in the
other case — the dictionary is the same (both strands in use, k odd, input over A C G T N a c g t n) -/
theorem T02 (k : Nat) (hk : k % 2 = 1) (recs recs' recs'' : List (Array UInt8))
    (hd : DnaInput recs) (hv : Pointwise StrandCaseVariant recs recs') (hp : recs'.Perm recs'')
    (key : Nat) :
    maskFor k true recs'' key = maskFor k true recs key := by
  rw [← T02_perm k true hp key]
  exact (maskFor_congr (sameObs_of_variants hk hd hv) key).symm

end SkaModel.Props.C02
