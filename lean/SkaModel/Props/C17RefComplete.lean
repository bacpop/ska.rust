/-
C17 (second sentence) — SNP calling with a reference genome on planted families:

  "with a reference genome every reported SNP is at its true coordinate with the true alleles and the
   pseudo-genomes agree with the samples at every called position"

Setting: a planted family `Planted k L A S P` (`SkaModel/Lemmas/LOCDefs.lean`, see `Props/C17Complete.lean`),
the table of the joint build in any row order (`IsArrOf a k names S`), and the pipeline with a reference
`loRef` = graph, entry/exit nodes, variant groups, `analyseRef` (`SkaModel/Impl/SkaloRef.lean`); the reference
is the ancestor `A` (as the program keeps it: `genomeBytes`, upper case without whitespace), or its reverse
complement.  `truePlaced S P`: the pairs (0-based coordinate of a site, base of every sample).

MAIN THEOREM `T17_ref_complete`: if every site satisfies `SiteOK k A S p` — some sample shows the base of the
reference at `p`, and `7 ≤ k` or the samples show two further bases at `p` (i.e. the bubble of the site gets its ten
votes, `(k + 1) + 2 (a - 1) ≥ 10` for `a` alleles, see the findings) — and `L < 2^32`, then for every exploration
depth, missing-data threshold and `ik`
  `loRef … a A = some (placed, [])` with `placed` a permutation of `truePlaced S P`:
exactly one (position, column) pair per site, at the true coordinate, with the true column (columns found on the
other strand are complemented back — not "up to strand" as without a reference), no indel record.
Through `create_fasta_and_vcf` (`T17_ref_output`): EVERY PSEUDO-GENOME EQUALS ITS SAMPLE (at the called positions the
sample's base, elsewhere the reference, which the sample equals there).

FINDINGS (the claim is tested on 45 generated families — 20 with `7 ≤ k` and the reference base at every site, 11 with
k = 5 and the reference base at every site, 14 with a site lacking it, k = 5, 7, 9, 11; they are `#guard`ed below):
 1. `most_frequent_position` needs 10 votes; only `(k-1)`-mers that occur in the reference vote.  A variant of the
    single-site bubble of a site has `k + 1` windows of `k - 1` letters; `k - 1` of them cover the site.  So the
    bubble gets `k + 1` votes from the variant with the reference base and 2 votes from every other variant:
    `(k + 1) + 2 (a - 1)` votes for `a` alleles one of which is the reference base, `2 a ≤ 6` votes otherwise.
 2. A SITE AT WHICH NO SAMPLE CARRIES THE REFERENCE BASE IS NOT POSITIONED BY ITS BUBBLE, FOR ANY k: the bubble is
    genotyped, its k-mers are blocked, `scan_variants` fails ("w/o position") and the site is lost for all later
    groups too.  With `-d 0` such a site is never reported (`famNoAnc7`, `famNoAnc11`: no SNP at all); with larger
    depths it is reported only if a spanning group happens to be processed before the bubble (three alleles per
    site: fams 19, 24 of `LOCFams` at `-d 1`).  `famMixed`: of two sites the one without the reference base is lost.
 3. WITH k = 5 A SITE WITH TWO ALLELES IS NEVER POSITIONED by its bubble (8 votes), even when one allele is the
    reference base (`famK5`: no SNP at all, while the reference-free caller reports the column); with three alleles
    including the reference base it is (exactly 10 votes; fams 2, 7 of `LOCFams`, `exS5` below).  Hence the
    hypothesis `SiteOK`: `7 ≤ k` (k is odd: `k + 3 ≥ 10`) or three alleles.  On the 45 families the number of
    votes of every bubble is exactly `(k + 1) + 2 (a - 1)` resp. `2 a` (`#guard`ed below), and at `-d 0` the claim
    holds exactly for the families all of whose sites satisfy `SiteOK` (23 of 45).
 4. A group spanning several sites always has enough votes (every variant has at least `k + 1` windows between two
    sites: `T17L_scan_spanning`), so no further hypothesis is needed for `maxDepth > 0`.
 5. Positions are computed modulo 2^32 (`u32`): `L < 2^32`.

Proof (`SkaModel/Lemmas/LOD*.lean`): by the uniqueness of the `(k-1)`-mers a variant of a good group gets a vote only
from a window that equals the reference window at the same coordinate, and only for `c0 + (k - 1)` (`T17L_votes`); so
`scan_variants` anchors the group (`T17L_scan_same`, `T17L_scan_other`) and the arithmetic of `analyseRef` puts every
site of the group at its coordinate (`T17L_placed_same`, `T17L_placed_other`); the first-claim-wins rule never drops a
site (a site is genotyped once: the blocked k-mers, `CInv` of `LOCInv.lean`; different sites have different coordinates).
-/
import SkaModel.Lemmas.LODFinal
import SkaModel.Lemmas.LODWriter
import SkaModel.Lemmas.LODGenome
import SkaModel.Lemmas.LODFams
import SkaModel.Lemmas.LOCUniq
import SkaModel.Props.C17Complete
import SkaModel.Props.C17

namespace SkaModel.Props.C17L

open SkaModel SkaModel.Skalo SkaModel.Spec SkaModel.Props.C16 SkaModel.LOC SkaModel.LOD

abbrev Planted := LOC.Planted
abbrev IsArrOf := LOC.IsArrOf
abbrev arrOf := LOC.arrOf
abbrev loRef := LOD.loRef
abbrev truePlaced := LOD.truePlaced
abbrev truePlacedRc := LOD.truePlacedRc
abbrev refCompleteOn := LOD.refCompleteOn
abbrev ancShownB := LOD.ancShownB
abbrev GG := LOC.GG
abbrev SiteOK := LOD.SiteOK
abbrev siteOKB := LOD.siteOKB

theorem u32_of {L : Nat} (h : L < 2 ^ 32) : L < U32 := by unfold U32; omega

/-- the `(k-1)`-mers of the reference are encoded in 128 bits -/
theorem k128_of {k : Nat} (hk : ValidK k) : 2 * (k - 1) ≤ 128 := by have := hk.2.1; omega

/-- with the ancestor as reference, exactly one (position, column) pair per site, at the
true 0-based coordinate with the true column; any exploration depth, any missing-data threshold, any `ik`, rows of
the table in any order -/
theorem T17_ref_complete (W k L : Nat) (A : List UInt8) (S : List (List UInt8)) (P : List Nat) (names : List String)
    (a : Arr) (hk : ValidK k) (hw : WidthOk W k) (hpl : Planted k L A S P) (ha : IsArrOf a k names S)
    (hsite : ∀ p ∈ P, SiteOK k A S p) (hL : L < 2 ^ 32)
    (mNum mDen ik maxDepth : Nat) :
    ∃ placed, loRef W k S.length mNum mDen ik maxDepth a A = some (placed, []) ∧
      placed.Perm (truePlaced S P) :=
  loRef_complete ha (pfam_of_planted hpl) (pfamA_of_planted hpl) hk hw (u32_of hL) hsite mNum mDen ik maxDepth

/-- the positions are the sites, and the column at a position is the true column -/
theorem T17_ref_complete_positions (W k L : Nat) (A : List UInt8) (S : List (List UInt8)) (P : List Nat)
    (names : List String) (a : Arr) (hk : ValidK k) (hw : WidthOk W k) (hpl : Planted k L A S P)
    (ha : IsArrOf a k names S) (hsite : ∀ p ∈ P, SiteOK k A S p) (hL : L < 2 ^ 32)
    (mNum mDen ik maxDepth : Nat) :
    ∃ placed, loRef W k S.length mNum mDen ik maxDepth a A = some (placed, []) ∧
      (placed.map (·.1)).Perm P ∧ ∀ pc ∈ placed, pc.2 = S.map (fun s => s.getD pc.1 0) := by
  obtain ⟨placed, h1, h2⟩ := T17_ref_complete W k L A S P names a hk hw hpl ha hsite hL mNum mDen ik maxDepth
  refine ⟨placed, h1, ?_, ?_⟩
  · have := h2.map (·.1)
    rw [truePlaced_fst] at this
    exact this
  · intro pc hpc
    have := h2.mem_iff.mp hpc
    obtain ⟨p, _, rfl⟩ := List.mem_map.mp this
    rfl

/-- with the reverse complement of the ancestor as reference, the site `p` is reported at
`L - 1 - p` with the complemented column -/
theorem T17_ref_complete_rc (W k L : Nat) (A : List UInt8) (S : List (List UInt8)) (P : List Nat)
    (names : List String) (a : Arr) (hk : ValidK k) (hw : WidthOk W k) (hpl : Planted k L A S P)
    (ha : IsArrOf a k names S) (hsite : ∀ p ∈ P, SiteOK k A S p) (hL : L < 2 ^ 32)
    (mNum mDen ik maxDepth : Nat) :
    ∃ placed, loRef W k S.length mNum mDen ik maxDepth a (rcSeq A) = some (placed, []) ∧
      placed.Perm (truePlacedRc L S P) :=
  loRef_complete_rc ha (pfam_of_planted hpl) (pfamA_of_planted hpl) hk hw (u32_of hL) hsite mNum mDen ik maxDepth

/-- any text `G` of the reference that the program reads as `A` (`genomeBytes`:
whitespace removed, upper case) -/
theorem T17_ref_complete_bytes (W k L : Nat) (A G : List UInt8) (S : List (List UInt8)) (P : List Nat)
    (names : List String) (a : Arr) (hk : ValidK k) (hw : WidthOk W k) (hpl : Planted k L A S P)
    (ha : IsArrOf a k names S) (hG : genomeBytes G = A)
    (hsite : ∀ p ∈ P, SiteOK k A S p) (hL : L < 2 ^ 32)
    (mNum mDen ik maxDepth : Nat) :
    ∃ placed, loRef W k S.length mNum mDen ik maxDepth a (genomeBytes G) = some (placed, []) ∧
      placed.Perm (truePlaced S P) := by
  rw [hG]
  exact T17_ref_complete W k L A S P names a hk hw hpl ha hsite hL mNum mDen ik maxDepth

/-- the table in the order of `specTable` -/
theorem T17_ref_complete_table (W k L : Nat) (A : List UInt8) (S : List (List UInt8)) (P : List Nat)
    (names : List String) (hk : ValidK k) (hw : WidthOk W k) (hpl : Planted k L A S P)
    (hsite : ∀ p ∈ P, SiteOK k A S p) (hL : L < 2 ^ 32)
    (mNum mDen ik maxDepth : Nat) :
    ∃ placed, loRef W k S.length mNum mDen ik maxDepth (arrOf W k names S) A = some (placed, []) ∧
      placed.Perm (truePlaced S P) :=
  T17_ref_complete W k L A S P names _ hk hw hpl (isArrOf_arrOf W k names S) hsite hL mNum mDen ik maxDepth

/-- the special case of the statement: `7 ≤ k` and every site shows the base of the reference in some sample -/
theorem T17_ref_complete_k7 (W k L : Nat) (A : List UInt8) (S : List (List UInt8)) (P : List Nat) (names : List String)
    (a : Arr) (hk : ValidK k) (hw : WidthOk W k) (hpl : Planted k L A S P) (ha : IsArrOf a k names S)
    (hk7 : 7 ≤ k) (hanc : ∀ p ∈ P, ∃ s ∈ S, s.getD p 0 = A.getD p 0) (hL : L < 2 ^ 32)
    (mNum mDen ik maxDepth : Nat) :
    ∃ placed, loRef W k S.length mNum mDen ik maxDepth a A = some (placed, []) ∧
      placed.Perm (truePlaced S P) :=
  T17_ref_complete W k L A S P names a hk hw hpl ha (fun p hp => ⟨hanc p hp, Or.inl hk7⟩) hL mNum mDen ik maxDepth

theorem T17_siteOK_of_B (k : Nat) (A : List UInt8) (S : List (List UInt8)) (P : List Nat)
    (h : P.all (siteOKB k A S) = true) : ∀ p ∈ P, SiteOK k A S p := by
  intro p hp
  have := List.all_eq_true.mp h p hp
  unfold siteOKB LOD.siteOKB at this
  simp only [Bool.and_eq_true, List.any_eq_true, beq_iff_eq, Bool.or_eq_true, decide_eq_true_eq, bne_iff_ne, ne_eq] at this
  obtain ⟨hanc, h2⟩ := this
  refine ⟨hanc, h2.imp_right ?_⟩
  rintro ⟨s1, hs1, s2, hs2, ⟨h12, h10⟩, h20⟩
  exact ⟨s1, hs1, s2, hs2, h12, h10, h20⟩

/-- **the executable checker `refCompleteOn` accepts** (both orientations of the reference, lower-case text) -/
theorem T17_ref_complete_check (W k L : Nat) (A : List UInt8) (S : List (List UInt8)) (P : List Nat)
    (names : List String) (a : Arr) (hk : ValidK k) (hw : WidthOk W k) (hpl : Planted k L A S P)
    (ha : IsArrOf a k names S) (hsite : P.all (siteOKB k A S) = true) (hL : L < 2 ^ 32)
    (mNum mDen ik maxDepth : Nat) :
    refCompleteOn W k S.length mNum mDen ik maxDepth a (genomeBytes A) (truePlaced S P) = true ∧
    refCompleteOn W k S.length mNum mDen ik maxDepth a (genomeBytes (lowerSeq A)) (truePlaced S P) = true ∧
    refCompleteOn W k S.length mNum mDen ik maxDepth a (rcSeq A) (truePlacedRc L S P) = true := by
  have hA : AllBase A := (pfamA_of_planted hpl).base (List.mem_cons_self ..)
  have h := T17_ref_complete W k L A S P names a hk hw hpl ha (T17_siteOK_of_B k A S P hsite) hL mNum mDen ik maxDepth
  have hrc := T17_ref_complete_rc W k L A S P names a hk hw hpl ha (T17_siteOK_of_B k A S P hsite) hL mNum mDen ik maxDepth
  rw [genomeBytes_base hA, genomeBytes_lower hA]
  exact ⟨refCompleteOn_of _ _ _ _ _ _ _ _ _ _ h, refCompleteOn_of _ _ _ _ _ _ _ _ _ _ h,
    refCompleteOn_of _ _ _ _ _ _ _ _ _ _ hrc⟩

/-- a sequence `w` of `len` letters whose windows of `k - 1` letters are windows of samples at the
coordinates `c, c + 1, …` gets one vote for `c + (k - 1)` from every window that equals the window of the
reference at the same coordinate, and no other vote; its reverse complement gets no vote at all -/
theorem T17L_votes (k L : Nat) (A : List UInt8) (S : List (List UInt8)) (P : List Nat) (hk : ValidK k)
    (hpl : Planted k L A S P) (hL : L < 2 ^ 32) (c len : Nat) (w : List UInt8) (hlen : w.length = len)
    (hb : ∀ b ∈ w, isBase b = true) (hcL : c + len ≤ L) (hkl : k - 1 ≤ len)
    (hwin : ∀ i, i + (k - 1) ≤ len → ∃ s ∈ S, win w i (k - 1) = win s (c + i) (k - 1)) :
    strandVotes 128 (k - 1) (genomicKmers 128 (k - 1) A) w =
      (List.range (len - (k - 1) + 1)).flatMap (fun i =>
        if win w i (k - 1) = win A (c + i) (k - 1) then [c + (k - 1)] else []) ∧
    strandVotes 128 (k - 1) (genomicKmers 128 (k - 1) A) (rcSeq w) = [] := by
  have pfA := pfamA_of_planted hpl
  have hal : Along (k - 1) L S c len w := ⟨hlen, hb, hcL, hkl, hwin⟩
  exact ⟨votes_along pfA (k128_of hk) (u32_of hL) hal, votes_rc pfA (k128_of hk) hal⟩

/-- a good group of the strand of the reference that contains a site is anchored at the
coordinate of the end of its first `(k-1)`-mer, forward orientation -/
theorem T17L_scan_same (k L : Nat) (A : List UInt8) (S : List (List UInt8)) (P : List Nat) (hk : ValidK k)
    (hpl : Planted k L A S P) (hsite : ∀ p ∈ P, SiteOK k A S p) (hL : L < 2 ^ 32)
    (c0 len : Nat) (vs : List Variant) (hg : GG k L S P c0 len vs) (h2 : 2 ≤ vs.length)
    (q : Nat) (hq : q ∈ P) (h1 : c0 ≤ q) (h2q : q < c0 + len) :
    scanVariants 128 (k - 1) (genomicKmers 128 (k - 1) A) vs = some (true, c0 + (k - 1), true) :=
  scan_same (pfamA_of_planted hpl) hk.1 (k128_of hk) (u32_of hL) hg h2 hq h1 h2q (Or.inr (hsite q hq))

/-- a spanning group (it extends `2k` letters beyond one of its sites) of the strand of the reference is anchored
whenever one sample shows the base of the reference at that site — for every `k`, whatever the number of alleles.
(`hs`, `hsa` are not used: every variant of a spanning group has `k + 1` windows that meet no site, whatever the
samples show at `q`; see `scan_same`.) -/
theorem T17L_scan_spanning (k L : Nat) (A : List UInt8) (S : List (List UInt8)) (P : List Nat) (hk : ValidK k)
    (hpl : Planted k L A S P) (hL : L < 2 ^ 32)
    (c0 len : Nat) (vs : List Variant) (hg : GG k L S P c0 len vs) (h2 : 2 ≤ vs.length)
    (q : Nat) (hq : q ∈ P) (h1 : c0 ≤ q) (h2q : q < c0 + len) (s : List UInt8) (hs : s ∈ S)
    (hsa : s.getD q 0 = A.getD q 0) (hext : q + 2 * k ≤ c0 + len ∨ c0 + 2 * k - 1 ≤ q) :
    scanVariants 128 (k - 1) (genomicKmers 128 (k - 1) A) vs = some (true, c0 + (k - 1), true) :=
  scan_same (pfamA_of_planted hpl) hk.1 (k128_of hk) (u32_of hL) hg h2 hq h1 h2q (Or.inl hext)

/-- a good group of the other strand (coordinates of the reverse-complemented family) is
anchored at the mirrored coordinate, reverse orientation -/
theorem T17L_scan_other (k L : Nat) (A : List UInt8) (S : List (List UInt8)) (P : List Nat) (hk : ValidK k)
    (hpl : Planted k L A S P) (hsite : ∀ p ∈ P, SiteOK k A S p) (hL : L < 2 ^ 32)
    (c0 len : Nat) (vs : List Variant) (hg : GG k L (rcFam S) (mirrorP L P) c0 len vs) (h2 : 2 ≤ vs.length)
    (q' : Nat) (hq' : q' ∈ mirrorP L P) (h1 : c0 ≤ q') (h2q : q' < c0 + len) :
    scanVariants 128 (k - 1) (genomicKmers 128 (k - 1) A) vs = some (true, L - c0 - len + (k - 1), false) := by
  have pf := pfam_of_planted hpl
  exact scan_other (pfamA_of_planted hpl) hk.1 (k128_of hk) (u32_of hL) (rcFam_closed pf)
    (fun t ht => List.mem_map.mpr ⟨t, ht, rfl⟩) hg h2 hq' h1 h2q (mirror_site pf hq').1
    (Or.inr (hsite _ (mirror_site pf hq').1))

/-- for a group of the strand of the reference, the anchor found by `scan_variants` and the
position arithmetic of `analyseRef` (`AnchF`) give every site `q` of the group the position `q` and the column of
the bases of the samples -/
theorem T17L_placed_same (k L : Nat) (A : List UInt8) (S : List (List UInt8)) (P : List Nat) (hk : ValidK k)
    (hpl : Planted k L A S P) (hsite : ∀ p ∈ P, SiteOK k A S p) (hL : L < 2 ^ 32) :
    AnchF k L S P (genomicKmers 128 (k - 1) A) (fun q => (q, S.map (fun s => s.getD q 0))) :=
  anchF_A (pfamA_of_planted hpl) hk.1 (k128_of hk) (u32_of hL) hsite

/-- for a group of the other strand (`AnchR`), the same arithmetic gives a site `q'`
(mirrored coordinate) the position `L - 1 - q'` and the column of the bases of the samples (complemented back) -/
theorem T17L_placed_other (k L : Nat) (A : List UInt8) (S : List (List UInt8)) (P : List Nat) (hk : ValidK k)
    (hpl : Planted k L A S P) (hsite : ∀ p ∈ P, SiteOK k A S p) (hL : L < 2 ^ 32) :
    AnchR k L S P (genomicKmers 128 (k - 1) A) (fun q => (q, S.map (fun s => s.getD q 0))) :=
  anchR_A (pfamA_of_planted hpl) (pfam_of_planted hpl) hk.1 (k128_of hk) (u32_of hL) hsite

/-- `create_fasta_and_vcf` on the placed columns (in any order) with the ancestor as reference:
the SNP alignment of every sample lists its bases at the sites in coordinate order; every pseudo-genome is the
sample; the VCF records are (site, base of the reference, true column) in coordinate order (the VCF text shows
`POS = site + 1`) -/
theorem T17_ref_writer (k L : Nat) (A : List UInt8) (S : List (List UInt8)) (P : List Nat)
    (hpl : Planted k L A S P) (hL0 : 0 < L) (placed : List (Nat × List UInt8)) (hp : placed.Perm (truePlaced S P)) :
    createFastaAndVcf A S.length placed =
      { snpSeqs := S.map (fun s => P.map (fun p => s.getD p 0)),
        pseudo := some S,
        vcf := P.map (fun p => (p, A.getD p 0, S.map (fun s => s.getD p 0))) } := by
  have hk5 : 5 ≤ k := (planted_spec hpl).1.1
  exact writer_planted (pfamA_of_planted hpl) (pfam_of_planted hpl) (by omega) hL0 hp

/-- caller and writer of `ska lo -r` on a planted family: `loRef` succeeds without indel records, and on what it
returns the writer produces the alignment of the sites, the samples as pseudo-genomes and the true VCF records -/
theorem T17_ref_output (W k L : Nat) (A : List UInt8) (S : List (List UInt8)) (P : List Nat) (names : List String)
    (a : Arr) (hk : ValidK k) (hw : WidthOk W k) (hpl : Planted k L A S P) (ha : IsArrOf a k names S)
    (hsite : ∀ p ∈ P, SiteOK k A S p) (hL : L < 2 ^ 32) (hL0 : 0 < L)
    (mNum mDen ik maxDepth : Nat) :
    ∃ placed, loRef W k S.length mNum mDen ik maxDepth a A = some (placed, []) ∧
      createFastaAndVcf A S.length placed =
        { snpSeqs := S.map (fun s => P.map (fun p => s.getD p 0)),
          pseudo := some S,
          vcf := P.map (fun p => (p, A.getD p 0, S.map (fun s => s.getD p 0))) } := by
  obtain ⟨placed, h1, h2⟩ := T17_ref_complete W k L A S P names a hk hw hpl ha hsite hL mNum mDen ik maxDepth
  exact ⟨placed, h1, T17_ref_writer k L A S P hpl hL0 placed h2⟩

/-- the same with the reverse complement of the ancestor as reference: the records are those of
the reverse-complemented family at the mirrored sites, the pseudo-genomes are the reverse complements of the samples -/
theorem T17_ref_output_rc (W k L : Nat) (A : List UInt8) (S : List (List UInt8)) (P : List Nat) (names : List String)
    (a : Arr) (hk : ValidK k) (hw : WidthOk W k) (hpl : Planted k L A S P) (ha : IsArrOf a k names S)
    (hsite : ∀ p ∈ P, SiteOK k A S p) (hL : L < 2 ^ 32) (hL0 : 0 < L)
    (mNum mDen ik maxDepth : Nat) :
    ∃ placed, loRef W k S.length mNum mDen ik maxDepth a (rcSeq A) = some (placed, []) ∧
      createFastaAndVcf (rcSeq A) S.length placed =
        { snpSeqs := (rcFam S).map (fun s => (mirrorP L P).map (fun p => s.getD p 0)),
          pseudo := some (rcFam S),
          vcf := (mirrorP L P).map (fun p => (p, (rcSeq A).getD p 0, (rcFam S).map (fun s => s.getD p 0))) } := by
  obtain ⟨placed, h1, h2⟩ := T17_ref_complete_rc W k L A S P names a hk hw hpl ha hsite hL mNum mDen ik maxDepth
  exact ⟨placed, h1, writer_planted_rc (pfamA_of_planted hpl) (pfam_of_planted hpl) (by have := hk.1; omega) hL0 h2⟩

/-- in the VCF record of a site `p` (REF = `A[p]`, column = the samples' bases) the
genotype index of every sample decodes, through REF / ALT, to the sample's base -/
theorem T17_ref_vcf_genotype (k L : Nat) (A : List UInt8) (S : List (List UInt8)) (P : List Nat)
    (hpl : Planted k L A S P) (p : Nat) (hp : p ∈ P) (s : List UInt8) (hs : s ∈ S) :
    let col := S.map (fun s => s.getD p 0)
    C17.decode (A.getD p 0) (C17.altBases (A.getD p 0) col) (C17.gtIndex (A.getD p 0) col (s.getD p 0)) =
      s.getD p 0 := by
  intro col
  have pf := pfam_of_planted hpl
  have hpe := pf.ends p hp
  have hb : isBase (s.getD p 0) = true := pf.getD_base hs (by omega)
  rw [C17.T17_vcf_decode _ col _ (List.mem_map.mpr ⟨s, hs, rfl⟩)]
  split
  · rename_i h
    exact (eq_of_beq h).symm
  · rcases isBase_cases hb with h | h | h | h <;> rw [h] <;> rfl

/-! ### examples: the hypotheses are satisfiable, the theorems apply -/

/-- a planted family: k = 7, one site at 14 (G / A), sample 0 is the ancestor -/
def exA : List UInt8 := bs "AACTTCACATTGCGGTAACAGGCGCTTGA"
def exS : List (List UInt8) := [bs "AACTTCACATTGCGGTAACAGGCGCTTGA", bs "AACTTCACATTGCGATAACAGGCGCTTGA"]

theorem ex_planted : Planted 7 29 exA exS [14] := by
  unfold Planted LOC.Planted LOC.plantedB
  rw [uniqueB_eq]
  decide +kernel
theorem ex_k : ValidK 7 := by unfold ValidK; decide
theorem ex_w : WidthOk 64 7 := by unfold WidthOk; decide
theorem ex_site : ∀ p ∈ [14], SiteOK 7 exA exS p := T17_siteOK_of_B _ _ _ _ (by decide +kernel)

/-- the main theorem on that family: depth 0, no missing data allowed, table order -/
example : ∃ placed, loRef 64 7 2 0 1 2 0 (arrOf 64 7 ["s0", "s1"] exS) exA = some (placed, []) ∧
    placed.Perm (truePlaced exS [14]) :=
  T17_ref_complete_table 64 7 29 exA exS [14] ["s0", "s1"] ex_k ex_w ex_planted ex_site (by decide) 0 1 2 0

/-- depth 4, threshold 1/2, 128-bit width, the rows of the table in reverse order -/
example : ∃ placed, loRef 128 7 2 1 2 0 4 (arrOfRows 128 7 ["s0", "s1"] (tableOf 7 ["s0", "s1"] exS).rows.reverse) exA =
    some (placed, []) ∧ placed.Perm (truePlaced exS [14]) :=
  T17_ref_complete 128 7 29 exA exS [14] ["s0", "s1"] _ ex_k (by unfold WidthOk; decide) ex_planted
    (isArrOf_rows 128 7 _ exS _ (List.reverse_perm _)) ex_site (by decide) 1 2 0 4

/-- the reverse complement of the ancestor as reference -/
example : ∃ placed, loRef 64 7 2 0 1 2 1 (arrOf 64 7 ["s0", "s1"] exS) (rcSeq exA) = some (placed, []) ∧
    placed.Perm (truePlacedRc 29 exS [14]) :=
  T17_ref_complete_rc 64 7 29 exA exS [14] ["s0", "s1"] _ ex_k ex_w ex_planted (isArrOf_arrOf 64 7 _ exS)
    ex_site (by decide) 0 1 2 1

example := T17_ref_output 64 7 29 exA exS [14] ["s0", "s1"] _ ex_k ex_w ex_planted (isArrOf_arrOf 64 7 _ exS)
  ex_site (by decide) (by decide) 0 1 2 0
example := T17_ref_vcf_genotype 7 29 exA exS [14] ex_planted 14 (by decide) (exS.getD 1 []) (by decide +kernel)
example := T17L_placed_same 7 29 exA exS [14] ex_k ex_planted ex_site (by decide)

example := T17_ref_complete_check 64 7 29 exA exS [14] ["s0", "s1"] _ ex_k ex_w ex_planted (isArrOf_arrOf 64 7 _ exS)
  (by decide +kernel) (by decide) 0 1 2 0
example := T17L_placed_other 7 29 exA exS [14] ex_k ex_planted ex_site (by decide)

-- the anchors on that family: the two bubbles of the site 14 (one per strand) are anchored at 14 = c0 + (k - 1) with
-- c0 = 14 - k + 1, forward, resp. at L - c0' - len + (k - 1) = 14 with c0' = (29 - 1 - 14) - k + 1, len = 2k - 1, reverse
#guard
  let (g, col) := buildGraph 64 (arrOf 64 7 ["s0", "s1"] exS)
  match identifyGoodKmers 64 6 g col with
  | none => false
  | some (st, en) =>
    ((buildVariantGroups 64 6 g st en 0).snpGroups.map (fun (kv : (Nat × Nat) × List Variant) =>
      (kv.2.map (·.1), scanVariants 128 6 (genomicKmers 128 6 exA) kv.2))) ==
    [([bs "ATTGCGGTAACAG", bs "ATTGCGATAACAG"], some (true, 14, true)),
     ([bs "CTGTTACCGCAAT", bs "CTGTTATCGCAAT"], some (true, 14, false))]

/-- k = 5 with three alleles (G / A / C, sample 0 = ancestor): the hypothesis holds, the theorem applies -/
def exA5 : List UInt8 := bs "TTGATTGCCTGACGCTTTACG"
def exS5 : List (List UInt8) := [bs "TTGATTGCCTGACGCTTTACG", bs "TTGATTGCCTAACGCTTTACG", bs "TTGATTGCCTCACGCTTTACG"]
theorem ex5_planted : Planted 5 21 exA5 exS5 [10] := by
  unfold Planted LOC.Planted LOC.plantedB
  rw [uniqueB_eq]
  decide +kernel
theorem ex5_site : ∀ p ∈ [10], SiteOK 5 exA5 exS5 p := T17_siteOK_of_B _ _ _ _ (by decide +kernel)
example : ∃ placed, loRef 64 5 3 0 1 2 0 (arrOf 64 5 ["s0", "s1", "s2"] exS5) exA5 = some (placed, []) ∧
    placed.Perm (truePlaced exS5 [10]) :=
  T17_ref_complete_table 64 5 21 exA5 exS5 [10] ["s0", "s1", "s2"] (by unfold ValidK; decide) (by unfold WidthOk; decide)
    ex5_planted ex5_site (by decide) 0 1 2 0
#guard loRef 64 5 3 0 1 2 0 (arrOf 64 5 ["s0", "s1", "s2"] exS5) (genomeBytes exA5) = some ([(10, bs "GAC")], [])

-- what the model computes on the family `exS`: position 14, column G/A; on the other strand position 29 - 1 - 14, C/T
#guard truePlaced exS [14] = [(14, bs "GA")]
#guard loRef 64 7 2 0 1 2 0 (arrOf 64 7 ["s0", "s1"] exS) (genomeBytes exA) = some ([(14, bs "GA")], [])
#guard loRef 64 7 2 0 1 2 0 (arrOf 64 7 ["s0", "s1"] exS) (genomeBytes (lowerSeq exA)) = some ([(14, bs "GA")], [])
#guard loRef 64 7 2 0 1 2 0 (arrOf 64 7 ["s0", "s1"] exS) (genomeBytes (rcSeq exA)) = some ([(14, bs "CT")], [])
#guard createFastaAndVcf exA 2 [(14, bs "GA")] =
  { snpSeqs := [bs "G", bs "A"], pseudo := some exS, vcf := [(14, 71, bs "GA")] }

/-- FINDING 3 (k = 5, one site, two alleles G / A, sample 0 = ancestor): planted, the reference-free caller reports
the column, with the reference NO SNP is reported (8 votes for the anchor, 10 are needed) -/
def famK5 : Fam := ⟨5, 21, bs "CAGGTGGCGTGAAGAGTAGTC", [bs "CAGGTGGCGTGAAGAGTAGTC", bs "CAGGTGGCGTAAAGAGTAGTC"], [10]⟩
#guard plantedB famK5.k famK5.L famK5.A famK5.S famK5.P && ancShownB famK5.A famK5.S famK5.P
#guard [0, 1, 4].all (fun d => loRef 64 5 2 0 1 2 d (famArr 64 famK5) (genomeBytes famK5.A) = some ([], []))
#guard LOC.lo 64 5 2 0 1 2 0 (famArr 64 famK5) = some ([bs "CT"], [])
#guard
  let kmap := genomicKmers 128 4 famK5.A
  [bs "GCGTGAAGA", bs "GCGTAAAGA"].flatMap (strandVotes 128 4 kmap) = [10, 10, 10, 10, 10, 10, 10, 10]

/-- FINDING 2 (k = 7, one site, alleles T / C, ancestor A): no sample carries the base of the reference; 4 votes;
no SNP is reported at any depth -/
def famNoAnc7 : Fam :=
  ⟨7, 34, bs "CATCTTAGTTAAAAATGCTAGACGGGAATTGACC", [bs "CATCTTAGTTAAAATTGCTAGACGGGAATTGACC", bs "CATCTTAGTTAAAACTGCTAGACGGGAATTGACC"], [14]⟩
#guard plantedB famNoAnc7.k famNoAnc7.L famNoAnc7.A famNoAnc7.S famNoAnc7.P && !ancShownB famNoAnc7.A famNoAnc7.S famNoAnc7.P
#guard [0, 1, 4].all (fun d => loRef 64 7 2 0 1 2 d (famArr 64 famNoAnc7) (genomeBytes famNoAnc7.A) = some ([], []))
#guard
  let kmap := genomicKmers 128 6 famNoAnc7.A
  [bs "TTAAAATTGCTAG", bs "TTAAAACTGCTAG"].flatMap (strandVotes 128 6 kmap) = [14, 14, 14, 14]

/-- the same with k = 11 and two sites (alleles G / A at both, ancestor T): nothing is reported at depths 0, 1, 4 -/
def famNoAnc11 : Fam := famsX.getD 3 default
#guard famNoAnc11.k = 11 && plantedB 11 famNoAnc11.L famNoAnc11.A famNoAnc11.S famNoAnc11.P &&
  !ancShownB famNoAnc11.A famNoAnc11.S famNoAnc11.P
#guard [0, 1, 4].all (fun d => loRef 64 11 3 0 1 2 d (famArr 64 famNoAnc11) (genomeBytes famNoAnc11.A) = some ([], []))

/-- FINDING 2, one site of two (k = 7, sites 14 and 28; at 28 the samples show A / T, the ancestor G): only the
site 14 is reported -/
def famMixed : Fam :=
  ⟨7, 43, bs "AGAAAGTTCTAGCGTCACATAACGGACGGTTCCATTACACGAC",
    [bs "AGAAAGTTCTAGCGTCACATAACGGACGATTCCATTACACGAC", bs "AGAAAGTTCTAGCGACACATAACGGACGTTTCCATTACACGAC"], [14, 28]⟩
#guard plantedB famMixed.k famMixed.L famMixed.A famMixed.S famMixed.P && !ancShownB famMixed.A famMixed.S famMixed.P
#guard [0, 1, 4].all (fun d => loRef 64 7 2 0 1 2 d (famArr 64 famMixed) (genomeBytes famMixed.A) = some ([(14, bs "TA")], []))

-- without the reference base a site can still be reported when a spanning group is processed before its bubble
-- (family 19 of `LOCFams`: k = 7, sites 14 and 32, three alleles each, none the ancestor's): nothing with `-d 0`,
-- both sites with `-d 1`
#guard (loRef 64 7 4 0 1 2 0 (famArr 64 (fams.getD 19 default)) (genomeBytes (fams.getD 19 default).A)) = some ([], [])
#guard (loRef 64 7 4 0 1 2 1 (famArr 64 (fams.getD 19 default)) (genomeBytes (fams.getD 19 default).A)) =
  some ([(32, bs "ACTA"), (14, bs "TAGT")], [])

/-- the executable claim on a family: both orientations and the lower-case text of the reference, depths 0, 1, 4 -/
def testRef (f : Fam) : List Bool :=
  [0, 1, 4].flatMap (fun d =>
    [refCompleteOn 64 f.k f.S.length 0 1 2 d (famArr 64 f) (genomeBytes f.A) (truePlaced f.S f.P),
     refCompleteOn 64 f.k f.S.length 1 2 0 d (famArr 64 f) (genomeBytes (lowerSeq f.A)) (truePlaced f.S f.P),
     refCompleteOn 64 f.k f.S.length 0 1 2 d (famArr 64 f) (genomeBytes (rcSeq f.A)) (truePlacedRc f.L f.S f.P)])

#guard famsAll.length = 45
#guard famsAll.all (fun f => plantedB f.k f.L f.A f.S f.P)
-- the families that satisfy the hypotheses of the theorem (23 of them: 20 with k ≥ 7, 3 with k = 5 and three
-- alleles at every site): the claim holds for the depths 0, 1, 4
#guard (famsAll.filter (fun f => f.P.all (siteOKB f.k f.A f.S))).length = 23
#guard (famsAll.filter (fun f => f.P.all (siteOKB f.k f.A f.S))).all (fun f => (testRef f).all id)
-- at depth 0 the hypothesis is also necessary on these families: the claim holds exactly when every site is `SiteOK`
#guard famsAll.all (fun f => f.P.all (siteOKB f.k f.A f.S) == ((testRef f).take 3).all id)
-- the special case of `T17_ref_complete_k7`
#guard (famsAll.filter (fun f => decide (7 ≤ f.k) && ancShownB f.A f.S f.P)).length = 20
-- k = 5 with the reference base at every site: holds exactly for the families with three alleles at every site
#guard ((famsAll.filter (fun f => decide (f.k = 5) && ancShownB f.A f.S f.P)).map (fun f => (testRef f).all id)) =
  [false, true, false, false, true, false, false, false, false, false, true]

def nAlleles (S : List (List UInt8)) (p : Nat) : Nat := ((S.map (fun s => s.getD p 0)).eraseDups).length

/-- `SiteOK` as a count of votes: the reference base is shown and `(k + 1) + 2 (a - 1) ≥ 10` -/
def votesB (k : Nat) (A : List UInt8) (S : List (List UInt8)) (p : Nat) : Bool :=
  S.any (fun s => s.getD p 0 == A.getD p 0) && decide (10 ≤ (k + 1) + 2 * (nAlleles S p - 1))

/-- the votes (both strands together) of every group at depth 0 -/
def bubbleVotes (f : Fam) : List (List Nat) :=
  let (g, col) := buildGraph 64 (famArr 64 f)
  match identifyGoodKmers 64 (f.k - 1) g col with
  | none => []
  | some (st, en) =>
    let gr := buildVariantGroups 64 (f.k - 1) g st en 0
    let kmap := genomicKmers 128 (f.k - 1) (genomeBytes f.A)
    gr.snpGroups.map (fun (kv : (Nat × Nat) × List Variant) =>
      kv.2.flatMap (fun (v : Variant) =>
        strandVotes 128 (f.k - 1) kmap v.1 ++ strandVotes 128 (f.k - 1) kmap (rcSeq v.1)))

/-- the number of votes the bubble of `p` is expected to get (FINDING 1) -/
def expVotes (f : Fam) (p : Nat) : Nat :=
  if f.S.any (fun s => s.getD p 0 == f.A.getD p 0) then (f.k + 1) + 2 * (nAlleles f.S p - 1) else 2 * nAlleles f.S p

-- FINDING 1 on the 45 families: two bubbles per site (one per strand); all votes of a bubble are for the site itself
-- (the anchor `c0 + (k - 1)` of the bubble of `p` is `p`), and their number is `expVotes`
#guard famsAll.all (fun f => (bubbleVotes f).length == 2 * f.P.length && (bubbleVotes f).all (fun vs =>
  match vs with
  | [] => false
  | p :: _ => vs.all (· == p) && f.P.contains p && vs.length == expVotes f p))
#guard famsAll.all (fun f => f.P.all (fun p => siteOKB f.k f.A f.S p == votesB f.k f.A f.S p))

#print axioms T17_ref_complete
#print axioms T17_ref_complete_k7
#print axioms T17_ref_complete_positions
#print axioms T17_ref_complete_rc
#print axioms T17_ref_complete_bytes
#print axioms T17_ref_complete_table
#print axioms T17_ref_complete_check
#print axioms T17L_votes
#print axioms T17L_scan_same
#print axioms T17L_scan_spanning
#print axioms T17L_scan_other
#print axioms T17L_placed_same
#print axioms T17L_placed_other
#print axioms T17_ref_writer
#print axioms T17_ref_output
#print axioms T17_ref_output_rc
#print axioms T17_ref_vcf_genotype

end SkaModel.Props.C17L
