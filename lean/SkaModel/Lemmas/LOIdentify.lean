/-
`ska lo` graph stage: `identify_good_kmers` on any graph in the form `build_graph` produces (distinct keys, no empty
successor list).  When the colour test succeeds at the first pair of successors of every branching node, the entry
nodes are exactly the nodes with two or more successors, and the exit nodes their reverse complements.  Whenever it
succeeds the entry nodes are distinct, being a sublist of the keys.
-/
import SkaModel.Lemmas.LOCFold
import SkaModel.Lemmas.LOBasic

namespace SkaModel.LOC
open SkaModel SkaModel.Skalo SkaModel.Props.C17G

theorem identifyGoodKmers_eq (W kG : Nat) (g : Graph) (col : Colours)
    (hgo : ∀ kn ∈ g, kn.2.length > 1 → identifyGoodKmers.go W col kn (pairsOf kn.2) = some true) :
    identifyGoodKmers W kG g col =
      some ((g.filter (fun kn => decide (kn.2.length > 1))).map (·.1),
        ((g.filter (fun kn => decide (kn.2.length > 1))).map (·.1)).map (fun x => revComp W x kG)) := by
  unfold identifyGoodKmers
  have hm := LO.mapM_eq_map (fun (kn : Nat × List Nat) =>
      if kn.2.length > 1 then identifyGoodKmers.go W col kn (pairsOf kn.2) else some false)
    (fun kn => decide (kn.2.length > 1)) g (by
      intro kn hkn
      by_cases h : kn.2.length > 1
      · rw [if_pos h, hgo kn hkn h]; simp [h]
      · rw [if_neg h]; simp [h])
  simp only [Option.bind_eq_bind, hm, Option.bind_some]
  have := ZipFilter.zip_filter_map g (fun kn => decide (kn.2.length > 1))
  have e : ((g.zip (g.map (fun kn => decide (kn.2.length > 1)))).filter (·.2)).map (·.1.1) =
      (g.filter (fun kn => decide (kn.2.length > 1))).map (·.1) := by
    rw [← this, List.map_map]
    rfl
  rw [e]

theorem go_first (W : Nat) (col : Colours) (kn : Nat × List Nat) (a b : Nat) (rest : List Nat)
    (hs : kn.2 = a :: b :: rest) (s1 s2 : List Nat)
    (h1 : Assoc.lookup col (combineKmers W kn.1 a) = some s1)
    (h2 : Assoc.lookup col (combineKmers W kn.1 b) = some s2) (hne : s1 ≠ s2) :
    identifyGoodKmers.go W col kn (pairsOf kn.2) = some true := by
  rw [hs]
  simp only [pairsOf, List.map_cons, List.cons_append]
  rw [identifyGoodKmers.go, h1, h2]
  simp [hne]

theorem identify_branch {g : Graph} (hknd : (g.map (·.1)).Nodup)
    (hlk : ∀ x, Assoc.lookup g x = if succs g x = [] then none else some (succs g x)) {W : Nat} (kG : Nat)
    {col : Colours}
    (hbr : ∀ x a b rest, succs g x = a :: b :: rest → ∃ s1 s2, Assoc.lookup col (combineKmers W x a) = some s1 ∧
      Assoc.lookup col (combineKmers W x b) = some s2 ∧ s1 ≠ s2) :
    ∃ starts, identifyGoodKmers W kG g col = some (starts, starts.map (fun x => revComp W x kG)) ∧
      starts.Nodup ∧ ∀ x, x ∈ starts ↔ 2 ≤ (succs g x).length := by
  have hgo : ∀ kn ∈ g, kn.2.length > 1 → identifyGoodKmers.go W col kn (pairsOf kn.2) = some true := by
    intro kn hkn hl
    obtain ⟨hs, _⟩ := mem_graph_succs hknd hlk kn hkn
    match hkn2 : kn.2, hl with
    | a :: b :: rest, _ =>
      obtain ⟨s1, s2, h1, h2, hne⟩ := hbr kn.1 a b rest (hs.symm.trans hkn2)
      rw [← hkn2]
      exact go_first W col kn a b rest hkn2 s1 s2 h1 h2 hne
  refine ⟨_, identifyGoodKmers_eq W kG g col hgo, (List.filter_sublist.map _).nodup hknd, fun x => ?_⟩
  rw [List.mem_map]
  constructor
  · rintro ⟨kn, hkn, rfl⟩
    rw [List.mem_filter, decide_eq_true_eq] at hkn
    rw [← (mem_graph_succs hknd hlk kn hkn.1).1]
    exact hkn.2
  · intro h2
    have hl := hlk x
    rw [if_neg (fun e => by rw [e] at h2; exact absurd h2 (Nat.not_succ_le_zero 1))] at hl
    refine ⟨(x, succs g x), ?_, rfl⟩
    rw [List.mem_filter, decide_eq_true_eq]
    exact ⟨Assoc.mem_of_lookup hl, h2⟩

end SkaModel.LOC

namespace SkaModel.LOP

open SkaModel SkaModel.Skalo

theorem identifyGoodKmers_nodup (W kGraph : Nat) (g : Graph) (col : Colours) (starts ends : List Nat)
    (h : identifyGoodKmers W kGraph g col = some (starts, ends)) (hg : (g.map (·.1)).Nodup) :
    starts.Nodup := by
  unfold identifyGoodKmers at h
  simp only [Option.bind_eq_bind, Option.bind_eq_some_iff, Option.some.injEq, Prod.mk.injEq] at h
  obtain ⟨flags, _, hs, _⟩ := h
  subst hs
  have h1 : (((g.zip flags).filter (·.2)).map (·.1)).Sublist ((g.zip flags).map (·.1)) :=
    (List.filter_sublist).map _
  have h2 := (h1.trans (LO.zip_fst_sublist g flags)).map (·.1)
  rw [List.map_map] at h2
  exact h2.nodup hg

end SkaModel.LOP
