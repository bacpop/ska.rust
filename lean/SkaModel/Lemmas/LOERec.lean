/-
C18 completeness — the record `process_indels` writes for a group of two sequences `E ++ I ++ X` and `E ++ X`
(`E` of `kG` letters, `X` of at most `kG` letters, `I` non-empty with a first byte above `-`) whose first k-mers are
carried by complementary non-empty sample sets: flanks `E`, `X`, alleles `I` and `-`, REF the more frequent one
(`-` on ties).
-/
import SkaModel.Lemmas.LOPipe
import SkaModel.Lemmas.LOCStr

namespace SkaModel.LOE

open SkaModel.Skalo

theorem csl_go (seqs : List (List UInt8)) (minLen : Nat) (first : List UInt8) :
    ∀ (fuel n : Nat), n + fuel ≤ minLen →
      (∀ i, n ≤ i → i < n + fuel → seqs.all (fun s => s.reverse.getD i 0 == first.getD i 0) = true) →
      commonSuffixLen.go seqs minLen first n fuel = n + fuel := by
  intro fuel
  induction fuel with
  | zero => intro n _ _; rfl
  | succ fuel ih =>
    intro n hle hall
    rw [commonSuffixLen.go]
    rw [if_pos (by
      rw [Bool.and_eq_true, decide_eq_true_eq]
      exact ⟨by omega, hall n (Nat.le_refl _) (by omega)⟩)]
    rw [ih (n + 1) (by omega) (fun i h1 h2 => hall i (by omega) (by omega))]
    omega

theorem csl_pair (A B : List UInt8) (m : Nat) (hm : min A.length B.length = m)
    (hget : ∀ i, i < m → B.reverse.getD i 0 = A.reverse.getD i 0) : commonSuffixLen [A, B] = m := by
  unfold commonSuffixLen
  simp only [List.map_cons, List.map_nil, List.foldl_cons, List.foldl_nil, List.headD_cons]
  rw [Nat.min_self, hm]
  have := csl_go [A, B] m A.reverse m 0 (Nat.le_of_eq (Nat.zero_add m)) (by
    intro i _ hi
    simp only [List.all_cons, List.all_nil, Bool.and_true, Bool.and_eq_true, beq_iff_eq, beq_self_eq_true,
      true_and]
    exact hget i (Nat.zero_add m ▸ hi))
  rw [this, Nat.zero_add]

theorem csl_two (Y X : List UInt8) :
    commonSuffixLen [Y ++ X, X] = X.length ∧ commonSuffixLen [X, Y ++ X] = X.length := by
  have hget : ∀ i, i < X.length → (Y ++ X).reverse.getD i 0 = X.reverse.getD i 0 := by
    intro i hi
    rw [List.reverse_append, List.getD_eq_getElem?_getD, List.getD_eq_getElem?_getD,
      List.getElem?_append_left (by simpa using hi)]
  exact ⟨csl_pair _ _ _ (by rw [List.length_append]; exact Nat.min_eq_right (Nat.le_add_left _ _))
      (fun i hi => (hget i hi).symm),
    csl_pair _ _ _ (by rw [List.length_append]; exact Nat.min_eq_left (Nat.le_add_left _ _)) hget⟩

theorem emb_two (kG : Nat) (E I X : List UInt8) (hE : E.length = kG) (hX : X.length ≤ kG) (hI : I ≠ []) :
    extractMiddleBases [E ++ I ++ X, E ++ X] kG = ([I, [45]], X) ∧
    extractMiddleBases [E ++ X, E ++ I ++ X] kG = ([[45], I], X) := by
  have hd1 : (E ++ I ++ X).drop kG = I ++ X := by
    rw [List.append_assoc, ← hE, List.drop_left]
  have hd2 : (E ++ X).drop kG = X := by rw [← hE, List.drop_left]
  obtain ⟨c1, c2⟩ := csl_two I X
  constructor
  · unfold extractMiddleBases
    simp only [List.map_cons, List.map_nil, hd1, hd2, c1, List.headD_cons, List.length_append]
    rw [show I.length + X.length - X.length = I.length by omega, List.drop_left, Nat.sub_self]
    simp [hI]
    exact List.take_of_length_le (by omega)
  · unfold extractMiddleBases
    simp only [List.map_cons, List.map_nil, hd1, hd2, c2, List.headD_cons, List.length_append]
    rw [show I.length + X.length - X.length = I.length by omega, Nat.sub_self]
    simp [hI]
    exact List.take_of_length_le (by omega)

theorem contains_compl {s0 s1 : List Nat} {i : Nat} (h : i ∈ s0 ↔ ¬ i ∈ s1) : s0.contains i = !s1.contains i := by
  rw [Bool.eq_iff_iff, Bool.not_eq_true', LO.contains_false_iff, List.contains_iff_mem]
  exact h

/-- `(0, true, true)`: no sample is missing, both alleles are present -/
theorem indelStats_compl (n : Nat) (s0 s1 : List Nat) (hpart : ∀ i, i < n → (i ∈ s0 ↔ ¬ i ∈ s1))
    (h0 : ∃ i, i < n ∧ i ∈ s0) (h1 : ∃ i, i < n ∧ i ∈ s1) : indelStats n s0 s1 = (0, true, true) := by
  obtain ⟨i0, hi0, hm0⟩ := h0
  obtain ⟨i1, hi1, hm1⟩ := h1
  have hc : ∀ i, i < n → s0.contains i = !s1.contains i := fun i hi => contains_compl (hpart i hi)
  have hm : (List.range n).filter (fun i => s0.contains i == s1.contains i) = [] :=
    List.filter_eq_nil_iff.mpr (fun i hi => by
      rw [hc i (List.mem_range.mp hi)]
      cases s1.contains i <;> decide)
  have a0 : (List.range n).any (fun i => s0.contains i && !s1.contains i) = true :=
    List.any_eq_true.mpr ⟨i0, List.mem_range.mpr hi0, by
      rw [← hc i0 hi0, Bool.and_self]
      exact List.contains_iff_mem.mpr hm0⟩
  have a1 : (List.range n).any (fun i => !s0.contains i && s1.contains i) = true :=
    List.any_eq_true.mpr ⟨i1, List.mem_range.mpr hi1, by
      rw [hc i1 hi1, Bool.not_not, Bool.and_self]
      exact List.contains_iff_mem.mpr hm1⟩
  rw [LO.indelStats_closed, hm, a0, a1]
  rfl

theorem indelCalls_compl (n : Nat) (i0 i1 : List UInt8) (s0 s1 : List Nat) (hn0 : s0.Nodup) (hn1 : s1.Nodup)
    (hpart : ∀ i, i < n → (i ∈ s0 ↔ ¬ i ∈ s1)) :
    indelCalls n i0 i1 s0 s1 =
      (if s1.length > s0.length then i1 else i0, if s1.length > s0.length then i0 else i1,
       (List.range n).map (fun i => if (decide (i ∈ s1)) == decide (s1.length > s0.length) then "0" else "1")) := by
  unfold indelCalls
  rw [Dedup.eraseDups_of_nodup hn0, Dedup.eraseDups_of_nodup hn1]
  by_cases hs : s1.length > s0.length
  · simp only [hs, decide_true, if_true]
    congr 2
    apply List.map_congr_left
    intro i hi
    rw [contains_compl (hpart i (List.mem_range.mp hi)), List.contains_eq_mem]
    cases decide (i ∈ s1) <;> rfl
  · simp only [hs, decide_false, if_false]
    congr 2
    apply List.map_congr_left
    intro i hi
    rw [contains_compl (hpart i (List.mem_range.mp hi)), List.contains_eq_mem]
    cases decide (i ∈ s1) <;> rfl

/-- the record of an insert `I` carried by the samples `sK`, absent from the samples `sD` -/
def indelRec (n : Nat) (E I X : List UInt8) (sK sD : List Nat) : IndelRec :=
  { ref := if sK.length > sD.length then I else [45]
    alt := if sK.length > sD.length then [45] else I
    before := E
    after := X
    calls := (List.range n).map (fun i => if (decide (i ∈ sK)) == decide (sK.length > sD.length) then "0" else "1") }

theorem recOf_indel (W kG n mNum mDen : Nat) (col : Colours) (E I X : List UInt8) (p0 p1 : List Nat)
    (hE : E.length = kG) (hX : X.length ≤ kG) (hI : ∃ b t, I = b :: t ∧ 45 < b) (sK sD : List Nat)
    (hK : Assoc.lookup col (encodeKmer W ((E ++ I ++ X).take (kG + 1))) = some sK)
    (hD : Assoc.lookup col (encodeKmer W ((E ++ X).take (kG + 1))) = some sD)
    (hnK : sK.Nodup) (hnD : sD.Nodup) (hpart : ∀ i, i < n → (i ∈ sD ↔ ¬ i ∈ sK))
    (h0 : ∃ i, i < n ∧ i ∈ sK) (h1 : ∃ i, i < n ∧ i ∈ sD) :
    LOP.recOf W kG n mNum mDen col [(E ++ I ++ X, p0), (E ++ X, p1)] = some (some (indelRec n E I X sK sD)) ∧
    LOP.recOf W kG n mNum mDen col [(E ++ X, p1), (E ++ I ++ X, p0)] = some (some (indelRec n E I X sK sD)) := by
  obtain ⟨b, t, rfl, hb⟩ := hI
  obtain ⟨e1, e2⟩ := emb_two kG E (b :: t) X hE hX (List.cons_ne_nil b t)
  have hpart' : ∀ i, i < n → (i ∈ sK ↔ ¬ i ∈ sD) := fun i hi => by rw [hpart i hi, Decidable.not_not]
  have hst1 := indelStats_compl n sK sD hpart' h0 h1
  have hst2 := indelStats_compl n sD sK hpart h1 h0
  have hr : ratioLe 0 n mNum mDen = true := by simp [ratioLe]
  have hlt1 : bytesLt [45] (b :: t) = true := by
    simp only [bytesLt, Bool.or_eq_true, decide_eq_true_eq]
    exact Or.inl hb
  have hlt2 : bytesLt (b :: t) [45] = false := by
    have hb1 : ¬ b < 45 := by
      intro h
      exact absurd (UInt8.lt_trans hb h) (by decide)
    have hb2 : (b == 45) = false := by
      rw [beq_eq_false_iff_ne]
      intro e
      rw [e] at hb
      exact absurd hb (by decide)
    simp [bytesLt, hb1, hb2]
  have hcalls := indelCalls_compl n [45] (b :: t) sD sK hnD hnK hpart
  constructor
  · rw [LOP.recOf_eq]
    simp only [List.filterMap_cons, List.filterMap_nil, hK, hD, List.getElem?_cons_zero, List.getElem?_cons_succ,
      Option.bind_some, hst1, hr, Bool.and_self, if_true, List.map_cons, List.map_nil, e1, List.getD_cons_zero,
      List.getD_cons_succ, hlt1, List.headD_cons]
    rw [hcalls]
    unfold indelRec
    simp only [Option.some.injEq]
    congr 1
    · rw [List.append_assoc, ← hE, List.take_left]
  · rw [LOP.recOf_eq]
    simp only [List.filterMap_cons, List.filterMap_nil, hK, hD, List.getElem?_cons_zero, List.getElem?_cons_succ,
      Option.bind_some, hst2, hr, Bool.and_self, if_true, List.map_cons, List.map_nil, e2, List.getD_cons_zero,
      List.getD_cons_succ, hlt2, Bool.false_eq_true, if_false, List.headD_cons]
    rw [hcalls]
    unfold indelRec
    simp only [Option.some.injEq]
    congr 1
    · rw [← hE, List.take_left]

end SkaModel.LOE
