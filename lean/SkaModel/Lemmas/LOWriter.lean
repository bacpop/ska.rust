/-
The closed form of `Skalo.createFastaAndVcf` (the writer of `ska lo`), `createFastaAndVcf_closed`: the SNP
alignment lists the variant columns in position order, the pseudo-genomes are the
sanitised reference with the variant columns substituted at their positions, and
the VCF rows are the variants in position order with the sanitised reference base.
Its entry-by-entry reading is `T17_writer` in `Props/C17.lean`.

The fold over positions is analysed through a standalone step function `step`
(definitionally the one of the model) and the invariant `fold_inv`.
-/
import SkaModel.Impl.Skalo
import SkaModel.Lemmas.LOBasic

namespace SkaModel.LOW
open SkaModel SkaModel.Skalo

def san (b : UInt8) : UInt8 := if isACGT b || b == 78 then b else 78

abbrev St := List (List UInt8) × List (List UInt8) × List (Nat × UInt8 × List UInt8) × Nat

/-- the step function of the fold of `createFastaAndVcf` -/
def step (g : List UInt8) (sorted : List (Nat × List UInt8)) (st : St) (pos : Nat) : St :=
  match sorted[st.2.2.2]? with
  | some (p, col) =>
    if p == pos then
      if !g.isEmpty then
        (st.1.zipIdx.map (fun si => si.1 ++ [col.getD si.2 45]),
         st.2.1.zipIdx.map (fun si => si.1 ++ [col.getD si.2 45]),
         st.2.2.1 ++ [(p, g.getD p 0, col)], st.2.2.2 + 1)
      else (st.1.zipIdx.map (fun si => si.1 ++ [col.getD si.2 45]), st.2.1, st.2.2.1, st.2.2.2 + 1)
    else if !g.isEmpty then (st.1, st.2.1.map (fun s => s ++ [g.getD pos 0]), st.2.2.1, st.2.2.2)
    else st
  | none =>
    if !g.isEmpty then (st.1, st.2.1.map (fun s => s ++ [g.getD pos 0]), st.2.2.1, st.2.2.2)
    else st

/-- number of positions walked -/
def finalLen (g : List UInt8) (sorted : List (Nat × List UInt8)) : Nat :=
  if !g.isEmpty then g.length else (match sorted.getLast? with | some v => v.1 + 1 | none => 0)

theorem createFastaAndVcf_eq (genome : List UInt8) (n : Nat) (variants : List (Nat × List UInt8)) :
    createFastaAndVcf genome n variants =
      let g := genome.map san
      let sorted := sortByKey (·.1) variants
      let r := (List.range (finalLen g sorted)).foldl (step g sorted)
        (List.replicate n [], List.replicate n [], [], 0)
      { snpSeqs := r.1, pseudo := if g.isEmpty then none else some r.2.1, vcf := r.2.2.1 } := by
  rfl

theorem zipIdx_map_snoc (n : Nat) (G : Nat → List UInt8) (f : Nat → UInt8) :
    (((List.range n).map G).zipIdx.map (fun si => si.1 ++ [f si.2]))
      = (List.range n).map (fun i => G i ++ [f i]) := by
  apply List.ext_getElem?
  intro j
  simp only [List.getElem?_map, List.getElem?_zipIdx, Nat.zero_add]
  by_cases h : j < n
  · simp [h]
  · simp [h]

theorem map_map_snoc (n : Nat) (G : Nat → List UInt8) (c : UInt8) :
    (((List.range n).map G).map (fun s => s ++ [c]))
      = (List.range n).map (fun i => G i ++ [c]) := by
  rw [List.map_map]; rfl

theorem replicate_nil_eq (n : Nat) (G : Nat → List UInt8) (h : ∀ i, G i = []) :
    List.replicate n ([] : List UInt8) = (List.range n).map G := by
  apply List.ext_getElem?
  intro j
  simp only [List.getElem?_map, List.getElem?_replicate]
  by_cases hj : j < n
  · simp [hj, h]
  · simp [hj]

/-- the SNP alignment of the variants `l` -/
def seqsOf (n : Nat) (l : List (Nat × List UInt8)) : List (List UInt8) :=
  (List.range n).map (fun i => l.map (fun v => v.2.getD i 45))

/-- character of sample `i` at position `p` of its pseudo-genome -/
def charAt (g : List UInt8) (sorted : List (Nat × List UInt8)) (i p : Nat) : UInt8 :=
  match sorted.find? (fun v => v.1 == p) with
  | some v => v.2.getD i 45
  | none => g.getD p 0

def pseudoOf (g : List UInt8) (sorted : List (Nat × List UInt8)) (n q : Nat) : List (List UInt8) :=
  (List.range n).map (fun i => (List.range q).map (charAt g sorted i))

def vcfOf (g : List UInt8) (l : List (Nat × List UInt8)) : List (Nat × UInt8 × List UInt8) :=
  l.map (fun v => (v.1, g.getD v.1 0, v.2))

theorem seqsOf_length (n : Nat) (l : List (Nat × List UInt8)) : (seqsOf n l).length = n := by
  simp [seqsOf]

theorem seqsOf_getElem? (n : Nat) (l : List (Nat × List UInt8)) (i : Nat) (hi : i < n) :
    (seqsOf n l)[i]? = some (l.map (fun v => v.2.getD i 45)) := by
  simp [seqsOf, List.getElem?_map, List.getElem?_range hi]

theorem pseudoOf_length (g : List UInt8) (sorted : List (Nat × List UInt8)) (n q : Nat) :
    (pseudoOf g sorted n q).length = n := by
  simp [pseudoOf]

theorem pseudoOf_getElem? (g : List UInt8) (sorted : List (Nat × List UInt8)) (n q i : Nat)
    (hi : i < n) :
    (pseudoOf g sorted n q)[i]? = some ((List.range q).map (charAt g sorted i)) := by
  simp [pseudoOf, List.getElem?_map, List.getElem?_range hi]

theorem seqsOf_nil (n : Nat) : seqsOf n [] = List.replicate n [] :=
  (replicate_nil_eq n _ (fun _ => rfl)).symm

theorem pseudoOf_zero (g : List UInt8) (sorted : List (Nat × List UInt8)) (n : Nat) :
    pseudoOf g sorted n 0 = List.replicate n [] :=
  (replicate_nil_eq n _ (fun _ => rfl)).symm

theorem seqsOf_snoc (n : Nat) (l : List (Nat × List UInt8)) (v : Nat × List UInt8) :
    seqsOf n (l ++ [v]) = (seqsOf n l).zipIdx.map (fun si => si.1 ++ [v.2.getD si.2 45]) := by
  unfold seqsOf
  rw [zipIdx_map_snoc n _ (fun i => v.2.getD i 45)]
  simp only [List.map_append, List.map_cons, List.map_nil]

theorem pseudoOf_succ (g : List UInt8) (sorted : List (Nat × List UInt8)) (n q : Nat) :
    pseudoOf g sorted n (q + 1)
      = (List.range n).map (fun i => (List.range q).map (charAt g sorted i) ++ [charAt g sorted i q]) := by
  unfold pseudoOf
  simp only [List.range_succ, List.map_append, List.map_cons, List.map_nil]

theorem pseudoOf_succ_hit (g : List UInt8) (sorted : List (Nat × List UInt8)) (n q : Nat)
    (col : List UInt8) (hc : ∀ i, charAt g sorted i q = col.getD i 45) :
    pseudoOf g sorted n (q + 1)
      = (pseudoOf g sorted n q).zipIdx.map (fun si => si.1 ++ [col.getD si.2 45]) := by
  rw [pseudoOf_succ]
  unfold pseudoOf
  rw [zipIdx_map_snoc n _ (fun i => col.getD i 45)]
  simp only [hc]

theorem pseudoOf_succ_miss (g : List UInt8) (sorted : List (Nat × List UInt8)) (n q : Nat)
    (hc : ∀ i, charAt g sorted i q = g.getD q 0) :
    pseudoOf g sorted n (q + 1)
      = (pseudoOf g sorted n q).map (fun s => s ++ [g.getD q 0]) := by
  rw [pseudoOf_succ]
  unfold pseudoOf
  rw [map_map_snoc n _ (g.getD q 0)]
  simp only [hc]

abbrev SSorted (l : List (Nat × List UInt8)) : Prop := l.Pairwise (fun a b => a.1 < b.1)

/-- a sorted list has at most one variant per position, so `charAt` reads that variant's column -/
theorem charAt_of_mem (g : List UInt8) {l : List (Nat × List UInt8)} (h : SSorted l)
    {v : Nat × List UInt8} (hv : v ∈ l) (i : Nat) : charAt g l i v.1 = v.2.getD i 45 := by
  unfold charAt
  cases hf : l.find? (fun w => w.1 == v.1) with
  | none =>
    have := List.find?_eq_none.1 hf v hv
    simp at this
  | some w =>
    have he : w.1 = v.1 := by simpa using List.find?_some hf
    rw [eq_of_nodup_map (·.1) (List.pairwise_map.2 (h.imp Nat.ne_of_lt))
      (List.mem_of_find?_eq_some hf) hv he]

theorem charAt_of_not_mem (g : List UInt8) {l : List (Nat × List UInt8)} {q : Nat}
    (h : ∀ v ∈ l, v.1 ≠ q) (i : Nat) : charAt g l i q = g.getD q 0 := by
  unfold charAt
  rw [List.find?_eq_none.2 (fun x hx => by simpa using h x hx)]

theorem lt_of_mem_drop_succ {l : List (Nat × List UInt8)} (h : SSorted l) {idx : Nat}
    (hi : idx < l.length) : ∀ v ∈ l.drop (idx + 1), l[idx].1 < v.1 := by
  have hsplit : l = l.take idx ++ l[idx] :: l.drop (idx + 1) := by
    rw [← List.drop_eq_getElem_cons hi, List.take_append_drop]
  rw [SSorted, hsplit, List.pairwise_append, List.pairwise_cons] at h
  exact h.2.1.1

theorem step_hit (g : List UInt8) (sorted : List (Nat × List UInt8))
    (a b : List (List UInt8)) (c : List (Nat × UInt8 × List UInt8)) (idx pos : Nat)
    (v : Nat × List UInt8) (hget : sorted[idx]? = some v) (hp : v.1 = pos) :
    step g sorted (a, b, c, idx) pos =
      if g.isEmpty then (a.zipIdx.map (fun si => si.1 ++ [v.2.getD si.2 45]), b, c, idx + 1)
      else (a.zipIdx.map (fun si => si.1 ++ [v.2.getD si.2 45]),
            b.zipIdx.map (fun si => si.1 ++ [v.2.getD si.2 45]),
            c ++ [(v.1, g.getD v.1 0, v.2)], idx + 1) := by
  obtain ⟨p, col⟩ := v
  simp only at hp
  unfold step
  simp only [hget, hp, beq_self_eq_true, if_true]
  cases g.isEmpty <;> rfl

theorem step_miss (g : List UInt8) (sorted : List (Nat × List UInt8))
    (a b : List (List UInt8)) (c : List (Nat × UInt8 × List UInt8)) (idx pos : Nat)
    (hget : ∀ v, sorted[idx]? = some v → v.1 ≠ pos) :
    step g sorted (a, b, c, idx) pos =
      if g.isEmpty then (a, b, c, idx)
      else (a, b.map (fun s => s ++ [g.getD pos 0]), c, idx) := by
  unfold step
  cases hs : sorted[idx]? with
  | none => simp only; cases g.isEmpty <;> rfl
  | some v =>
    obtain ⟨p, col⟩ := v
    have hne : (p == pos) = false := by simpa using hget _ hs
    simp only [hne]
    cases g.isEmpty <;> rfl

/-- state after walking the positions `< q`, having consumed `idx` variants -/
def stateAt (g : List UInt8) (sorted : List (Nat × List UInt8)) (n q idx : Nat) : St :=
  (seqsOf n (sorted.take idx),
   if g.isEmpty then List.replicate n [] else pseudoOf g sorted n q,
   if g.isEmpty then [] else vcfOf g (sorted.take idx),
   idx)

theorem step_inv (g : List UInt8) (sorted : List (Nat × List UInt8)) (n : Nat) (hs : SSorted sorted)
    (q idx : Nat) (hle : idx ≤ sorted.length)
    (h1 : ∀ v ∈ sorted.take idx, v.1 < q) (h2 : ∀ v ∈ sorted.drop idx, q ≤ v.1) :
    ∃ idx', idx' ≤ sorted.length ∧
      (∀ v ∈ sorted.take idx', v.1 < q + 1) ∧ (∀ v ∈ sorted.drop idx', q + 1 ≤ v.1) ∧
      step g sorted (stateAt g sorted n q idx) q = stateAt g sorted n (q + 1) idx' := by
  by_cases hhit : ∃ v, sorted[idx]? = some v ∧ v.1 = q
  · obtain ⟨v, hget, hvq⟩ := hhit
    obtain ⟨hi, hv⟩ := List.getElem?_eq_some_iff.1 hget
    have hmem : v ∈ sorted := hv ▸ List.getElem_mem hi
    have htake : sorted.take (idx + 1) = sorted.take idx ++ [v] := by
      rw [← hv, List.take_append_getElem hi]
    refine ⟨idx + 1, hi, ?_, ?_, ?_⟩
    · intro w hw
      rw [htake, List.mem_append] at hw
      rcases hw with hw | hw
      · exact Nat.lt_succ_of_lt (h1 w hw)
      · rw [List.mem_singleton.1 hw, hvq]; exact Nat.lt_succ_self q
    · intro w hw
      have := lt_of_mem_drop_succ hs hi w hw
      rw [hv, hvq] at this
      exact this
    · have hc : ∀ i, charAt g sorted i q = v.2.getD i 45 := fun i =>
        hvq ▸ charAt_of_mem g hs hmem i
      unfold stateAt
      rw [step_hit g sorted _ _ _ idx q v hget hvq, htake, seqsOf_snoc,
        pseudoOf_succ_hit g sorted n q v.2 hc]
      cases g.isEmpty
      · simp only [vcfOf, List.map_append, List.map_cons, List.map_nil]
        rfl
      · rfl
  · have hmiss : ∀ v, sorted[idx]? = some v → v.1 ≠ q := fun v hv hq => hhit ⟨v, hv, hq⟩
    have hdrop : ∀ v ∈ sorted.drop idx, q + 1 ≤ v.1 := by
      intro w hw
      by_cases hi : idx < sorted.length
      · rw [List.drop_eq_getElem_cons hi, List.mem_cons] at hw
        have hge : q ≤ sorted[idx].1 := h2 _ (by
          rw [List.drop_eq_getElem_cons hi]; exact List.mem_cons_self)
        have hne : sorted[idx].1 ≠ q := hmiss _ (List.getElem?_eq_getElem hi)
        rcases hw with hw | hw
        · rw [hw]; exact Nat.lt_of_le_of_ne hge (Ne.symm hne)
        · exact Nat.lt_of_le_of_lt hge (lt_of_mem_drop_succ hs hi w hw)
      · rw [List.drop_eq_nil_of_le (Nat.le_of_not_lt hi)] at hw
        cases hw
    have hnone : ∀ w ∈ sorted, w.1 ≠ q := by
      intro w hw hq
      rw [← List.take_append_drop idx sorted, List.mem_append] at hw
      rcases hw with hw | hw
      · exact Nat.lt_irrefl q (hq ▸ h1 w hw)
      · exact Nat.lt_irrefl q (hq ▸ hdrop w hw)
    refine ⟨idx, hle, fun w hw => Nat.lt_succ_of_lt (h1 w hw), hdrop, ?_⟩
    unfold stateAt
    rw [step_miss g sorted _ _ _ idx q hmiss,
      pseudoOf_succ_miss g sorted n q (charAt_of_not_mem g hnone)]
    cases g.isEmpty <;> rfl

theorem fold_inv (g : List UInt8) (sorted : List (Nat × List UInt8)) (n : Nat) (hs : SSorted sorted)
    (q : Nat) :
    ∃ idx, idx ≤ sorted.length ∧
      (∀ v ∈ sorted.take idx, v.1 < q) ∧ (∀ v ∈ sorted.drop idx, q ≤ v.1) ∧
      (List.range q).foldl (step g sorted) (List.replicate n [], List.replicate n [], [], 0)
        = stateAt g sorted n q idx := by
  induction q with
  | zero =>
    refine ⟨0, Nat.zero_le _, ?_, ?_, ?_⟩
    · intro v hv; rw [List.take_zero] at hv; cases hv
    · intro v _; exact Nat.zero_le _
    · unfold stateAt
      rw [List.take_zero, seqsOf_nil, pseudoOf_zero]
      cases g.isEmpty <;> rfl
  | succ q ih =>
    obtain ⟨idx, hle, h1, h2, hfold⟩ := ih
    obtain ⟨idx', hle', h1', h2', hstep⟩ := step_inv g sorted n hs q idx hle h1 h2
    refine ⟨idx', hle', h1', h2', ?_⟩
    rw [List.range_succ, List.foldl_append, hfold, List.foldl_cons, List.foldl_nil, hstep]

theorem fold_final (g : List UInt8) (sorted : List (Nat × List UInt8)) (n : Nat) (hs : SSorted sorted)
    (len : Nat) (hlen : ∀ v ∈ sorted, v.1 < len) :
    (List.range len).foldl (step g sorted) (List.replicate n [], List.replicate n [], [], 0)
      = (seqsOf n sorted,
         if g.isEmpty then List.replicate n [] else pseudoOf g sorted n len,
         if g.isEmpty then [] else vcfOf g sorted,
         sorted.length) := by
  obtain ⟨idx, hle, _, h2, hfold⟩ := fold_inv g sorted n hs len
  have hidx : sorted.length ≤ idx := by
    apply Nat.le_of_not_lt
    intro hi
    exact Nat.lt_irrefl len (Nat.lt_of_le_of_lt
      (h2 sorted[idx] (by rw [List.drop_eq_getElem_cons hi]; exact List.mem_cons_self))
      (hlen sorted[idx] (List.getElem_mem hi)))
  have htake : sorted.take idx = sorted := List.take_of_length_le hidx
  rw [hfold]
  unfold stateAt
  rw [htake, Nat.le_antisymm hle hidx]

theorem getD_map_san (genome : List UInt8) (q : Nat) (hq : q < genome.length) :
    (genome.map san).getD q 0 = san (genome.getD q 0) := by
  simp [List.getD_eq_getElem?_getD, List.getElem?_map, List.getElem?_eq_getElem hq]

theorem finalLen_spec (g : List UInt8) (sorted : List (Nat × List UInt8)) (hs : SSorted sorted)
    (hpos : g.isEmpty = false → ∀ v ∈ sorted, v.1 < g.length) :
    ∀ v ∈ sorted, v.1 < finalLen g sorted := by
  intro v hv
  unfold finalLen
  cases hg : g.isEmpty with
  | false => simpa using hpos hg v hv
  | true =>
    simp only [Bool.not_true, Bool.false_eq_true, if_false]
    cases hl : sorted.getLast? with
    | none => rw [List.getLast?_eq_none_iff.1 hl] at hv; cases hv
    | some z =>
      obtain ⟨ys, hys⟩ := List.getLast?_eq_some_iff.1 hl
      rw [SSorted, hys, List.pairwise_append] at hs
      rw [hys, List.mem_append] at hv
      rcases hv with hv | hv
      · exact Nat.lt_succ_of_lt (hs.2.2 v hv z (List.mem_singleton.2 rfl))
      · rw [List.mem_singleton.1 hv]; exact Nat.lt_succ_self _

theorem createFastaAndVcf_closed (genome : List UInt8) (n : Nat) (variants : List (Nat × List UInt8))
    (hnd : (variants.map (·.1)).Nodup)
    (hpos : genome ≠ [] → ∀ v ∈ variants, v.1 < genome.length) :
    createFastaAndVcf genome n variants =
      { snpSeqs := seqsOf n (sortByKey (·.1) variants),
        pseudo := if genome.isEmpty then none
          else some (pseudoOf (genome.map san) (sortByKey (·.1) variants) n genome.length),
        vcf := if genome.isEmpty then [] else vcfOf (genome.map san) (sortByKey (·.1) variants) } := by
  have hs : SSorted (sortByKey (·.1) variants) := sortByKey_strictSorted (·.1) variants hnd
  have hge : (genome.map san).isEmpty = genome.isEmpty := by cases genome <;> rfl
  have hlen := finalLen_spec (genome.map san) (sortByKey (·.1) variants) hs (by
    intro hg v hv
    rw [List.length_map]
    refine hpos ?_ v ((mem_sortByKey _ _ _).1 hv)
    intro h0; rw [h0] at hg; cases hg)
  rw [createFastaAndVcf_eq]
  simp only
  rw [fold_final (genome.map san) (sortByKey (·.1) variants) n hs _ hlen]
  simp only [hge]
  cases hg : genome.isEmpty with
  | true => rfl
  | false =>
    have : finalLen (genome.map san) (sortByKey (·.1) variants) = genome.length := by
      unfold finalLen; rw [hge, hg, List.length_map]; rfl
    rw [this]; rfl

example :
    createFastaAndVcf [65, 67, 71, 84, 88] 2 [(3, [65, 67]), (1, [71, 45])]
      = { snpSeqs := [[71, 65], [45, 67]],
          pseudo := some [[65, 71, 71, 65, 78], [65, 45, 71, 67, 78]],
          vcf := [(1, 67, [71, 45]), (3, 84, [65, 67])] } := by decide +kernel

example :
    createFastaAndVcf [] 2 [(3, [65, 67]), (1, [71, 45])]
      = { snpSeqs := [[71, 65], [45, 67]], pseudo := none, vcf := [] } := by decide +kernel

end SkaModel.LOW
