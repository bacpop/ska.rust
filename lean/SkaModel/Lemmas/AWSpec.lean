/-
Facts about the writer specification (`Spec/WriterSpec`): `Spec.MatchesOK` as an ordering plus a
bound, and `Spec.writerChar` as a base character (whose coverage test is `Cov`) followed by repeat
masking.
-/
import SkaModel.Impl.RefSka
import SkaModel.Lemmas.Coords

namespace SkaModel.AW

open SkaModel SkaModel.Spec

/-- the character `writerChar` gives before repeat masking -/
def wBase (ref : List (Array UInt8)) (h : Nat) (maskAmbig : Bool) (ms : List Match) (c p : Nat) : UInt8 :=
  match ms.find? (fun m => m.1 == c && m.2.1 == p) with
  | some m => if isAmbiguous m.2.2 && maskAmbig then 78 else m.2.2
  | none =>
    if ms.any (fun m => m.1 == c && decide (p ≤ m.2.1 + h) && decide (m.2.1 ≤ p + h))
    then (ref.getD c #[]).getD p 0 else 45

theorem writerChar_eq (ref : List (Array UInt8)) (h : Nat) (maskAmbig : Bool) (reps : List Nat)
    (ms : List Match) (c p : Nat) :
    writerChar ref h maskAmbig reps ms c p =
      if wBase ref h maskAmbig ms c p != 45 && reps.contains (contigOffset ref c + p) then 78
      else wBase ref h maskAmbig ms c p := rfl

def Cov (h : Nat) (done : List Match) (c p : Nat) : Prop :=
  ∃ m ∈ done, m.1 = c ∧ p ≤ m.2.1 + h ∧ m.2.1 ≤ p + h

theorem any_iff_cov {h : Nat} (ms : List Match) (c p : Nat) :
    ms.any (fun m => m.1 == c && decide (p ≤ m.2.1 + h) && decide (m.2.1 ≤ p + h)) = true ↔
      Cov h ms c p := by
  rw [List.any_eq_true]
  constructor
  · rintro ⟨x, hx, hpx⟩
    simp only [Bool.and_eq_true, beq_iff_eq, decide_eq_true_eq] at hpx
    exact ⟨x, hx, hpx.1.1, hpx.1.2, hpx.2⟩
  · rintro ⟨x, hx, h1, h2, h3⟩
    refine ⟨x, hx, ?_⟩
    simp only [Bool.and_eq_true, beq_iff_eq, decide_eq_true_eq]
    exact ⟨⟨h1, h2⟩, h3⟩

def Bnd (ref : List (Array UInt8)) (h : Nat) (m : Match) : Prop :=
  m.1 < ref.length ∧ h ≤ m.2.1 ∧ m.2.1 + h < csize ref m.1

def MLt (m m' : Match) : Prop := m.1 < m'.1 ∨ (m.1 = m'.1 ∧ m.2.1 < m'.2.1)

theorem MLt.trans {a b c : Match} (h1 : MLt a b) (h2 : MLt b c) : MLt a c := by
  rcases h1 with h1 | ⟨e1, h1⟩
  · exact Or.inl (h2.elim (Nat.lt_trans h1) fun h => h.1 ▸ h1)
  · rw [MLt, e1]
    exact h2.imp_right (And.imp_right (Nat.lt_trans h1))

theorem MLt.ne {x y : Match} (h : MLt x y) (h1 : x.1 = y.1) (h2 : x.2.1 = y.2.1) : False :=
  h.elim (fun h3 => Nat.ne_of_lt h3 h1) fun h3 => Nat.ne_of_lt h3.2 h2

theorem matchesOK_iff {ref : List (Array UInt8)} {h : Nat} : ∀ ms : List Match,
    MatchesOK ref h ms ↔ ms.Pairwise MLt ∧ ∀ m ∈ ms, Bnd ref h m
  | [] => ⟨fun _ => ⟨List.Pairwise.nil, fun _ hm => (nomatch hm)⟩, fun _ => trivial⟩
  | [m] => ⟨fun hok => ⟨List.pairwise_singleton _ _, fun x hx => List.mem_singleton.1 hx ▸ hok⟩,
      fun hp => hp.2 m (List.mem_singleton.2 rfl)⟩
  | m :: m' :: rest => by
    show (Bnd ref h m ∧ MLt m m' ∧ MatchesOK ref h (m' :: rest)) ↔ _
    rw [matchesOK_iff (m' :: rest), List.pairwise_cons (a := m), List.forall_mem_cons (a := m)]
    constructor
    · rintro ⟨hb, hlt, hp, hbs⟩
      refine ⟨⟨fun a ha => ?_, hp⟩, hb, hbs⟩
      rcases List.mem_cons.1 ha with rfl | ha
      · exact hlt
      · exact MLt.trans hlt (List.rel_of_pairwise_cons hp ha)
    · rintro ⟨⟨h1, hp⟩, hb, hbs⟩
      exact ⟨hb, h1 m' List.mem_cons_self, hp, hbs⟩

theorem mlt_unique : ∀ l : List Match, List.Pairwise MLt l → ∀ x y, x ∈ l → y ∈ l →
    x.1 = y.1 → x.2.1 = y.2.1 → x = y := by
  intro l
  induction l with
  | nil => intro _ x y hx; cases hx
  | cons a l ih =>
    intro hp x y hx hy h1 h2
    rw [List.pairwise_cons] at hp
    rcases List.mem_cons.1 hx with hxa | hx
    · rcases List.mem_cons.1 hy with hya | hy
      · rw [hxa, hya]
      · exact (MLt.ne (hxa ▸ hp.1 y hy) h1 h2).elim
    · rcases List.mem_cons.1 hy with hya | hy
      · exact (MLt.ne (hya ▸ hp.1 x hx) h1.symm h2.symm).elim
      · exact ih hp.2 x y hx hy h1 h2

end SkaModel.AW
