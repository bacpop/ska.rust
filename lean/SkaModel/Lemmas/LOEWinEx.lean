/-
C18 completeness — the windows that occur: every contiguous run of columns a sample keeps, and every run that
jumps over a block the sample deletes, is a window of the sample; every valid node and every pair of nodes
related by `RE` is realised by a sample.
-/
import SkaModel.Lemmas.LOENodes

namespace SkaModel.LOE

open SkaModel SkaModel.Skalo SkaModel.Spec SkaModel.LOC

theorem win_cont (N : Nat) (B : List (Nat × Nat)) (c : List Bool) {x n : Nat} (hx : x + n ≤ N)
    (hk : ∀ y, x ≤ y → y < x + n → keepB B c y = true) :
    IsWin n N B c (List.range' x n) := by
  have hinf := List.IsInfix.filter (keepB B c) (range'_infix_range hx)
  rw [filter_range'_self hk] at hinf
  obtain ⟨j, h1, h2⟩ := cwin_of_infix hinf
  rw [List.length_range'] at h1 h2
  exact ⟨j, h1, h2⟩

namespace DFam

variable {k : Nat} {F : List UInt8} {B : List (Nat × Nat)} {C : List (List Bool)}

theorem win_gap (h : DFam k F B C) (c : List Bool) {t : Nat} (ht : t < B.length) (hc : c.getD t false = false)
    {x n : Nat} (hxb : x < bS B t) (hbx : bS B t < x + n) (hn : n ≤ 3 * k) :
    IsWin n F.length B c (List.range' x (bS B t - x) ++ List.range' (bE B t) (n - (bS B t - x))) := by
  have hN := (h.eX_pos ht).2
  have hk5 := h.k5
  -- `a` columns before the block, `l` columns of the block, `r` columns behind it: of this run of columns of `F`
  -- the sample keeps all but the block
  obtain ⟨a, ha⟩ : ∃ a, bS B t = x + a := ⟨_, (Nat.add_sub_cancel' (Nat.le_of_lt hxb)).symm⟩
  obtain ⟨l, hl⟩ : ∃ l, bE B t = bS B t + l := ⟨_, (Nat.add_sub_cancel' (Nat.le_of_lt (h.bt ht).1)).symm⟩
  obtain ⟨r, hr⟩ : ∃ r, n = a + r :=
    ⟨_, (Nat.add_sub_cancel' (Nat.le_of_lt (Nat.lt_of_add_lt_add_left (ha ▸ hbx)))).symm⟩
  have hinf := List.IsInfix.filter (keepB B c) (range'_infix_range (x := x) (m := a + (l + r)) (N := F.length) (by omega))
  rw [← List.range'_append_1, ← List.range'_append_1, ← ha, ← hl, List.filter_append, List.filter_append,
    filter_range'_self (p := keepB B c) (s := x) (n := a) (fun y h1 h2 => h.keep_before c ht (by omega) (ha ▸ h2)),
    filter_range'_nil (p := keepB B c) (s := bS B t) (n := l)
      (fun y h1 h2 => by rw [h.keep_blk c ht h1 (hl ▸ h2), hc]),
    filter_range'_self (p := keepB B c) (s := bE B t) (n := r) (fun y h1 h2 => h.keep_after c ht h1 (by omega)),
    List.nil_append] at hinf
  obtain ⟨j, hj1, hj2⟩ := cwin_of_infix hinf
  rw [List.length_append, List.length_range', List.length_range', ← hr] at hj1 hj2
  refine ⟨j, hj1, hj2.trans ?_⟩
  rw [ha, Nat.add_sub_cancel_left, hr, Nat.add_sub_cancel_left]

theorem win_keep (h : DFam k F B C) (c : List Bool) {t : Nat} (ht : t < B.length) (hc : c.getD t false = true)
    {x n : Nat} (h1 : bS B t < x + 4 * k) (h2 : x + n ≤ bE B t + 4 * k) :
    IsWin n F.length B c (List.range' x n) :=
  win_cont F.length B c (Nat.le_trans h2 (h.eX_pos ht).2) (fun _ hy1 hy2 =>
    h.keep_run ht hc (Nat.lt_of_lt_of_le h1 (Nat.add_le_add_right hy1 _)) (Nat.lt_of_lt_of_le hy2 h2))

theorem exists_keep (h : DFam k F B C) {x n : Nat} (hn : n ≤ k) :
    ∃ c ∈ C, ∀ y, x ≤ y → y < x + n → keepB B c y = true := by
  by_cases hex : ∃ t, t < B.length ∧ ∃ y, x ≤ y ∧ y < x + n ∧ bS B t ≤ y ∧ y < bE B t
  · obtain ⟨t, ht, y0, hy1, hy2, hin0⟩ := hex
    obtain ⟨c, hc, hct⟩ := h.kept t ht
    exact ⟨c, hc, fun y h1 h2 => h.keep_run ht hct (by omega) (by omega)⟩
  · obtain ⟨c, hc⟩ := List.exists_mem_of_length_pos (Nat.lt_of_lt_of_le Nat.zero_lt_two h.nS)
    refine ⟨c, hc, ?_⟩
    intro y h1 h2
    rw [keepB_iff]
    intro t ht _ hin
    exact hex ⟨t, ht, y, h1, h2, hin⟩

theorem valid_window (h : DFam k F B C) {n : Nd} (hv : n.valid k F.length B (shf k F B)) :
    ∃ c ∈ C, IsWin (k - 1) F.length B c (n.cols k B) := by
  have hk5 := h.k5
  cases n with
  | c x =>
    obtain ⟨c, hc, hkeep⟩ := h.exists_keep (x := x) (n := k - 1) (by omega)
    exact ⟨c, hc, win_cont F.length B c hv hkeep⟩
  | g t x =>
    obtain ⟨ht, h1, h2⟩ := hv
    obtain ⟨c, hc, hct⟩ := h.del t ht
    exact ⟨c, hc, h.win_gap c ht hct (x := x) (n := k - 1) h2 (by omega) (by omega)⟩

theorem gap_window (h : DFam k F B C) {t : Nat} (ht : t < B.length) {x : Nat} (hxb : x < bS B t)
    (hbx : bS B t < x + k) :
    ∃ c ∈ C, ∃ j, j + k ≤ (keepCols F.length B c).length ∧
      (cwin (keepCols F.length B c) j k).take (k - 1) = Nd.cols k B (.g t x) ∧
      (cwin (keepCols F.length B c) j k).drop 1 = Nd.cols k B (.g t (x + 1)) := by
  have hk5 := h.k5
  obtain ⟨c, hc, hct⟩ := h.del t ht
  obtain ⟨j, hj1, hj2⟩ := h.win_gap c ht hct hxb hbx (by omega)
  exact ⟨c, hc, j, hj1, by rw [hj2, gap_take hxb hbx]; rfl, by rw [hj2, gap_drop hxb hbx]; rfl⟩

theorem re_window (h : DFam k F B C) {n n' : Nd} (hr : RE k F.length B (shf k F B) n n') :
    ∃ c ∈ C, ∃ j, j + k ≤ (keepCols F.length B c).length ∧
      lets F ((cwin (keepCols F.length B c) j k).take (k - 1)) = lets F (n.cols k B) ∧
      lets F ((cwin (keepCols F.length B c) j k).drop 1) = lets F (n'.cols k B) := by
  have hk5 := h.k5
  cases hr with
  | cc x hx =>
    obtain ⟨c, hc, hkeep⟩ := h.exists_keep (x := x) (n := k) (Nat.le_refl _)
    obtain ⟨j, h1, h2⟩ := win_cont F.length B c hx hkeep
    refine ⟨c, hc, j, h1, ?_, ?_⟩
    · rw [h2, List.take_range'_of_length_ge (by omega)]
      rfl
    · rw [h2, List.drop_range']
      rfl
  | cg t ht =>
    have he := h.eX_bounds ht
    obtain ⟨c, hc, j, hj, e1, e2⟩ := h.gap_window ht (x := eX k F B t) (by omega) (by omega)
    exact ⟨c, hc, j, hj, (congrArg (lets F) e1).trans (h.en_gap ht),
      congrArg (lets F) e2⟩
  | gg t x ht h1 h2 =>
    obtain ⟨c, hc, j, hj, e1, e2⟩ := h.gap_window ht (x := x) (by omega) (by omega)
    exact ⟨c, hc, j, hj, congrArg (lets F) e1, congrArg (lets F) e2⟩
  | gc t ht =>
    have hb := h.bS_pred ht
    obtain ⟨c, hc, j, hj, e1, e2⟩ := h.gap_window ht (x := bS B t - 1) (by omega) (by omega)
    rw [hb, cols_g_bS] at e2
    exact ⟨c, hc, j, hj, congrArg (lets F) e1, congrArg (lets F) e2⟩

end DFam

end SkaModel.LOE
