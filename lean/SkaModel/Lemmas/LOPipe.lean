/-
The caller of the graph stage of `ska lo` (`processIndels`, `groupSnps`, `analyse` of `SkaModel/Impl/SkaloPipe.lean`), each
restated over a named step (`siteStep`, `snpStep`, `recOf`; the `_eq` lemmas are `rfl`): the SNP columns of
`groupSnps` / `analyse` are well formed (`analyse_cols`); the order in which `analyse` visits the SNP groups does not
depend on the order of the group list, a hash map (`sortedGroups_perm`); the records of `processIndels`
(`processIndels_spec`).
-/
import SkaModel.Impl.SkaloPipe
import SkaModel.Lemmas.LOBasic
import SkaModel.Lemmas.LOIndel
import SkaModel.Props.C18Derep

namespace SkaModel.LORL

open SkaModel SkaModel.Skalo

def upd (nucl : UInt8) (c : List UInt8) (i : Nat) : List UInt8 :=
  if c.getD i 0 == 45 || c.getD i 0 == nucl then c.set i nucl else c.set i 78

/-- the body of the inner loop of `groupSnps` and `groupSnpsPos` -/
def inner (W kGraph : Nat) (col : Colours) (done : List Nat) (pos : Nat)
    (st : List UInt8 × List Nat × Bool) (v : Variant) : Option (List UInt8 × List Nat × Bool) := do
  let fbS ← getRange v.1 (pos - kGraph) (pos + 1)
  let faS ← getRange v.1 pos (pos + kGraph + 1)
  let fb := encodeKmer W fbS
  let fa := encodeKmer W faS
  let rca := revComp W fa (kGraph + 1)
  if !done.contains fb && !done.contains rca then
    let nucl := decodeBase (fb &&& 3)
    let samples ← Assoc.lookup col fb
    pure (samples.foldl (upd nucl) st.1, st.2.1 ++ [fb, revComp W fb (kGraph + 1), fa, rca], st.2.2)
  else pure (st.1, st.2.1, false)

end SkaModel.LORL

namespace SkaModel.LOP

open SkaModel SkaModel.Skalo

/-- the alphabet of an SNP column: '-', N, A, C, G, T -/
def okB (b : UInt8) : Prop := b = 45 ∨ b = 78 ∨ b = 65 ∨ b = 67 ∨ b = 71 ∨ b = 84

def ColWf (n : Nat) (c : List UInt8) : Prop := c.length = n ∧ ∀ b ∈ c, okB b

theorem okB_decodeBase (c : Nat) : okB (decodeBase c) := by
  unfold decodeBase okB
  split
  · simp
  · split
    · simp
    · split <;> simp

theorem colWf_replicate (n : Nat) : ColWf n (List.replicate n 45) := by
  refine ⟨by simp, ?_⟩
  intro b hb
  rw [List.mem_replicate] at hb
  exact Or.inl hb.2

theorem colWf_update (n : Nat) (nucl : UInt8) (hn : okB nucl) (samples : List Nat) :
    ∀ c : List UInt8, ColWf n c →
      ColWf n (samples.foldl (LORL.upd nucl) c) := by
  induction samples with
  | nil => intro c h; exact h
  | cons i rest ih =>
    intro c h
    rw [List.foldl_cons]
    apply ih
    have hset : ∀ x, okB x → ColWf n (c.set i x) := fun x hx =>
      ⟨by rw [List.length_set]; exact h.1, fun b hb =>
        (List.mem_or_eq_of_mem_set hb).elim (h.2 b) fun e => e ▸ hx⟩
    unfold LORL.upd
    split
    · exact hset nucl hn
    · exact hset 78 (Or.inr (Or.inl rfl))

def ColOk (nSamples mNum mDen : Nat) (c : List UInt8) : Prop :=
  ColWf nSamples c ∧ (checkMissingData c).1 = true ∧ ratioLe (checkMissingData c).2 nSamples mNum mDen = true

/-- the column of one candidate position of a group, the k-mers it blocks, and whether all of them are new -/
def siteCol (W kGraph nSamples : Nat) (col : Colours) (done : List Nat) (vs : List Variant) (pos : Nat) :
    Option (List UInt8 × List Nat × Bool) :=
  vs.foldlM (LORL.inner W kGraph col done pos) (List.replicate nSamples 45, [], true)

/-- one candidate position in `groupSnps` (`emit` keeps the column) and `groupSnpsPos` (position and column) -/
def siteStep {γ : Type} (emit : Nat → List UInt8 → γ) (W kGraph nSamples mNum mDen : Nat) (col : Colours)
    (done : List Nat) (vs : List Variant) (acc : List γ × List Nat) (pos : Nat) : Option (List γ × List Nat) :=
  if pos < kGraph then none
  else (siteCol W kGraph nSamples col done vs pos).bind fun st =>
    if st.2.2 then
      if (checkMissingData st.1).1 && ratioLe (checkMissingData st.1).2 nSamples mNum mDen then
        some (acc.1 ++ [emit pos st.1], acc.2 ++ st.2.1)
      else some acc
    else some acc

theorem groupSnps_eq (W kGraph nSamples mNum mDen : Nat) (col : Colours) (done : List Nat) (vs : List Variant) :
    groupSnps W kGraph nSamples mNum mDen col done vs =
      (getPotentialSnp vs).foldlM (siteStep (fun _ c => c) W kGraph nSamples mNum mDen col done vs) ([], []) := rfl

theorem siteCol_wf {W kGraph nSamples : Nat} {col : Colours} {done : List Nat} {vs : List Variant} {pos : Nat}
    {st : List UInt8 × List Nat × Bool} (h : siteCol W kGraph nSamples col done vs pos = some st) :
    ColWf nSamples st.1 := by
  refine LO.foldlM_inv _ (fun (st : List UInt8 × List Nat × Bool) => ColWf nSamples st.1) _ ?_ _ _
    (colWf_replicate nSamples) h
  intro st v st' _ hs hv
  unfold LORL.inner at hv
  simp only [Option.bind_eq_bind, Option.bind_eq_some_iff] at hv
  obtain ⟨fbS, _, faS, _, hv⟩ := hv
  split at hv
  · obtain ⟨samples, _, hv⟩ := Option.bind_eq_some_iff.mp hv
    exact Option.some.inj hv ▸ colWf_update nSamples _ (okB_decodeBase _) _ _ hs
  · exact Option.some.inj hv ▸ hs

theorem siteStep_cases {γ : Type} {emit : Nat → List UInt8 → γ} {W kGraph nSamples mNum mDen : Nat} {col : Colours}
    {done : List Nat} {vs : List Variant} {acc acc' : List γ × List Nat} {pos : Nat}
    (h : siteStep emit W kGraph nSamples mNum mDen col done vs acc pos = some acc') :
    kGraph ≤ pos ∧ ∃ st, siteCol W kGraph nSamples col done vs pos = some st ∧
      (acc' = acc ∨ st.2.2 = true ∧ ColOk nSamples mNum mDen st.1 ∧
        acc' = (acc.1 ++ [emit pos st.1], acc.2 ++ st.2.1)) := by
  unfold siteStep at h
  split at h
  · exact nomatch h
  · obtain ⟨st, hst, h⟩ := Option.bind_eq_some_iff.mp h
    refine ⟨Nat.le_of_not_lt ‹_›, st, hst, ?_⟩
    split at h
    · rename_i hnew
      split at h
      · rename_i hok
        rw [Bool.and_eq_true] at hok
        exact Or.inr ⟨hnew, ⟨siteCol_wf hst, hok.1, hok.2⟩, (Option.some.inj h).symm⟩
      · exact Or.inl (Option.some.inj h).symm
    · exact Or.inl (Option.some.inj h).symm

theorem siteFold_cols {γ : Type} (emit : Nat → List UInt8 → γ) (Q : γ → Prop) {W kGraph nSamples mNum mDen : Nat}
    {col : Colours} {done : List Nat} {vs : List Variant}
    (hQ : ∀ pos c, ColOk nSamples mNum mDen c → Q (emit pos c)) (ps : List Nat) (r : List γ × List Nat)
    (h : ps.foldlM (siteStep emit W kGraph nSamples mNum mDen col done vs) ([], []) = some r) :
    ∀ x ∈ r.1, Q x := by
  refine LO.foldlM_inv _ (fun acc => ∀ x ∈ acc.1, Q x) _ ?_ _ _ (fun _ hx => (List.not_mem_nil hx).elim) h
  intro acc pos acc' _ hacc hstep x hx
  obtain ⟨_, st, _, rfl | ⟨_, hc, rfl⟩⟩ := siteStep_cases hstep
  · exact hacc x hx
  · exact (List.mem_append.mp hx).elim (hacc x) fun hx => List.mem_singleton.mp hx ▸ hQ pos st.1 hc

theorem siteStep_map {γ γ' : Type} (g : γ → γ') (emit : Nat → List UInt8 → γ) (W kGraph nSamples mNum mDen : Nat)
    (col : Colours) (done : List Nat) (vs : List Variant) (acc : List γ × List Nat) (pos : Nat) :
    (siteStep emit W kGraph nSamples mNum mDen col done vs acc pos).map (fun r => (r.1.map g, r.2)) =
      siteStep (fun p c => g (emit p c)) W kGraph nSamples mNum mDen col done vs (acc.1.map g, acc.2) pos := by
  unfold siteStep
  split
  · rfl
  · cases siteCol W kGraph nSamples col done vs pos with
    | none => rfl
    | some st =>
      simp only [Option.bind_some]
      simp only [apply_ite (Option.map _), Option.map_some, List.map_append, List.map_cons, List.map_nil]

theorem groupSnps_cols (W kGraph nSamples mNum mDen : Nat) (col : Colours) (done : List Nat)
    (vs : List Variant) (r : List (List UInt8) × List Nat)
    (h : groupSnps W kGraph nSamples mNum mDen col done vs = some r) :
    ∀ c ∈ r.1, ColOk nSamples mNum mDen c :=
  siteFold_cols (fun _ c => c) _ (fun _ _ hc => hc) _ r h

/-- the groups in the order `analyse` and `analyseRef` visit them: paths with too many internal indels
removed, by decreasing ratio, groups of equal ratio in key order -/
def sortedGroups (W kGraph ik : Nat) (ext : List Nat) (gs : List ((Nat × Nat) × List Variant)) :
    List ((Nat × Nat) × List Variant) :=
  (((gs.map (fun kv => (kv.1, kv.2.filter (fun v => !(internalIndels W kGraph ext v.1 > ik))))).mergeSort
    (fun a b => keyLe a.1 b.1)).filter (fun kv => !kv.2.isEmpty)).foldr insertByRatio []

theorem mem_insertByRatio (x : (Nat × Nat) × List Variant) (l : List ((Nat × Nat) × List Variant))
    (y : (Nat × Nat) × List Variant) : y ∈ insertByRatio x l ↔ y = x ∨ y ∈ l := by
  induction l with
  | nil => simp [insertByRatio]
  | cons z zs ih =>
    unfold insertByRatio
    simp only []
    split
    · simp
    · rw [List.mem_cons, ih, List.mem_cons]
      exact or_left_comm

theorem mem_foldr_insertByRatio (l : List ((Nat × Nat) × List Variant)) (y : (Nat × Nat) × List Variant) :
    y ∈ l.foldr insertByRatio [] ↔ y ∈ l := by
  induction l with
  | nil => simp
  | cons x xs ih => rw [List.foldr_cons, mem_insertByRatio, ih, List.mem_cons]

theorem mem_sortedGroups {W kGraph ik : Nat} {ext : List Nat} {gs : List ((Nat × Nat) × List Variant)}
    {kv : (Nat × Nat) × List Variant} (h : kv ∈ sortedGroups W kGraph ik ext gs) :
    ∃ kv0 ∈ gs, kv = (kv0.1, kv0.2.filter (fun v => !(internalIndels W kGraph ext v.1 > ik))) := by
  unfold sortedGroups at h
  rw [mem_foldr_insertByRatio] at h
  obtain ⟨kv0, h0, e⟩ := List.mem_map.mp ((List.mergeSort_perm _ _).mem_iff.mp (List.mem_filter.mp h).1)
  exact ⟨kv0, h0, e.symm⟩

/-- what `analyse` does with one group -/
def snpStep (W kGraph n mNum mDen : Nat) (col : Colours) (ext : List Nat)
    (acc : List (List UInt8) × List Nat) (kv : (Nat × Nat) × List Variant) :
    Option (List (List UInt8) × List Nat) :=
  if !ext.contains kv.1.1 && !ext.contains (revComp W kv.1.2 kGraph) then
    if kv.2.length < 2 then some acc
    else (groupSnps W kGraph n mNum mDen col acc.2 kv.2).bind fun cs => some (acc.1 ++ cs.1, acc.2 ++ cs.2)
  else some acc

theorem analyse_eq (W kGraph n mNum mDen ik : Nat) (col : Colours) (gr : Groups) :
    analyse W kGraph n mNum mDen ik col gr =
      (processIndels W kGraph n mNum mDen col gr.indelGroups).bind fun re =>
        ((sortedGroups W kGraph ik re.2 gr.snpGroups).foldlM
          (snpStep W kGraph n mNum mDen col re.2) ([], [])).bind fun res => some (res.1, re.1) := rfl

/-- a successful run of `analyse` / `analyseRef`: the records and extremities of `processIndels`, then the fold -/
theorem run_some {α β γ δ : Type} {x : Option (α × β)} {F : α × β → Option (γ × δ)} {a : α} {c : γ}
    (h : (x.bind fun re => (F re).bind fun res => some (res.1, re.1)) = some (c, a)) :
    ∃ b res, x = some (a, b) ∧ F (a, b) = some res ∧ res.1 = c := by
  obtain ⟨⟨a', b⟩, hx, h⟩ := Option.bind_eq_some_iff.mp h
  obtain ⟨res, hres, h⟩ := Option.bind_eq_some_iff.mp h
  obtain ⟨h1, h2⟩ := Prod.mk.inj (Option.some.inj h)
  subst h2
  exact ⟨b, res, hx, hres, h1⟩

theorem snpStep_some {W kGraph n mNum mDen : Nat} {col : Colours} {ext : List Nat}
    {acc acc' : List (List UInt8) × List Nat} {kv : (Nat × Nat) × List Variant}
    (h : snpStep W kGraph n mNum mDen col ext acc kv = some acc') :
    acc'.1 = acc.1 ∨ ∃ cs, groupSnps W kGraph n mNum mDen col acc.2 kv.2 = some cs ∧ acc'.1 = acc.1 ++ cs.1 := by
  rcases LO.gate_some h with rfl | h
  · exact Or.inl rfl
  · obtain ⟨cs, hg, h⟩ := Option.bind_eq_some_iff.mp h
    exact Or.inr ⟨cs, hg, by rw [← Option.some.inj h]⟩

theorem analyse_origin (W kGraph n mNum mDen ik : Nat) (col : Colours) (gr : Groups)
    (cols : List (List UInt8)) (recs : List IndelRec)
    (h : analyse W kGraph n mNum mDen ik col gr = some (cols, recs)) :
    ∃ ext, processIndels W kGraph n mNum mDen col gr.indelGroups = some (recs, ext) ∧
      ∀ c ∈ cols, ∃ kv ∈ gr.snpGroups, ∃ done cs,
        groupSnps W kGraph n mNum mDen col done
          (kv.2.filter (fun v => !(internalIndels W kGraph ext v.1 > ik))) = some cs ∧ c ∈ cs.1 := by
  rw [analyse_eq] at h
  obtain ⟨ext, res, hpi, hres, rfl⟩ := run_some h
  refine ⟨ext, hpi, LO.foldlM_inv _ (fun acc => ∀ c ∈ acc.1, ∃ kv ∈ gr.snpGroups, ∃ done cs,
    groupSnps W kGraph n mNum mDen col done
      (kv.2.filter (fun v => !(internalIndels W kGraph ext v.1 > ik))) = some cs ∧ c ∈ cs.1)
    _ ?_ _ _ (fun _ hc => absurd hc List.not_mem_nil) hres⟩
  intro acc kv acc' hkv hacc hstep c hc
  obtain ⟨kv0, hkv0, rfl⟩ := mem_sortedGroups hkv
  rcases snpStep_some hstep with e | ⟨cs, hg, e⟩
  · exact hacc c (e ▸ hc)
  · rw [e] at hc
    exact (List.mem_append.mp hc).elim (hacc c) fun hc => ⟨kv0, hkv0, acc.2, cs, hg, hc⟩

theorem analyse_cols (W kGraph nSamples mNum mDen ik : Nat) (col : Colours) (gr : Groups)
    (cols : List (List UInt8)) (recs : List IndelRec)
    (h : analyse W kGraph nSamples mNum mDen ik col gr = some (cols, recs)) :
    ∀ c ∈ cols, ColOk nSamples mNum mDen c := by
  intro c hc
  obtain ⟨_, _, horig⟩ := analyse_origin W kGraph nSamples mNum mDen ik col gr cols recs h
  obtain ⟨_, _, done, cs, hg, hcs⟩ := horig c hc
  exact groupSnps_cols W kGraph nSamples mNum mDen col done _ cs hg c hcs

theorem mergeSort_key_perm {α : Type} (f : α → Nat × Nat) (l l' : List α) (hp : l.Perm l')
    (hnd : (l.map f).Nodup) :
    l.mergeSort (fun a b => keyLe (f a) (f b)) = l'.mergeSort (fun a b => keyLe (f a) (f b)) :=
  LO.mergeSort_eq_of_perm (fun a b => keyLe (f a) (f b)) (fun _ _ _ => LO.keyLe_trans _ _ _)
    (fun _ _ => LO.keyLe_total _ _) hp
    (fun a ha b hb hab hba => eq_of_nodup_map f hnd ha hb (LO.keyLe_antisymm _ _ hab hba))

/-- the group record handed to `dereplicate` -/
def toGroup (kv : (Nat × Nat) × List Variant) : IndelGroup :=
  { entry := kv.1.1, exit := kv.1.2, len := (kv.2.map (·.1.length)).sum }

/-- the record (or `none` for a filtered group) of one kept indel group with variants `vs` -/
def recOf (W kGraph nSamples mNum mDen : Nat) (col : Colours) (vs : List Variant) : Option (Option IndelRec) := do
  let sets := vs.filterMap (fun v => Assoc.lookup col (encodeKmer W (v.1.take (kGraph + 1))))
  let s0 ← sets[0]?
  let s1 ← sets[1]?
  let (missing, rp, ap) := indelStats nSamples s0 s1
  if ratioLe missing nSamples mNum mDen && rp && ap then
    let seqs := vs.map (·.1)
    let (ins, last) := extractMiddleBases seqs kGraph
    let first := (seqs.headD []).take kGraph
    let (i0, i1) := (ins.getD 0 [], ins.getD 1 [])
    let (r, a, calls) := if bytesLt i1 i0 then indelCalls nSamples i1 i0 s1 s0 else indelCalls nSamples i0 i1 s0 s1
    pure (some ({ ref := r, alt := a, before := first, after := last, calls := calls } : IndelRec))
  else pure none

theorem processIndels_eq (W kGraph n mNum mDen : Nat) (col : Colours)
    (ig : List ((Nat × Nat) × List Variant)) :
    processIndels W kGraph n mNum mDen col ig =
      ((((dereplicate W kGraph (ig.map toGroup)).1.mergeSort
          (fun a b => keyLe (a.entry, a.exit) (b.entry, b.exit))).mapM
          (fun kg => recOf W kGraph n mNum mDen col ((Assoc.lookup ig (kg.entry, kg.exit)).getD []))).bind
        (fun recs => some (recs.filterMap id, (dereplicate W kGraph (ig.map toGroup)).2))) := rfl

theorem processIndels_nil (W kGraph n mNum mDen : Nat) (col : Colours) :
    processIndels W kGraph n mNum mDen col [] = some ([], []) := by
  rw [processIndels_eq]
  simp [dereplicate]

theorem sortedGroups_perm (W kGraph ik : Nat) (ext : List Nat) (gs gs' : List ((Nat × Nat) × List Variant))
    (hp : gs.Perm gs') (hnd : (gs.map (·.1)).Nodup) :
    sortedGroups W kGraph ik ext gs = sortedGroups W kGraph ik ext gs' := by
  unfold sortedGroups
  rw [mergeSort_key_perm (fun (kv : (Nat × Nat) × List Variant) => kv.1) _ _ (hp.map _)
    (by rw [List.map_map]; exact hnd)]

theorem recOf_eq (W kGraph n mNum mDen : Nat) (col : Colours) (vs : List Variant) :
    recOf W kGraph n mNum mDen col vs =
      let sets := vs.filterMap (fun v => Assoc.lookup col (encodeKmer W (v.1.take (kGraph + 1))))
      (sets[0]?).bind fun s0 => (sets[1]?).bind fun s1 =>
        let st := indelStats n s0 s1
        if ratioLe st.1 n mNum mDen && st.2.1 && st.2.2 then
          let ex := extractMiddleBases (vs.map (·.1)) kGraph
          let i0 := ex.1.getD 0 []
          let i1 := ex.1.getD 1 []
          let c := if bytesLt i1 i0 then indelCalls n i1 i0 s1 s0 else indelCalls n i0 i1 s0 s1
          some (some { ref := c.1, alt := c.2.1, before := ((vs.map (·.1)).headD []).take kGraph,
                       after := ex.2, calls := c.2.2 })
        else some none := rfl

def card (s : List Nat) : Nat := s.eraseDups.length

/-- allele 0 is reported as REF: it has more samples, or as many and its insert is not the
(bytewise) larger one -/
def refFirst (i0 i1 : List UInt8) (s0 s1 : List Nat) : Bool :=
  decide (card s1 < card s0 ∨ (card s0 = card s1 ∧ bytesLt i1 i0 = false))

/-- `r` genotypes the alleles (insert `i0`, samples `s0`) and (`i1`, `s1`) over `n` samples: the record form of
`Props.C17P.Genotyped`, with the choice of REF as the Boolean `refFirst` -/
structure Genotyped (n mNum mDen : Nat) (i0 i1 : List UInt8) (s0 s1 : List Nat) (r : IndelRec) : Prop where
  ref : r.ref = if refFirst i0 i1 s0 s1 then i0 else i1
  alt : r.alt = if refFirst i0 i1 s0 s1 then i1 else i0
  len : r.calls.length = n
  calls : ∀ i, i < n → ∃ g, r.calls[i]? = some g ∧
      (g = "0" ↔ i ∈ (if refFirst i0 i1 s0 s1 then s0 else s1) ∧ i ∉ (if refFirst i0 i1 s0 s1 then s1 else s0)) ∧
      (g = "1" ↔ i ∉ (if refFirst i0 i1 s0 s1 then s0 else s1) ∧ i ∈ (if refFirst i0 i1 s0 s1 then s1 else s0)) ∧
      (g = "0/1" ↔ i ∈ s0 ∧ i ∈ s1) ∧ (g = "." ↔ i ∉ s0 ∧ i ∉ s1)
  missing : ratioLe ((List.range n).filter
      (fun i => decide ((i ∈ s0 ∧ i ∈ s1) ∨ (i ∉ s0 ∧ i ∉ s1)))).length n mNum mDen = true
  pure0 : ∃ i, i < n ∧ i ∈ s0 ∧ i ∉ s1
  pure1 : ∃ i, i < n ∧ i ∉ s0 ∧ i ∈ s1

theorem processIndels_spec (W kGraph n mNum mDen : Nat) (col : Colours)
    (ig : List ((Nat × Nat) × List Variant)) (recs : List IndelRec) (ext : List Nat)
    (h : processIndels W kGraph n mNum mDen col ig = some (recs, ext)) :
    ext = (dereplicate W kGraph (ig.map toGroup)).2 ∧
    (∀ r ∈ recs, ∃ kg ∈ (dereplicate W kGraph (ig.map toGroup)).1,
      recOf W kGraph n mNum mDen col ((Assoc.lookup ig (kg.entry, kg.exit)).getD []) = some (some r)) ∧
    (∀ kg ∈ (dereplicate W kGraph (ig.map toGroup)).1, ∃ o,
      recOf W kGraph n mNum mDen col ((Assoc.lookup ig (kg.entry, kg.exit)).getD []) = some o ∧
      ∀ r, o = some r → r ∈ recs) := by
  rw [processIndels_eq] at h
  simp only [Option.bind_eq_some_iff, Option.some.injEq, Prod.mk.injEq] at h
  obtain ⟨recs0, hm, hr, he⟩ := h
  have hm := LO.mapM_some_map _ _ _ hm
  have hperm := List.mergeSort_perm (dereplicate W kGraph (ig.map toGroup)).1
    (fun a b => keyLe (a.entry, a.exit) (b.entry, b.exit))
  refine ⟨he.symm, ?_, ?_⟩
  · intro r hr'
    rw [← hr, List.mem_filterMap] at hr'
    obtain ⟨o, ho, hid⟩ := hr'
    simp only [id] at hid
    subst hid
    obtain ⟨kg, hkg, hf⟩ := List.mem_map.mp (hm ▸ List.mem_map_of_mem ho)
    exact ⟨kg, hperm.mem_iff.mp hkg, hf⟩
  · intro kg hkg
    obtain ⟨o, ho, hf⟩ := List.mem_map.mp (hm ▸ List.mem_map_of_mem (hperm.mem_iff.mpr hkg))
    refine ⟨o, hf.symm, ?_⟩
    intro r hor
    rw [← hr, List.mem_filterMap]
    exact ⟨o, ho, by simp [hor]⟩

theorem kept_lookup (W kGraph : Nat) (ig : List ((Nat × Nat) × List Variant)) (kg : IndelGroup)
    (hkg : kg ∈ (dereplicate W kGraph (ig.map toGroup)).1) :
    ∃ vs, Assoc.lookup ig (kg.entry, kg.exit) = some vs ∧ ((kg.entry, kg.exit), vs) ∈ ig := by
  have hin := (SkaModel.Props.C18.T18_derep W kGraph (ig.map toGroup)).1 kg hkg
  obtain ⟨kv, hkv, hto⟩ := List.mem_map.mp hin
  have hk : (kg.entry, kg.exit) = kv.1 := by rw [← hto]; rfl
  obtain ⟨vs, hvs⟩ := Option.ne_none_iff_exists'.mp fun hnone =>
    (Assoc.lookup_eq_none_iff ig (kg.entry, kg.exit)).mp hnone (hk ▸ List.mem_map_of_mem hkv)
  exact ⟨vs, hvs, Assoc.mem_of_lookup hvs⟩

end SkaModel.LOP
