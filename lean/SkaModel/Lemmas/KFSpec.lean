/-
The occurrence-count specification of the count filter, without the filter: whether an observation
passes is a function of the number of earlier observations with the same label (`passSpec`). Stated
for any label type, so that hashes can later be exchanged for k-mer classes (`specRun_map_congr`).
-/
namespace SkaModel.KF

/-- does an observation pass, given the number `n` of earlier observations of the same hash?
(`65535`: the count is a saturating `u16`) -/
def passSpec (m n : Nat) : Bool :=
  if m ≤ 1 then true
  else if m = 2 then decide (1 ≤ n)
  else decide (min (n + 1) 65535 = m)

/-- the pass flags predicted from occurrence counts alone (`pre` = earlier observations) -/
def specRun {α : Type} [BEq α] (m : Nat) (pre : List α) : List α → List Bool
  | [] => []
  | h :: hs => passSpec m (pre.count h) :: specRun m (h :: pre) hs

def occ {α : Type} [BEq α] (hs : List α) (i : Nat) : Nat :=
  match hs[i]? with
  | some h => (hs.take i).count h
  | none => 0

@[simp] theorem specRun_length {α : Type} [BEq α] (m : Nat) (pre hs : List α) :
    (specRun m pre hs).length = hs.length := by
  induction hs generalizing pre with
  | nil => rfl
  | cons h hs ih => rw [specRun, List.length_cons, List.length_cons, ih]

theorem specRun_getElem? {α : Type} [BEq α] [LawfulBEq α] (m : Nat) (pre hs : List α) (i : Nat) :
    (specRun m pre hs)[i]? =
      (hs[i]?).map (fun h => passSpec m (pre.count h + (hs.take i).count h)) := by
  induction hs generalizing pre i with
  | nil => rfl
  | cons x xs ih =>
    cases i with
    | zero => simp [specRun]
    | succ i =>
      rw [specRun, List.getElem?_cons_succ, ih, List.getElem?_cons_succ, List.take_succ_cons]
      refine congrArg (fun g => Option.map g xs[i]?) (funext fun h => congrArg (passSpec m) ?_)
      rw [List.count_cons, List.count_cons, Nat.add_right_comm, Nat.add_assoc]

theorem specRun_nil_getElem? {α : Type} [BEq α] [LawfulBEq α] (m : Nat) (hs : List α) (i : Nat) :
    (specRun m [] hs)[i]? = (hs[i]?).map (fun _ => passSpec m (occ hs i)) := by
  rw [specRun_getElem?]
  unfold occ
  cases hs[i]? <;> simp

theorem sat_succ (n : Nat) : min (min n 65535 + 1) 65535 = min (n + 1) 65535 := by
  rw [← Nat.add_min_add_right, Nat.min_assoc]; rfl

theorem sat_eq_iff {m : Nat} (n : Nat) (hm : m < 65535) : min n 65535 = m ↔ n = m := by
  rw [Nat.min_def]
  split <;> omega

theorem sat_pos {n : Nat} (hn : 0 < n) : max 1 (min n 65535) = min n 65535 :=
  Nat.max_eq_right (Nat.le_min.2 ⟨hn, by decide⟩)

theorem exists_nth_occ {α : Type} [BEq α] [LawfulBEq α] (h : α) (hs : List α) (n : Nat)
    (hc : n + 1 ≤ hs.count h) : ∃ i, hs[i]? = some h ∧ (hs.take i).count h = n := by
  induction hs generalizing n with
  | nil => simp at hc
  | cons x xs ih =>
    by_cases hx : x = h
    · subst hx
      cases n with
      | zero => exact ⟨0, rfl, rfl⟩
      | succ n =>
        rw [List.count_cons_self] at hc
        obtain ⟨i, hi, hn⟩ := ih n (by omega)
        exact ⟨i + 1, hi, by rw [List.take_succ_cons, List.count_cons_self, hn]⟩
    · rw [List.count_cons_of_ne hx] at hc
      obtain ⟨i, hi, hn⟩ := ih n hc
      exact ⟨i + 1, hi, by rw [List.take_succ_cons, List.count_cons_of_ne hx, hn]⟩

theorem count_take_lt {α : Type} [BEq α] [LawfulBEq α] (h : α) (hs : List α) (i : Nat)
    (hi : hs[i]? = some h) : (hs.take i).count h + 1 ≤ hs.count h := by
  -- the first `i + 1` elements are the first `i` and `h`
  have := (List.take_sublist (i + 1) hs).count_le h
  rwa [List.take_add_one, hi, Option.toList_some, List.count_append, List.count_singleton_self]
    at this

theorem count_take_lt_take {α : Type} [BEq α] [LawfulBEq α] (h : α) (hs : List α) (i j : Nat)
    (hij : i < j) (hi : hs[i]? = some h) : (hs.take i).count h + 1 ≤ (hs.take j).count h := by
  have := count_take_lt h (hs.take j) i (by rw [List.getElem?_take_of_lt hij, hi])
  rwa [List.take_take, Nat.min_eq_left (Nat.le_of_lt hij)] at this

theorem passSpec_lower (m n : Nat) (h : passSpec m n = true) : max 1 m ≤ n + 1 := by
  refine Nat.max_le.2 ⟨Nat.le_add_left 1 n, ?_⟩
  unfold passSpec at h
  split at h
  · omega
  · split at h
    · have := of_decide_eq_true h; omega
    · exact of_decide_eq_true h ▸ Nat.min_le_left _ _

theorem passSpec_at (m : Nat) (hm : m ≤ 65535) : passSpec m (max 1 m - 1) = true := by
  unfold passSpec
  split
  · rfl
  · split
    · next h2 => subst h2; rfl
    · rw [decide_eq_true_eq, Nat.max_eq_right (by omega), Nat.sub_add_cancel (by omega),
        Nat.min_eq_left hm]

theorem passSpec_le_one (m n : Nat) (hm : m ≤ 1) : passSpec m n = true := by
  rw [passSpec, if_pos hm]

theorem passSpec_two (n : Nat) : passSpec 2 n = decide (1 ≤ n) := rfl

theorem passSpec_ge_three (m n : Nat) (h3 : 3 ≤ m) (hm : m < 65535) :
    passSpec m n = decide (n + 1 = m) := by
  rw [passSpec, if_neg (by omega), if_neg (by omega), decide_eq_decide.2 (sat_eq_iff _ hm)]

/-- `m = 65535`: the saturated count keeps comparing equal, so every occurrence from the
65535-th on passes -/
theorem passSpec_sat (n : Nat) : passSpec 65535 n = decide (65535 ≤ n + 1) := by
  rw [passSpec, if_neg (by decide), if_neg (by decide), Nat.min_def]
  split
  · exact decide_eq_decide.2 ⟨fun h => by omega, fun h => by omega⟩
  · exact decide_eq_decide.2 ⟨fun _ => by omega, fun _ => rfl⟩

theorem passSpec_above (m n : Nat) (hm : 65535 < m) : passSpec m n = false := by
  rw [passSpec, if_neg (by omega), if_neg (by omega), decide_eq_false_iff_not]
  exact Nat.ne_of_lt (Nat.lt_of_le_of_lt (Nat.min_le_right _ _) hm)

def PassesIn {α : Type} (h : α) (hs : List α) (flags : List Bool) : Prop :=
  ∃ i : Nat, hs[i]? = some h ∧ flags[i]? = some true

theorem specRun_nil_getElem?_of {α : Type} [BEq α] [LawfulBEq α] (m : Nat) {hs : List α} {i : Nat}
    {h : α} (hi : hs[i]? = some h) :
    (specRun m [] hs)[i]? = some (passSpec m ((hs.take i).count h)) := by
  rw [specRun_getElem?, hi, Option.map_some, List.count_nil, Nat.zero_add]

theorem spec_exact {α : Type} [BEq α] [LawfulBEq α] (m : Nat) (hm : m ≤ 65535) (h : α)
    (hs : List α) : PassesIn h hs (specRun m [] hs) ↔ max 1 m ≤ hs.count h := by
  constructor
  · rintro ⟨i, hi, hp⟩
    rw [specRun_nil_getElem?_of m hi, Option.some.injEq] at hp
    exact Nat.le_trans (passSpec_lower _ _ hp) (count_take_lt h hs i hi)
  · intro hc
    have h1 : 1 ≤ max 1 m := Nat.le_max_left 1 m
    obtain ⟨i, hi, hn⟩ := exists_nth_occ h hs (max 1 m - 1) (by rwa [Nat.sub_add_cancel h1])
    exact ⟨i, hi, by rw [specRun_nil_getElem?_of m hi, hn, passSpec_at m hm]⟩

theorem spec_unique {α : Type} [BEq α] [LawfulBEq α] (m : Nat) (h3 : 3 ≤ m) (hm : m < 65535)
    (h : α) (hs : List α) (i j : Nat)
    (hi : hs[i]? = some h) (hj : hs[j]? = some h)
    (pi : (specRun m [] hs)[i]? = some true) (pj : (specRun m [] hs)[j]? = some true) :
    i = j := by
  rw [specRun_nil_getElem?_of m hi, passSpec_ge_three m _ h3 hm, Option.some.injEq,
    decide_eq_true_eq] at pi
  rw [specRun_nil_getElem?_of m hj, passSpec_ge_three m _ h3 hm, Option.some.injEq,
    decide_eq_true_eq] at pj
  rcases Nat.lt_trichotomy i j with hlt | heq | hgt
  · have := count_take_lt_take h hs i j hlt hi; omega
  · exact heq
  · have := count_take_lt_take h hs j i hgt hj; omega

def kept {α : Type} : List α → List Bool → List α
  | o :: os, b :: bs => if b then o :: kept os bs else kept os bs
  | _, _ => []

theorem mem_kept {α : Type} (os : List α) (flags : List Bool) (o : α) :
    o ∈ kept os flags ↔ ∃ i : Nat, os[i]? = some o ∧ flags[i]? = some true := by
  induction os generalizing flags with
  | nil => simp [kept]
  | cons x xs ih =>
    cases flags with
    | nil => simp [kept]
    | cons b bs =>
      -- an index into `x :: xs` is `0` or a successor
      rw [← Nat.or_exists_add_one]
      simp only [List.getElem?_cons_zero, List.getElem?_cons_succ, Option.some.injEq]
      rw [← ih bs, kept]
      cases b
      · simp
      · simp [eq_comm]

theorem count_map_congr {α β γ : Type} [BEq β] [LawfulBEq β] [BEq γ] [LawfulBEq γ]
    (f : α → β) (g : α → γ) (a : α) (l : List α)
    (h : ∀ b ∈ l, f b = f a ↔ g b = g a) :
    (l.map f).count (f a) = (l.map g).count (g a) := by
  rw [List.count_eq_countP, List.count_eq_countP, List.countP_map, List.countP_map]
  refine List.countP_congr fun b hb => ?_
  simp only [Function.comp, beq_iff_eq]
  exact h b hb

theorem specRun_map_congr {α β γ : Type} [BEq β] [LawfulBEq β] [BEq γ] [LawfulBEq γ]
    (m : Nat) (f : α → β) (g : α → γ) (os pre : List α)
    (h : ∀ a ∈ pre ++ os, ∀ b ∈ pre ++ os, f a = f b ↔ g a = g b) :
    specRun m (pre.map f) (os.map f) = specRun m (pre.map g) (os.map g) := by
  induction os generalizing pre with
  | nil => rfl
  | cons o os ih =>
    simp only [List.map_cons, specRun]
    have hc : (pre.map f).count (f o) = (pre.map g).count (g o) :=
      count_map_congr f g o pre (fun b hb => h b (by simp [hb]) o (by simp))
    rw [hc]
    have hmem : ∀ a, a ∈ o :: pre ++ os → a ∈ pre ++ o :: os := fun a => by
      simp only [List.cons_append, List.mem_cons, List.mem_append, or_left_comm, imp_self]
    have := ih (o :: pre) (fun a ha b hb => h a (hmem a ha) b (hmem b hb))
    simp only [List.map_cons] at this
    rw [this]

end SkaModel.KF
