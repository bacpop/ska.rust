/-
C17 completeness — the invariant of the folds of `analyse` and `analyseRef` over good groups of both strands, in
any order: the entries found so far are those of a set of distinct sites, the blocked k-mers exactly those of
these sites.  `Side` relates a strand to the samples, so that one group of either strand is one lemma (`CInv.group`;
`side_cases` passes from the two strands to a `Side`).
-/
import SkaModel.Lemmas.LOCBlock

namespace SkaModel.LOC

open SkaModel SkaModel.Spec SkaModel.Props.C16 SkaModel.Skalo SkaModel.Props.C17G SkaModel.LOG

variable {k L : Nat} {S : List (List UInt8)} {P : List Nat} {γ : Type}

/-- the column reported for a called site: complemented when called on the other strand -/
def colf (S : List (List UInt8)) (x : Nat × Bool) : List UInt8 :=
  if x.2 then complCol (colT S x.1) else colT S x.1

/-- the invariant: `Called` lists the sites called so far with their strand, `out` is what is reported for a
called site -/
structure CInv (k : Nat) (S : List (List UInt8)) (P : List Nat) (out : Nat × Bool → γ)
    (Called : List (Nat × Bool)) (acc : List γ × List Nat) : Prop where
  nd : (Called.map (·.1)).Nodup
  sub : ∀ x ∈ Called, x.1 ∈ P
  blk : ∀ x ∈ acc.2, ∃ q ∈ Called.map (·.1), Blk k S q x
  has : ∀ q ∈ Called.map (·.1), ∀ s ∈ S, kmerAt k s (q - k + 1) ∈ acc.2 ∧ rcKmerAt k s q ∈ acc.2
  cols : acc.1 = Called.map out

theorem cinv_nil (k : Nat) (S : List (List UInt8)) (P : List Nat) (out : Nat × Bool → γ) :
    CInv k S P out [] ([], []) :=
  ⟨List.nodup_nil, nofun, nofun, nofun, rfl⟩

theorem CInv.called_of_blocked (pf : PFam k L S P) (hk5 : 5 ≤ k) {out : Nat × Bool → γ}
    {Called : List (Nat × Bool)} {acc : List γ × List Nat} (hI : CInv k S P out Called acc) {q : Nat}
    (hq : q ∈ P) {x : Nat} (hx : Blk k S q x) (hm : x ∈ acc.2) : q ∈ Called.map (·.1) := by
  obtain ⟨q2, hq2, hb⟩ := hI.blk x hm
  obtain ⟨y, hy, rfl⟩ := List.mem_map.mp hq2
  exact blk_site pf hk5 hq (hI.sub y hy) hx hb ▸ hq2

theorem CInv.append {out : Nat × Bool → γ} {Called : List (Nat × Bool)} {acc : List γ × List Nat}
    (hI : CInv k S P out Called acc) {N : List (Nat × Bool)} {save : List Nat} (hnd : (N.map (·.1)).Nodup)
    (hdis : ∀ q ∈ N.map (·.1), q ∉ Called.map (·.1)) (hsub : ∀ x ∈ N, x.1 ∈ P)
    (hblk : ∀ x ∈ save, ∃ q ∈ N.map (·.1), Blk k S q x)
    (hhas : ∀ q ∈ N.map (·.1), ∀ s ∈ S, kmerAt k s (q - k + 1) ∈ save ∧ rcKmerAt k s q ∈ save) :
    CInv k S P out (Called ++ N) (acc.1 ++ N.map out, acc.2 ++ save) := by
  refine ⟨?_, ?_, ?_, ?_, ?_⟩
  · rw [List.map_append, List.nodup_append]
    exact ⟨hI.nd, hnd, fun a ha b hb e => hdis b hb (e ▸ ha)⟩
  · intro x hx
    exact (List.mem_append.mp hx).elim (hI.sub x) (hsub x)
  · intro x hx
    rw [List.map_append]
    rcases List.mem_append.mp hx with h | h
    · obtain ⟨q, hq, hb⟩ := hI.blk x h
      exact ⟨q, List.mem_append_left _ hq, hb⟩
    · obtain ⟨q, hq, hb⟩ := hblk x h
      exact ⟨q, List.mem_append_right _ hq, hb⟩
  · intro q hq s hs
    rw [List.map_append, List.mem_append] at hq
    rcases hq with h | h
    · exact ⟨List.mem_append_left _ (hI.has q h s hs).1, List.mem_append_left _ (hI.has q h s hs).2⟩
    · exact ⟨List.mem_append_right _ (hhas q h s hs).1, List.mem_append_right _ (hhas q h s hs).2⟩
  · show acc.1 ++ N.map out = (Called ++ N).map out
    rw [List.map_append, hI.cols]

/-- a strand of the samples as the fold sees it: the family `T` with its sites `PT` in the coordinates of that
strand; the site `q'` of `PT` stands for the site `σ q'` of `P`, called with the flag `b`; the k-mers that block
the one are those that block the other -/
structure Side (k L : Nat) (S : List (List UInt8)) (P : List Nat) (T : List (List UInt8)) (PT : List Nat)
    (σ : Nat → Nat) (b : Bool) : Prop where
  pf : PFam k L T PT
  len : T.length = S.length
  site : ∀ q' ∈ PT, σ q' ∈ P
  inj : ∀ a ∈ PT, ∀ b ∈ PT, σ a = σ b → a = b
  blk : ∀ q' ∈ PT, ∀ x, Blk k T q' x ↔ Blk k S (σ q') x
  has : ∀ q' ∈ PT, ∀ X : List Nat, (∀ t ∈ T, kmerAt k t (q' - k + 1) ∈ X ∧ rcKmerAt k t q' ∈ X) ↔
    (∀ s ∈ S, kmerAt k s (σ q' - k + 1) ∈ X ∧ rcKmerAt k s (σ q') ∈ X)
  col : ∀ q' ∈ PT, colT T q' = colf S (σ q', b)

theorem side_fwd (pf : PFam k L S P) : Side k L S P S P id false :=
  ⟨pf, rfl, fun _ h => h, fun _ _ _ _ e => e, fun _ _ _ => Iff.rfl, fun _ _ _ => Iff.rfl, fun _ _ => rfl⟩

/-- the other strand: the two blocking k-mers of a site change roles -/
theorem side_rev (pf : PFam k L S P) : Side k L S P (rcFam S) (mirrorP L P) (fun q' => L - 1 - q') true := by
  refine ⟨pf.mirror, List.length_map _, fun q' hq' => (mirror_site pf hq').1, ?_, ?_, ?_, ?_⟩
  · intro a ha b hb e
    have ha' := (mirror_site pf ha).2
    have hb' := (mirror_site pf hb).2
    omega
  · intro q' hq' x
    exact blk_mirror pf (mirror_site pf hq').1 hq' (mirror_site pf hq').2 x
  · intro q' hq' X
    obtain ⟨hp, hpp⟩ := mirror_site pf hq'
    constructor
    · intro h s hs
      obtain ⟨⟨e1, _⟩, _, e4⟩ := mirror_kmers pf hp hq' hpp hs
      have := h (rcSeq s) (List.mem_map.mpr ⟨s, hs, rfl⟩)
      rw [e1, e4] at this
      exact ⟨this.2, this.1⟩
    · intro h t ht
      obtain ⟨s, hs, rfl⟩ := List.mem_map.mp ht
      obtain ⟨⟨e1, _⟩, _, e4⟩ := mirror_kmers pf hp hq' hpp hs
      rw [e1, e4]
      exact ⟨(h s hs).2, (h s hs).1⟩
  · intro q' hq'
    exact colT_mirror pf (mirror_site pf hq').2

/-- a group of either strand is a group of a `Side`; `A` is whatever else is known of both strands -/
theorem side_cases (pf : PFam k L S P) {vs : List Variant}
    (hcase : (∃ c0 len, GG k L S P c0 len vs) ∨ (∃ c0 len, GG k L (rcFam S) (mirrorP L P) c0 len vs))
    {A : List (List UInt8) → List Nat → (Nat → Nat) → Prop} (hF : A S P id)
    (hR : A (rcFam S) (mirrorP L P) fun q' => L - 1 - q') :
    ∃ T PT σ b c0 len, Side k L S P T PT σ b ∧ A T PT σ ∧ GG k L T PT c0 len vs := by
  rcases hcase with ⟨c0, len, hg⟩ | ⟨c0, len, hg⟩
  · exact ⟨_, _, _, _, _, _, side_fwd pf, hF, hg⟩
  · exact ⟨_, _, _, _, _, _, side_rev pf, hR, hg⟩

theorem CInv.group (pf : PFam k L S P) (hk5 : 5 ≤ k) {W : Nat} (hW : 2 * k ≤ W) (hw : W = 64 ∨ W = 128)
    {T : List (List UInt8)} {PT : List Nat} {σ : Nat → Nat} {b : Bool} (sd : Side k L S P T PT σ b)
    {col : Colours} (hc : ColOK k L col T) (mNum mDen : Nat) {out : Nat × Bool → γ}
    {Called : List (Nat × Bool)} {acc : List γ × List Nat} (hI : CInv k S P out Called acc)
    {c0 len : Nat} {vs : List Variant} (hg : GG k L T PT c0 len vs) (hne : vs ≠ []) {γ' : Type}
    (emit : Nat → List UInt8 → γ') :
    ∃ (Qn : List Nat) (save : List Nat),
      (getPotentialSnp vs).foldlM (LOP.siteStep emit W (k - 1) S.length mNum mDen col acc.2 vs) ([], []) =
        some (Qn.map (fun q => emit (q - c0) (colT T q)), save) ∧
      CInv k S P out (Called ++ Qn.map (fun q => (σ q, b)))
        (acc.1 ++ (Qn.map (fun q => (σ q, b))).map out, acc.2 ++ save) ∧
      (∀ q ∈ Qn, q ∈ PT ∧ c0 ≤ q ∧ q < c0 + len ∧ σ q ∉ Called.map (·.1)) ∧
      (Qn.map σ).Nodup ∧
      ∀ q ∈ PT, c0 ≤ q → q < c0 + len → σ q ∈ (Called ++ Qn.map (fun q => (σ q, b))).map (·.1) := by
  obtain ⟨t0, ht0⟩ := List.exists_mem_of_ne_nil T sd.pf.ne
  -- a site of the group whose image is called is blocked, one whose image is not called is untouched
  have hold : ∀ q' ∈ PT, σ q' ∈ Called.map (·.1) → ∀ t ∈ T, kmerAt k t (q' - k + 1) ∈ acc.2 :=
    fun q' hq' hcm t ht => ((sd.has q' hq' acc.2).mpr (hI.has _ hcm) t ht).1
  have hnew : ∀ q' ∈ PT, σ q' ∉ Called.map (·.1) → ∀ x, Blk k T q' x → x ∉ acc.2 :=
    fun q' hq' hcm x hx hm => hcm (hI.called_of_blocked pf hk5 (sd.site q' hq') ((sd.blk q' hq' x).mp hx) hm)
  have hdich : ∀ q' ∈ PT, c0 ≤ q' → q' < c0 + len →
      (∀ t ∈ T, kmerAt k t (q' - k + 1) ∈ acc.2) ∨
      (∀ t ∈ T, kmerAt k t (q' - k + 1) ∉ acc.2 ∧ rcKmerAt k t q' ∉ acc.2) := by
    intro q' hq' _ _
    by_cases hcm : σ q' ∈ Called.map (·.1)
    · exact Or.inl (hold q' hq' hcm)
    · exact Or.inr fun t ht => ⟨hnew q' hq' hcm _ ⟨t, ht, Or.inl rfl⟩,
        hnew q' hq' hcm _ ⟨t, ht, Or.inr (Or.inr (Or.inr rfl))⟩⟩
  obtain ⟨Qn, save, hrun, hQ1, hQ2, hQ3, hQ4⟩ :=
    siteFold_good emit sd.pf hk5 hW hw hc acc.2 mNum mDen hg hne hdich
  rw [sd.len] at hrun
  have hQP : ∀ q' ∈ Qn, q' ∈ PT ∧ c0 ≤ q' ∧ q' < c0 + len ∧ σ q' ∉ Called.map (·.1) := fun q' hq' =>
    have h := (hQ2 q').mp hq'
    ⟨h.1, h.2.1, h.2.2.1, fun hcm => h.2.2.2 t0 ht0 (hold q' h.1 hcm t0 ht0)⟩
  have hσ : (Qn.map σ).Nodup := List.pairwise_map.mpr
    (hQ1.imp_of_mem fun ha hb hab e => hab (sd.inj _ (hQP _ ha).1 _ (hQP _ hb).1 e))
  have hfst : (Qn.map (fun q => (σ q, b))).map (·.1) = Qn.map σ := List.map_map
  refine ⟨Qn, save, hrun, ?_, hQP, hσ, fun q' hq' h1 h2 => ?_⟩
  · refine hI.append (hfst ▸ hσ) ?_ ?_ ?_ ?_
    · rw [hfst]
      intro q hq
      obtain ⟨q', hq', rfl⟩ := List.mem_map.mp hq
      exact (hQP q' hq').2.2.2
    · intro x hx
      obtain ⟨q', hq', rfl⟩ := List.mem_map.mp hx
      exact sd.site q' (hQP q' hq').1
    · rw [hfst]
      intro x hx
      obtain ⟨q', hq', hb⟩ := hQ3 x hx
      exact ⟨σ q', List.mem_map_of_mem hq', (sd.blk q' (hQP q' hq').1 x).mp hb⟩
    · rw [hfst]
      intro q hq
      obtain ⟨q', hq', rfl⟩ := List.mem_map.mp hq
      exact (sd.has q' (hQP q' hq').1 save).mp (hQ4 q' hq')
  · rw [List.map_append, hfst, List.mem_append]
    by_cases hcm : σ q' ∈ Called.map (·.1)
    · exact Or.inl hcm
    · exact Or.inr (List.mem_map_of_mem
        ((hQ2 q').mpr ⟨hq', h1, h2, fun t ht => hnew q' hq' hcm _ ⟨t, ht, Or.inl rfl⟩⟩))

/-- processed as a group of the samples' strand from the same state, the candidate loop saves the same k-mers, among
them blocking k-mers of the sites of that group, and only called sites are blocked -/
theorem CInv.covered (pf : PFam k L S P) (hk5 : 5 ≤ k) {W : Nat} (hW : 2 * k ≤ W) (hw : W = 64 ∨ W = 128)
    {col : Colours} (hc : ColOK k L col S) (mNum mDen : Nat) {out : Nat × Bool → γ}
    {Called : List (Nat × Bool)} {acc : List γ × List Nat} (hI : CInv k S P out Called acc)
    {vs : List Variant} (hne : vs ≠ []) {γ' : Type} {emit : Nat → List UInt8 → γ'} {r : List γ'} {save : List Nat}
    (hrun : (getPotentialSnp vs).foldlM (LOP.siteStep emit W (k - 1) S.length mNum mDen col acc.2 vs) ([], []) =
      some (r, save))
    {Called1 : List (Nat × Bool)} {a1 : List γ} (hI1 : CInv k S P out Called1 (a1, acc.2 ++ save))
    {c0 len : Nat} (hg : GG k L S P c0 len vs) {q : Nat} (hq : q ∈ P) (h1 : c0 ≤ q) (h2 : q < c0 + len) :
    q ∈ Called1.map (·.1) := by
  obtain ⟨s0, hs0⟩ := List.exists_mem_of_ne_nil S pf.ne
  obtain ⟨Qn, save', hrun', hI2, _, _, hcov⟩ := hI.group pf hk5 hW hw (side_fwd pf) hc mNum mDen hg hne emit
  obtain rfl : save = save' := congrArg Prod.snd (Option.some.inj (hrun.symm.trans hrun'))
  exact hI1.called_of_blocked pf hk5 hq ⟨s0, hs0, Or.inl rfl⟩ (hI2.has q (hcov q hq h1 h2) s0 hs0).1

def Covered (k L : Nat) (S : List (List UInt8)) (P : List Nat) (vs : List Variant) (Called : List (Nat × Bool)) :
    Prop :=
  ∀ c0 len, GG k L S P c0 len vs → ∀ q ∈ P, c0 ≤ q → q < c0 + len → q ∈ Called.map (·.1)

theorem Covered.mono {vs : List Variant} {C C' : List (Nat × Bool)} (hsub : ∀ x ∈ C, x ∈ C')
    (h : Covered k L S P vs C) : Covered k L S P vs C' := fun c0 len hg q hq h1 h2 => by
  obtain ⟨y, hy, e⟩ := List.mem_map.mp (h c0 len hg q hq h1 h2)
  exact List.mem_map.mpr ⟨y, hsub y hy, e⟩

def flipOf (Called : List (Nat × Bool)) (p : Nat) : Bool := (Assoc.lookup Called p).getD false

theorem called_eq {Called : List (Nat × Bool)} (hnd : (Called.map (·.1)).Nodup) :
    Called = (Called.map (·.1)).map (fun p => (p, flipOf Called p)) := by
  rw [List.map_map]
  refine ((List.map_congr_left (g := id) fun x hx => ?_).trans (List.map_id _)).symm
  show (x.1, flipOf Called x.1) = x
  rw [flipOf, Assoc.lookup_of_mem_nodup (d := Called) (key := x.1) (v := x.2) hnd hx]
  rfl

theorem called_perm {Called : List (Nat × Bool)} (hnd : (Called.map (·.1)).Nodup) (hP : P.Nodup)
    (hsub : ∀ x ∈ Called, x.1 ∈ P) (hall : ∀ p ∈ P, p ∈ Called.map (·.1)) : (Called.map (·.1)).Perm P := by
  rw [List.perm_ext_iff_of_nodup hnd hP]
  intro p
  constructor
  · intro hp
    obtain ⟨x, hx, rfl⟩ := List.mem_map.mp hp
    exact hsub x hx
  · exact hall p

theorem colsMatch_of_called {Called : List (Nat × Bool)} (hnd : (Called.map (·.1)).Nodup)
    (hperm : (Called.map (·.1)).Perm P) : ColsMatch (Called.map (colf S)) (trueCols S P) := by
  refine ⟨P.map (flipOf Called), by simp [trueCols], ?_⟩
  have h1 : Called.map (colf S) = (Called.map (·.1)).map (fun p => colf S (p, flipOf Called p)) := by
    conv => lhs; rw [called_eq hnd]
    rw [List.map_map]
    rfl
  have h2 : List.zipWith (fun (b : Bool) t => if b then complCol t else t) (P.map (flipOf Called)) (trueCols S P) =
      P.map (fun p => colf S (p, flipOf Called p)) := by
    unfold trueCols
    rw [List.zipWith_map_left, List.zipWith_map_right, List.zipWith_self]
    apply List.map_congr_left
    intro p _
    simp only [colf, colT]
  rw [h1, h2]
  exact hperm.map _

end SkaModel.LOC
