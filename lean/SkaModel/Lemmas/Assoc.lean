/-
Association lists (`Impl/Assoc.lean`) with lawful key equality: `lookup`, `keys`, `upsert` and `upsertM`, `map`s
that keep the keys, the `foldl`-of-`upsert` pattern shared by `MDict.append`, `MDict.merge` and `MDict.extend`
(`foldUpsert`, with its closed form for distinct keys), and, in namespace `SkaModel`, the insertion sort `sortByKey`.
-/
import SkaModel.Impl.Assoc
import SkaModel.Lemmas.ListLemmas

namespace SkaModel.Assoc

section
variable {κ ν : Type}

@[simp] theorem keys_cons (kv : κ × ν) (rest : Assoc κ ν) : keys (kv :: rest) = kv.1 :: keys rest := rfl

@[simp] theorem keys_append (d e : Assoc κ ν) : keys (d ++ e) = keys d ++ keys e :=
  List.map_append

theorem mem_keys_of_mem {d : Assoc κ ν} {key : κ} {v : ν} (h : (key, v) ∈ d) : key ∈ keys d :=
  List.mem_map.2 ⟨(key, v), h, rfl⟩

theorem keys_map {μ : Type} (F : κ × ν → κ × μ) (hF : ∀ kv, (F kv).1 = kv.1) (d : Assoc κ ν) :
    keys (d.map F) = keys d :=
  List.map_map.trans (List.map_congr_left fun kv _ => hF kv)

variable [BEq κ]

theorem lookup_cons (k : κ) (v : ν) (rest : Assoc κ ν) (key : κ) :
    lookup ((k, v) :: rest) key = if k == key then some v else lookup rest key := rfl

theorem upsert_cons (k : κ) (v : ν) (rest : Assoc κ ν) (key : κ) (ins : ν) (f : ν → ν) :
    upsert ((k, v) :: rest) key ins f
      = if k == key then (k, f v) :: rest else (k, v) :: upsert rest key ins f := rfl

theorem upsertM_cons (k : κ) (v : ν) (rest : Assoc κ ν) (key : κ) (ins : ν) (f : ν → Option ν) :
    upsertM ((k, v) :: rest) key ins f
      = if k == key then (f v).map (fun v' => (k, v') :: rest)
        else (upsertM rest key ins f).map (fun r => (k, v) :: r) := rfl

theorem forall_upsert (P : ν → Prop) {d : Assoc κ ν} (key : κ) (ins : ν) (f : ν → ν)
    (hd : ∀ kv ∈ d, P kv.2) (hins : P ins) (hf : ∀ v, P v → P (f v)) :
    ∀ kv ∈ upsert d key ins f, P kv.2 := by
  induction d with
  | nil => exact List.forall_mem_singleton.2 hins
  | cons p rest ih =>
    obtain ⟨k, v⟩ := p
    obtain ⟨hv, hrest⟩ := List.forall_mem_cons.1 hd
    rw [upsert_cons]
    split
    · exact List.forall_mem_cons.2 ⟨hf v hv, hrest⟩
    · exact List.forall_mem_cons.2 ⟨hv, ih hrest⟩

theorem upsertM_eq_upsert (d : Assoc κ ν) (key : κ) (ins : ν) (f : ν → Option ν) (g : ν → ν)
    (h : ∀ v, lookup d key = some v → f v = some (g v)) :
    upsertM d key ins f = some (upsert d key ins g) := by
  induction d with
  | nil => rfl
  | cons p rest ih =>
    obtain ⟨k, v⟩ := p
    rw [upsertM_cons, upsert_cons]
    by_cases hk : (k == key) = true
    · rw [if_pos hk, if_pos hk, h v (by rw [lookup_cons, if_pos hk])]
      rfl
    · rw [if_neg hk, if_neg hk, ih (fun v hv => h v (by rw [lookup_cons, if_neg hk]; exact hv))]
      rfl

variable [LawfulBEq κ]

set_option linter.unusedSectionVars false in
@[simp] theorem lookup_nil (key : κ) : lookup ([] : Assoc κ ν) key = none := rfl

set_option linter.unusedSectionVars false in
@[simp] theorem keys_nil : keys ([] : Assoc κ ν) = [] := rfl

theorem mem_of_lookup {d : Assoc κ ν} {key : κ} {v : ν} (h : lookup d key = some v) : (key, v) ∈ d := by
  induction d with
  | nil => cases h
  | cons p rest ih =>
    obtain ⟨k, w⟩ := p
    rw [lookup_cons] at h
    by_cases hk : (k == key) = true
    · rw [if_pos hk] at h
      rw [← eq_of_beq hk, ← Option.some.inj h]
      exact List.mem_cons_self
    · rw [if_neg hk] at h
      exact List.mem_cons_of_mem _ (ih h)

theorem lookup_eq_none_iff (d : Assoc κ ν) (key : κ) :
    lookup d key = none ↔ key ∉ keys d := by
  induction d with
  | nil => exact ⟨fun _ h => (nomatch h), fun _ => rfl⟩
  | cons p rest ih =>
    obtain ⟨k, v⟩ := p
    rw [lookup_cons]
    show _ ↔ key ∉ k :: keys rest
    rw [List.mem_cons, not_or]
    by_cases hk : (k == key) = true
    · rw [if_pos hk]
      exact ⟨fun h => (nomatch h), fun h => absurd (eq_of_beq hk).symm h.1⟩
    · rw [if_neg hk, ih]
      exact ⟨fun h => ⟨fun e => hk (beq_iff_eq.2 e.symm), h⟩, fun h => h.2⟩

theorem mem_keys_of_lookup {d : Assoc κ ν} {key : κ} {v : ν} (h : lookup d key = some v) : key ∈ keys d :=
  mem_keys_of_mem (mem_of_lookup h)

theorem exists_lookup_of_mem_keys {d : Assoc κ ν} {key : κ} (h : key ∈ keys d) : ∃ v, lookup d key = some v :=
  Option.ne_none_iff_exists'.1 fun e => (lookup_eq_none_iff d key).1 e h

theorem lookup_of_mem_nodup {d : Assoc κ ν} {key : κ} {v : ν} (hn : (keys d).Nodup) (h : (key, v) ∈ d) :
    lookup d key = some v := by
  induction d with
  | nil => cases h
  | cons p rest ih =>
    obtain ⟨k, w⟩ := p
    have hn' : k ∉ keys rest ∧ (keys rest).Nodup := List.nodup_cons.1 hn
    rw [lookup_cons]
    rcases List.mem_cons.1 h with e | hm
    · rw [Prod.mk.injEq] at e
      rw [e.1, e.2, if_pos (beq_self_eq_true k)]
    · rw [if_neg (fun e => hn'.1 (by rw [eq_of_beq e]; exact mem_keys_of_mem hm))]
      exact ih hn'.2 hm

theorem mem_iff_lookup (d : Assoc κ ν) (hnd : (keys d).Nodup) (key : κ) (v : ν) :
    (key, v) ∈ d ↔ lookup d key = some v :=
  ⟨lookup_of_mem_nodup hnd, mem_of_lookup⟩

theorem eq_nil_of_lookup_none (d : Assoc κ ν) (h : ∀ key, lookup d key = none) : d = [] := by
  cases d with
  | nil => rfl
  | cons p rest =>
    have := h p.1
    rw [lookup_cons, if_pos (beq_self_eq_true p.1)] at this
    cases this

theorem lookup_eq_of_perm {d e : Assoc κ ν} (hp : d.Perm e) (hn : (keys d).Nodup) (key : κ) :
    lookup d key = lookup e key := by
  have hn' : (keys e).Nodup := (hp.map _).nodup_iff.1 hn
  apply Option.ext
  intro v
  rw [← mem_iff_lookup d hn, ← mem_iff_lookup e hn', hp.mem_iff]

theorem perm_of_lookup_eq {d₁ d₂ : Assoc κ ν} (h₁ : (keys d₁).Nodup) (h₂ : (keys d₂).Nodup)
    (h : ∀ key, lookup d₁ key = lookup d₂ key) : d₁.Perm d₂ := by
  rw [List.perm_ext_iff_of_nodup (nodup_of_map _ h₁) (nodup_of_map _ h₂)]
  intro ⟨k, v⟩
  rw [mem_iff_lookup d₁ h₁, mem_iff_lookup d₂ h₂, h]

theorem lookup_upsert (d : Assoc κ ν) (key : κ) (ins : ν) (f : ν → ν) (key' : κ) :
    lookup (upsert d key ins f) key' =
      if key == key' then some (match lookup d key with | none => ins | some v => f v) else lookup d key' := by
  induction d with
  | nil => rfl
  | cons p rest ih =>
    obtain ⟨k, v⟩ := p
    rw [upsert_cons, lookup_cons k v rest key, lookup_cons k v rest key']
    by_cases hk : (k == key) = true
    · rw [if_pos hk, if_pos hk, lookup_cons, ← eq_of_beq hk]
      by_cases h2 : (k == key') = true
      · rw [if_pos h2, if_pos h2]
      · rw [if_neg h2, if_neg h2, if_neg h2]
    · rw [if_neg hk, if_neg hk, lookup_cons, ih]
      by_cases h2 : (key == key') = true
      · rw [if_pos h2, if_neg (fun h => hk (by rw [eq_of_beq h, eq_of_beq h2]; exact beq_self_eq_true key')), if_pos h2]
      · rw [if_neg h2, if_neg h2]

theorem lookup_upsert_self (d : Assoc κ ν) (key : κ) (ins : ν) (f : ν → ν) :
    lookup (upsert d key ins f) key
      = some (match lookup d key with | none => ins | some v => f v) := by
  rw [lookup_upsert, if_pos (beq_self_eq_true key)]

theorem lookup_upsert_ne (d : Assoc κ ν) {key key' : κ} (ins : ν) (f : ν → ν) (hne : key ≠ key') :
    lookup (upsert d key ins f) key' = lookup d key' := by
  rw [lookup_upsert, if_neg (fun h => hne (eq_of_beq h))]

theorem keys_upsert (d : Assoc κ ν) (key : κ) (ins : ν) (f : ν → ν) :
    keys (upsert d key ins f) = if key ∈ keys d then keys d else keys d ++ [key] := by
  induction d with
  | nil => rfl
  | cons p rest ih =>
    obtain ⟨k, v⟩ := p
    rw [upsert_cons]
    show keys _ = if key ∈ k :: keys rest then k :: keys rest else k :: keys rest ++ [key]
    by_cases hk : (k == key) = true
    · rw [if_pos hk, if_pos (by rw [eq_of_beq hk]; exact List.mem_cons_self)]
      rfl
    · rw [if_neg hk]
      show k :: keys (upsert rest key ins f) = _
      rw [ih]
      have hne : ¬ key = k := fun e => hk (beq_iff_eq.2 e.symm)
      by_cases hm : key ∈ keys rest
      · rw [if_pos hm, if_pos (List.mem_cons_of_mem _ hm)]
      · rw [if_neg hm, if_neg (fun h => (List.mem_cons.1 h).elim hne hm)]
        rfl

theorem mem_keys_upsert (d : Assoc κ ν) (key : κ) (ins : ν) (f : ν → ν) (k' : κ) :
    k' ∈ keys (upsert d key ins f) ↔ k' = key ∨ k' ∈ keys d := by
  rw [keys_upsert]
  by_cases hm : key ∈ keys d
  · rw [if_pos hm]
    exact ⟨Or.inr, fun h => h.elim (fun e => e ▸ hm) id⟩
  · rw [if_neg hm, List.mem_append, List.mem_singleton, or_comm]

theorem nodup_keys_upsert (d : Assoc κ ν) (key : κ) (ins : ν) (f : ν → ν)
    (hnd : (keys d).Nodup) : (keys (upsert d key ins f)).Nodup := by
  rw [keys_upsert]
  by_cases hm : key ∈ keys d
  · rw [if_pos hm]; exact hnd
  · rw [if_neg hm]
    exact nodup_snoc hm hnd

theorem upsert_of_not_mem {d : Assoc κ ν} {k : κ} (ins : ν) (f : ν → ν) (h : k ∉ keys d) :
    upsert d k ins f = d ++ [(k, ins)] := by
  induction d with
  | nil => rfl
  | cons kv d ih =>
    obtain ⟨k', v⟩ := kv
    simp only [keys_cons, List.mem_cons, not_or] at h
    have hne : (k' == k) = false := by
      simp only [beq_eq_false_iff_ne, ne_eq]; exact fun e => h.1 e.symm
    simp only [upsert, hne, List.cons_append]
    rw [ih h.2]; rfl

theorem upsert_of_mem {d : Assoc κ ν} {k : κ} (ins : ν) (f : ν → ν) (hn : (keys d).Nodup) (h : k ∈ keys d) :
    upsert d k ins f = d.map (fun kv => if kv.1 == k then (kv.1, f kv.2) else kv) := by
  induction d with
  | nil => simp at h
  | cons kv d ih =>
    obtain ⟨k', v⟩ := kv
    simp only [keys_cons, List.nodup_cons] at hn
    by_cases hk : k' = k
    · subst hk
      simp only [upsert, List.map_cons, beq_self_eq_true, if_true]
      congr 1
      symm
      rw [List.map_congr_left (g := id)]
      · simp
      · intro x hx
        have : (x.1 == k') = false := by
          simp only [beq_eq_false_iff_ne, ne_eq]
          intro e; exact hn.1 (e ▸ mem_keys_of_mem hx)
        simp [this]
    · have hne : (k' == k) = false := by simpa using hk
      simp only [keys_cons, List.mem_cons] at h
      rcases h with h | h
      · exact absurd h.symm hk
      · simp only [upsert, hne, List.map_cons]
        rw [ih hn.2 h]; rfl

section
variable {μ : Type}

theorem lookup_map (F : κ × ν → κ × μ) (hF : ∀ kv, (F kv).1 = kv.1) (d : Assoc κ ν) (k : κ) :
    lookup (d.map F) k = (lookup d k).map (fun v => (F (k, v)).2) := by
  induction d with
  | nil => rfl
  | cons kv d ih =>
    obtain ⟨k', v⟩ := kv
    rw [List.map_cons, ← Prod.eta (F (k', v)), hF, lookup_cons, lookup_cons, ih]
    by_cases hk : (k' == k) = true
    · rw [if_pos hk, if_pos hk, eq_of_beq hk]
      rfl
    · rw [if_neg hk, if_neg hk]

theorem lookup_map_val (g : ν → μ) (d : Assoc κ ν) (k : κ) :
    lookup (d.map (fun kv => (kv.1, g kv.2))) k = (lookup d k).map g :=
  lookup_map (fun kv => (kv.1, g kv.2)) (fun _ => rfl) d k

theorem lookup_map_keys (ks : List κ) (g : κ → ν) (k : κ) :
    lookup (ks.map (fun k => (k, g k))) k = if k ∈ ks then some (g k) else none := by
  induction ks with
  | nil => rfl
  | cons k' ks ih =>
    simp only [List.map_cons, lookup]
    by_cases hk : k' = k
    · subst hk; simp
    · have hne : (k' == k) = false := by simpa using hk
      have hk' : ¬ k = k' := fun e => hk e.symm
      simp [hne, ih, hk']

end

end

section
variable {κ ν β : Type} [BEq κ]

/-- the common shape of `append`, `merge` and `extend` -/
def foldUpsert (ins : κ × β → ν) (mod : κ × β → ν → ν) (d : Assoc κ ν) (o : Assoc κ β) : Assoc κ ν :=
  o.foldl (fun acc kb => acc.upsert kb.1 (ins kb) (mod kb)) d

theorem foldUpsert_cons (ins : κ × β → ν) (mod : κ × β → ν → ν) (d : Assoc κ ν) (kb : κ × β) (o : Assoc κ β) :
    foldUpsert ins mod d (kb :: o) = foldUpsert ins mod (d.upsert kb.1 (ins kb) (mod kb)) o := rfl

theorem forall_foldUpsert (P : ν → Prop) (ins : κ × β → ν) (mod : κ × β → ν → ν) (d : Assoc κ ν) (o : Assoc κ β)
    (hd : ∀ kv ∈ d, P kv.2) (hins : ∀ kb ∈ o, P (ins kb)) (hmod : ∀ kb ∈ o, ∀ v, P v → P (mod kb v)) :
    ∀ kv ∈ foldUpsert ins mod d o, P kv.2 := by
  induction o generalizing d with
  | nil => exact hd
  | cons kb rest ih =>
    rw [foldUpsert_cons]
    exact ih _ (forall_upsert P _ _ _ hd (hins kb List.mem_cons_self) (hmod kb List.mem_cons_self))
      (fun kb' h => hins kb' (List.mem_cons_of_mem _ h)) (fun kb' h => hmod kb' (List.mem_cons_of_mem _ h))

variable [LawfulBEq κ]

set_option linter.unusedSectionVars false in
theorem foldUpsert_nil (ins : κ × β → ν) (mod : κ × β → ν → ν) (d : Assoc κ ν) :
    foldUpsert ins mod d [] = d := rfl

theorem nodup_keys_foldl_upsert (key : β → κ) (ins : β → ν) (mod : β → ν → ν) (xs : List β) :
    ∀ (d : Assoc κ ν), (keys d).Nodup →
      (keys (xs.foldl (fun c e => upsert c (key e) (ins e) (mod e)) d)).Nodup := by
  induction xs with
  | nil => intro d h; exact h
  | cons e xs ih => intro d h; exact ih _ (nodup_keys_upsert _ _ _ _ h)

theorem lookup_foldUpsert (ins : κ × β → ν) (mod : κ × β → ν → ν) (d : Assoc κ ν) (o : Assoc κ β)
    (hn : (keys o).Nodup) (key : κ) :
    lookup (foldUpsert ins mod d o) key =
      match lookup o key with
      | none => lookup d key
      | some b => some (match lookup d key with | none => ins (key, b) | some v => mod (key, b) v) := by
  induction o generalizing d with
  | nil => rfl
  | cons kb rest ih =>
    obtain ⟨k, b⟩ := kb
    have hn' : k ∉ keys rest ∧ (keys rest).Nodup := List.nodup_cons.1 hn
    rw [foldUpsert_cons, ih _ hn'.2, lookup_cons, lookup_upsert]
    by_cases hk : (k == key) = true
    · -- `key` is the head of `o`: it does not occur in `rest`, so the fold over `rest` leaves it alone
      rw [← eq_of_beq hk, (lookup_eq_none_iff rest k).2 hn'.1, if_pos (beq_self_eq_true k),
        if_pos (beq_self_eq_true k)]
    · rw [if_neg hk, if_neg hk]

theorem lookup_foldUpsert_of_none (ins : κ × β → ν) (mod : κ × β → ν → ν) (d : Assoc κ ν) (o : Assoc κ β)
    (hn : (keys o).Nodup) {key : κ} (h : lookup o key = none) :
    lookup (foldUpsert ins mod d o) key = lookup d key := by
  rw [lookup_foldUpsert ins mod d o hn, h]

theorem lookup_foldUpsert_of_some (ins : κ × β → ν) (mod : κ × β → ν → ν) (d : Assoc κ ν) (o : Assoc κ β)
    (hn : (keys o).Nodup) {key : κ} {b : β} (h : lookup o key = some b) :
    lookup (foldUpsert ins mod d o) key
      = some (match lookup d key with | none => ins (key, b) | some v => mod (key, b) v) := by
  rw [lookup_foldUpsert ins mod d o hn, h]

theorem mem_keys_foldUpsert (ins : κ × β → ν) (mod : κ × β → ν → ν) (d : Assoc κ ν) (o : Assoc κ β) (key : κ) :
    key ∈ keys (foldUpsert ins mod d o) ↔ key ∈ keys d ∨ key ∈ keys o := by
  induction o generalizing d with
  | nil => exact ⟨Or.inl, fun h => h.elim id (fun h => nomatch h)⟩
  | cons kb rest ih =>
    rw [foldUpsert_cons, ih, mem_keys_upsert, keys_cons, List.mem_cons, or_comm (a := key = kb.1), or_assoc]

theorem nodup_keys_foldUpsert (ins : κ × β → ν) (mod : κ × β → ν → ν) (d : Assoc κ ν) (o : Assoc κ β)
    (h : (keys d).Nodup) : (keys (foldUpsert ins mod d o)).Nodup :=
  nodup_keys_foldl_upsert (fun kb : κ × β => kb.1) ins mod o d h

theorem foldUpsert_eq (ins : κ × β → ν) (mod : κ × β → ν → ν) (d : Assoc κ ν) (o : Assoc κ β)
    (hd : (keys d).Nodup) (ho : (keys o).Nodup) :
    foldUpsert ins mod d o
      = d.map (fun kv => (kv.1, match lookup o kv.1 with | none => kv.2 | some b => mod (kv.1, b) kv.2))
        ++ (o.filter (fun kb => !(keys d).contains kb.1)).map (fun kb => (kb.1, ins kb)) := by
  induction o generalizing d with
  | nil => simp [foldUpsert_nil]
  | cons kb o ih =>
    obtain ⟨k, b⟩ := kb
    have ho' : k ∉ keys o ∧ (keys o).Nodup := List.nodup_cons.1 ho
    have hnone : lookup o k = none := (lookup_eq_none_iff o k).2 ho'.1
    rw [foldUpsert_cons]
    by_cases hk : k ∈ keys d
    · have hkeys := keys_map (fun kv => if kv.1 == k then (kv.1, mod (k, b) kv.2) else kv) (fun kv => by split <;> rfl) d
      rw [upsert_of_mem _ _ hd hk, ih _ (hkeys ▸ hd) ho'.2, hkeys,
        List.filter_cons, if_neg (by simpa using hk), List.map_map]
      congr 1
      apply List.map_congr_left
      rintro ⟨k', v⟩ _
      simp only [Function.comp_def, lookup_cons]
      by_cases hx : (k' == k) = true
      · rw [if_pos hx, eq_of_beq hx, if_pos (beq_self_eq_true k), hnone]
      · rw [if_neg hx, if_neg (fun e => hx (by rw [eq_of_beq e]; exact beq_self_eq_true k'))]
    · have hn' : (keys (d ++ [(k, ins (k, b))])).Nodup := by
        rw [← upsert_of_not_mem (ins (k, b)) (mod (k, b)) hk]
        exact nodup_keys_upsert d k _ _ hd
      rw [upsert_of_not_mem _ _ hk, ih _ hn' ho'.2, List.filter_cons, if_pos (by simpa using hk),
        List.map_append, List.map_cons, List.map_nil, List.map_cons, List.append_assoc]
      simp only [hnone]
      congr 1
      · apply List.map_congr_left
        intro x hx
        rw [lookup_cons, if_neg (fun e => hk (by rw [eq_of_beq e]; exact mem_keys_of_mem hx))]
      · rw [List.singleton_append]
        congr 2
        apply List.filter_congr
        intro x hx
        have : ¬ x.1 = k := fun e => ho'.1 (e ▸ mem_keys_of_mem hx)
        simp [this]

end

end SkaModel.Assoc

namespace SkaModel

variable {α : Type}

theorem insertByKey_cons (f : α → Nat) (x y : α) (ys : List α) :
    insertByKey f x (y :: ys) = if f x ≤ f y then x :: y :: ys else y :: insertByKey f x ys := rfl

theorem sortByKey_cons (f : α → Nat) (x : α) (l : List α) :
    sortByKey f (x :: l) = insertByKey f x (sortByKey f l) := rfl

theorem perm_insertByKey (f : α → Nat) (x : α) (l : List α) : (insertByKey f x l).Perm (x :: l) := by
  induction l with
  | nil => exact List.Perm.refl _
  | cons y ys ih =>
    rw [insertByKey_cons]
    by_cases h : f x ≤ f y
    · rw [if_pos h]
    · rw [if_neg h]
      exact (List.Perm.cons y ih).trans (List.Perm.swap x y ys)

theorem perm_sortByKey (f : α → Nat) (l : List α) : (sortByKey f l).Perm l := by
  induction l with
  | nil => exact List.Perm.refl _
  | cons x xs ih =>
    rw [sortByKey_cons]
    exact (perm_insertByKey f x _).trans (List.Perm.cons x ih)

theorem keys_sortByKey_nodup {ν : Type} (d : Assoc Nat ν) (h : (Assoc.keys d).Nodup) :
    (Assoc.keys (sortByKey (·.1) d)).Nodup :=
  ((perm_sortByKey (fun kv : Nat × ν => kv.1) d).map (fun kv : Nat × ν => kv.1)).nodup_iff.2 h

theorem mem_insertByKey (f : α → Nat) (x : α) (l : List α) (a : α) :
    a ∈ insertByKey f x l ↔ a = x ∨ a ∈ l := by
  rw [(perm_insertByKey f x l).mem_iff, List.mem_cons]

theorem mem_sortByKey (f : α → Nat) (l : List α) (a : α) : a ∈ sortByKey f l ↔ a ∈ l :=
  (perm_sortByKey f l).mem_iff

theorem sortByKey_eq_nil_iff (f : α → Nat) (l : List α) : sortByKey f l = [] ↔ l = [] := by
  constructor
  · intro h
    have := (perm_sortByKey f l).symm
    rw [h] at this
    exact List.perm_nil.1 this
  · intro h; rw [h]; rfl

theorem insertByKey_sorted (f : α → Nat) (x : α) (l : List α)
    (h : l.Pairwise (fun a b => f a ≤ f b)) :
    (insertByKey f x l).Pairwise (fun a b => f a ≤ f b) := by
  induction l with
  | nil => simp [insertByKey]
  | cons y ys ih =>
    rw [List.pairwise_cons] at h
    unfold insertByKey
    by_cases hxy : f x ≤ f y
    · rw [if_pos hxy, List.pairwise_cons]
      refine ⟨?_, List.pairwise_cons.2 h⟩
      intro a ha
      rcases List.mem_cons.1 ha with rfl | ha
      · exact hxy
      · exact Nat.le_trans hxy (h.1 a ha)
    · rw [if_neg hxy, List.pairwise_cons]
      refine ⟨?_, ih h.2⟩
      intro a ha
      rcases (mem_insertByKey f x ys a).1 ha with rfl | ha
      · omega
      · exact h.1 a ha

theorem sortByKey_sorted (f : α → Nat) (l : List α) :
    (sortByKey f l).Pairwise (fun a b => f a ≤ f b) := by
  induction l with
  | nil => simp [sortByKey]
  | cons x xs ih => rw [sortByKey_cons]; exact insertByKey_sorted f x _ ih

theorem sortByKey_strictSorted (f : α → Nat) (l : List α) (hnd : (l.map f).Nodup) :
    (sortByKey f l).Pairwise (fun a b => f a < f b) :=
  (sortByKey_sorted f l).imp₂ (fun _ _ hle hne => Nat.lt_of_le_of_ne hle hne)
    (List.pairwise_map.1 (((perm_sortByKey f l).map f).nodup_iff.2 hnd))

theorem sortByKey_eq_of_perm (f : α → Nat) {l m : List α} (hp : l.Perm m)
    (hm : m.Pairwise (fun a b => f a < f b)) : sortByKey f l = m :=
  ((perm_sortByKey f l).trans hp).eq_of_pairwise (fun _ _ _ _ hab hba => absurd hab (Nat.lt_asymm hba))
    (sortByKey_strictSorted f l ((hp.map f).nodup_iff.2 (List.pairwise_map.2 (hm.imp Nat.ne_of_lt)))) hm

theorem sortByKey_perm (f : α → Nat) {l₁ l₂ : List α} (hp : l₁.Perm l₂)
    (hnd : (l₁.map f).Nodup) : sortByKey f l₁ = sortByKey f l₂ :=
  sortByKey_eq_of_perm f (hp.trans (perm_sortByKey f l₂).symm)
    (sortByKey_strictSorted f l₂ ((hp.map f).nodup_iff.1 hnd))

end SkaModel
