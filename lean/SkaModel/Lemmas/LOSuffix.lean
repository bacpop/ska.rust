/-
Specification proofs for `Skalo.commonSuffixLen` and `Skalo.extractMiddleBases`.
-/
import SkaModel.Impl.Skalo
import SkaModel.Lemmas.ListLemmas
import SkaModel.Lemmas.LOBasic

namespace SkaModel.LOS
open SkaModel SkaModel.Skalo

def Agree (seqs : List (List UInt8)) (first : List UInt8) (j : Nat) : Prop :=
  ∀ s ∈ seqs, s.reverse.getD j 0 = first.getD j 0

theorem go_cond (seqs : List (List UInt8)) (minLen : Nat) (first : List UInt8) (n0 : Nat) :
    (decide (n0 < minLen) && seqs.all fun s => s.reverse.getD n0 0 == first.getD n0 0) = true ↔
      n0 < minLen ∧ Agree seqs first n0 := by
  simp only [Agree, Bool.and_eq_true, decide_eq_true_eq, List.all_eq_true, beq_iff_eq]

theorem go_spec (seqs : List (List UInt8)) (minLen : Nat) (first : List UInt8) :
    ∀ (fuel n0 : Nat), n0 ≤ minLen → (∀ j, j < n0 → Agree seqs first j) →
      n0 ≤ commonSuffixLen.go seqs minLen first n0 fuel ∧
      commonSuffixLen.go seqs minLen first n0 fuel ≤ minLen ∧
      (∀ j, j < commonSuffixLen.go seqs minLen first n0 fuel → Agree seqs first j) ∧
      (commonSuffixLen.go seqs minLen first n0 fuel = n0 + fuel ∨
       commonSuffixLen.go seqs minLen first n0 fuel = minLen ∨
       (commonSuffixLen.go seqs minLen first n0 fuel < minLen ∧
        ¬ Agree seqs first (commonSuffixLen.go seqs minLen first n0 fuel))) := by
  intro fuel
  induction fuel with
  | zero =>
    intro n0 h0 hA
    rw [commonSuffixLen.go.eq_1]
    exact ⟨Nat.le_refl _, h0, hA, Or.inl rfl⟩
  | succ fuel ih =>
    intro n0 h0 hA
    rw [commonSuffixLen.go.eq_2]
    by_cases hc : n0 < minLen ∧ Agree seqs first n0
    · rw [if_pos ((go_cond seqs minLen first n0).mpr hc)]
      obtain ⟨h1, h2, h3, h4⟩ := ih (n0 + 1) hc.1
        (fun j hj => (Nat.lt_succ_iff_lt_or_eq.mp hj).elim (hA j) (fun e => e ▸ hc.2))
      exact ⟨Nat.le_of_succ_le h1, h2, h3, h4.imp_left (fun e => by rw [e, Nat.add_assoc, Nat.add_comm 1])⟩
    · rw [if_neg (mt (go_cond seqs minLen first n0).mp hc)]
      refine ⟨Nat.le_refl _, h0, hA, Or.inr ?_⟩
      by_cases hlt : n0 < minLen
      · exact Or.inr ⟨hlt, fun hag => hc ⟨hlt, hag⟩⟩
      · exact Or.inl (Nat.le_antisymm h0 (Nat.not_lt.mp hlt))

theorem foldl_min_spec (l : List Nat) : ∀ a, l.foldl min a ≤ a ∧ (∀ x ∈ l, l.foldl min a ≤ x) ∧
    (l.foldl min a = a ∨ l.foldl min a ∈ l) :=
  LO.foldl_select Nat.le_refl (fun _ _ _ => Nat.le_trans) Nat.min_le_left Nat.min_le_right
    (fun a b => (Nat.le_total a b).imp Nat.min_eq_left Nat.min_eq_right) l

/-- the `minLen` of `commonSuffixLen` -/
def minLen (seqs : List (List UInt8)) : Nat :=
  (seqs.map List.length).foldl min ((seqs.headD []).length)

theorem minLen_le (seqs : List (List UInt8)) : ∀ s ∈ seqs, minLen seqs ≤ s.length := by
  intro s hs
  exact (foldl_min_spec _ _).2.1 _ (List.mem_map_of_mem hs)

theorem minLen_attained (seqs : List (List UInt8)) (hne : seqs ≠ []) :
    ∃ s ∈ seqs, s.length = minLen seqs := by
  rcases (foldl_min_spec (seqs.map List.length) ((seqs.headD []).length)).2.2 with h | h
  · obtain ⟨s, hs⟩ := List.exists_mem_of_ne_nil seqs hne
    exact ⟨seqs.headD [], headD_mem [] hs, h.symm⟩
  · obtain ⟨s, hs, hl⟩ := List.mem_map.1 h
    exact ⟨s, hs, hl⟩

theorem commonSuffixLen_eq (seqs : List (List UInt8)) :
    commonSuffixLen seqs = commonSuffixLen.go seqs (minLen seqs) (seqs.headD []).reverse 0 (minLen seqs) := rfl

theorem getD_reverse (s : List UInt8) (j : Nat) (hj : j < s.length) :
    s.reverse.getD j 0 = (s[s.length - 1 - j]?).getD 0 := by
  rw [List.getD_eq_getElem?_getD, List.getElem?_reverse hj]

theorem take_eq_of_getD (u v : List UInt8) (n : Nat) (hu : n ≤ u.length) (hv : n ≤ v.length)
    (h : ∀ j, j < n → u.getD j 0 = v.getD j 0) : u.take n = v.take n := by
  apply List.ext_getElem
  · rw [List.length_take, List.length_take, Nat.min_eq_left hu, Nat.min_eq_left hv]
  · intro i h1 h2
    rw [List.length_take] at h1
    have hin : i < n := Nat.lt_of_lt_of_le h1 (Nat.min_le_left _ _)
    have hiu : i < u.length := Nat.lt_of_lt_of_le hin hu
    have hiv : i < v.length := Nat.lt_of_lt_of_le hin hv
    rw [List.getElem_take, List.getElem_take]
    have := h i hin
    rw [List.getD_eq_getElem?_getD, List.getD_eq_getElem?_getD,
      List.getElem?_eq_getElem hiu, List.getElem?_eq_getElem hiv] at this
    exact this

theorem drop_eq_of_agree (s t : List UInt8) (n : Nat) (hs : n ≤ s.length) (ht : n ≤ t.length)
    (h : ∀ j, j < n → s.reverse.getD j 0 = t.reverse.getD j 0) :
    s.drop (s.length - n) = t.drop (t.length - n) := by
  have h1 := take_eq_of_getD s.reverse t.reverse n (by rw [List.length_reverse]; exact hs)
    (by rw [List.length_reverse]; exact ht) h
  rw [List.take_reverse, List.take_reverse] at h1
  exact List.reverse_inj.1 h1

theorem getElem?_of_drop_eq (s t : List UInt8) (m n : Nat) (hs : m ≤ s.length) (ht : m ≤ t.length)
    (hnm : n < m) (h : s.drop (s.length - m) = t.drop (t.length - m)) :
    s[s.length - 1 - n]? = t[t.length - 1 - n]? := by
  have hr : s.reverse.take m = t.reverse.take m := by rw [List.take_reverse, List.take_reverse, h]
  rw [← List.getElem?_reverse (Nat.lt_of_lt_of_le hnm hs), ← List.getElem?_reverse (Nat.lt_of_lt_of_le hnm ht),
    ← List.getElem?_take_of_lt hnm, hr, List.getElem?_take_of_lt hnm]

theorem commonSuffixLen_facts (seqs : List (List UInt8)) :
    commonSuffixLen seqs ≤ minLen seqs ∧
    (∀ j, j < commonSuffixLen seqs → Agree seqs (seqs.headD []).reverse j) ∧
    (commonSuffixLen seqs = minLen seqs ∨
      (commonSuffixLen seqs < minLen seqs ∧
        ¬ Agree seqs (seqs.headD []).reverse (commonSuffixLen seqs))) := by
  rw [commonSuffixLen_eq]
  obtain ⟨_, h2, h3, h4⟩ := go_spec seqs (minLen seqs) (seqs.headD []).reverse (minLen seqs) 0
    (Nat.zero_le _) (fun j hj => absurd hj (Nat.not_lt_zero j))
  refine ⟨h2, h3, ?_⟩
  rcases h4 with h4 | h4 | h4
  · rw [Nat.zero_add] at h4; exact Or.inl h4
  · exact Or.inl h4
  · exact Or.inr h4

theorem suffix_le (seqs : List (List UInt8)) : ∀ s ∈ seqs, commonSuffixLen seqs ≤ s.length :=
  fun s hs => Nat.le_trans (commonSuffixLen_facts seqs).1 (minLen_le seqs s hs)

theorem suffix_common (seqs : List (List UInt8)) :
    ∀ s ∈ seqs, ∀ t ∈ seqs,
      s.drop (s.length - commonSuffixLen seqs) = t.drop (t.length - commonSuffixLen seqs) := by
  intro s hs t ht
  apply drop_eq_of_agree s t _ (suffix_le seqs s hs) (suffix_le seqs t ht)
  intro j hj
  have hA := (commonSuffixLen_facts seqs).2.1 j hj
  rw [hA s hs, hA t ht]

theorem suffix_stop (seqs : List (List UInt8)) (hne : seqs ≠ []) :
    (∃ s ∈ seqs, s.length = commonSuffixLen seqs) ∨
    (∃ s ∈ seqs, ∃ t ∈ seqs, commonSuffixLen seqs < s.length ∧ commonSuffixLen seqs < t.length ∧
      s[s.length - 1 - commonSuffixLen seqs]? ≠ t[t.length - 1 - commonSuffixLen seqs]?) := by
  rcases (commonSuffixLen_facts seqs).2.2 with h | ⟨hlt, hna⟩
  · obtain ⟨s, hs, hl⟩ := minLen_attained seqs hne
    exact Or.inl ⟨s, hs, by rw [hl, h]⟩
  · right
    have hex : ∃ s ∈ seqs, s.reverse.getD (commonSuffixLen seqs) 0 ≠
        (seqs.headD []).reverse.getD (commonSuffixLen seqs) 0 := by
      apply Classical.byContradiction
      intro hcon
      apply hna
      intro s hs
      apply Classical.byContradiction
      intro hne'
      exact hcon ⟨s, hs, hne'⟩
    obtain ⟨s, hs, hd⟩ := hex
    have hh := headD_mem [] hs
    have h1 : commonSuffixLen seqs < s.length := Nat.lt_of_lt_of_le hlt (minLen_le seqs s hs)
    have h2 : commonSuffixLen seqs < (seqs.headD []).length :=
      Nat.lt_of_lt_of_le hlt (minLen_le seqs _ hh)
    refine ⟨s, hs, seqs.headD [], hh, h1, h2, ?_⟩
    intro heq
    apply hd
    rw [getD_reverse s _ h1, getD_reverse _ _ h2, heq]

example : commonSuffixLen [[65,67,71],[84,67,71]] = 2 := by decide
example : commonSuffixLen [[65,67,71],[67,71]] = 2 := by decide
example : commonSuffixLen [[65,67,71]] = 3 := by decide
example : commonSuffixLen [[],[65]] = 0 := by decide
example : commonSuffixLen [[65,67],[71,84]] = 0 := by decide

/-- '-' (45) as a stored insert denotes the empty insert -/
def insOf (m : List UInt8) : List UInt8 := if m = [45] then [] else m

/-- the stored insert of a tail `t` (path minus first k-mer) for common suffix length `n` -/
def stored (n : Nat) (t : List UInt8) : List UInt8 :=
  if (t.take (t.length - n)).isEmpty then [45] else t.take (t.length - n)

theorem extract_eq (seqs : List (List UInt8)) (kGraph : Nat) :
    extractMiddleBases seqs kGraph =
      ((seqs.map (fun s => s.drop kGraph)).map
          (stored (commonSuffixLen (seqs.map (fun s => s.drop kGraph)))),
       (((seqs.map (fun s => s.drop kGraph)).headD []).drop
          (((seqs.map (fun s => s.drop kGraph)).headD []).length -
            commonSuffixLen (seqs.map (fun s => s.drop kGraph)))).take kGraph) := rfl

theorem insOf_stored (n : Nat) (t : List UInt8) (hdash : ∀ b ∈ t, b ≠ 45) :
    insOf (stored n t) = t.take (t.length - n) := by
  unfold stored
  cases hm : t.take (t.length - n) with
  | nil => simp [insOf]
  | cons a l =>
    have ha : a ∈ t := List.mem_of_mem_take (by rw [hm]; exact List.mem_cons_self)
    have hne : a ≠ 45 := hdash a ha
    have : ¬ (a :: l = [45]) := by
      intro h
      injection h with h1 _
      exact hne h1
    simp [insOf, this]

theorem extract_core (seqs : List (List UInt8)) (kGraph : Nat) (first : List UInt8) (hne : seqs ≠ [])
    (hfirst : ∀ s ∈ seqs, s.take kGraph = first)
    (hdash : ∀ s ∈ seqs, ∀ b ∈ s, b ≠ 45) :
    ∃ suf : List UInt8,
      suf.length = commonSuffixLen (seqs.map (fun s => s.drop kGraph)) ∧
      (extractMiddleBases seqs kGraph).2 = suf.take kGraph ∧
      ∀ i (hi : i < seqs.length),
        (extractMiddleBases seqs kGraph).1[i]? =
          some (stored (commonSuffixLen (seqs.map (fun s => s.drop kGraph))) (seqs[i].drop kGraph)) ∧
        seqs[i] = first ++
          insOf (stored (commonSuffixLen (seqs.map (fun s => s.drop kGraph))) (seqs[i].drop kGraph)) ++
          suf := by
  rw [extract_eq]
  generalize hred : seqs.map (fun s => s.drop kGraph) = reduced
  obtain ⟨s0, hs0⟩ := List.exists_mem_of_ne_nil seqs hne
  have hh : reduced.headD [] ∈ reduced := headD_mem [] (hred ▸ List.mem_map_of_mem hs0)
  refine ⟨(reduced.headD []).drop ((reduced.headD []).length - commonSuffixLen reduced), ?_, rfl, ?_⟩
  · rw [List.length_drop]
    exact Nat.sub_sub_self (suffix_le reduced _ hh)
  · intro i hi
    have hsi : seqs[i] ∈ seqs := List.getElem_mem hi
    have hti : seqs[i].drop kGraph ∈ reduced := by
      rw [← hred]; exact List.mem_map_of_mem hsi
    refine ⟨?_, ?_⟩
    · show (reduced.map (stored (commonSuffixLen reduced)))[i]? = _
      rw [← hred, List.getElem?_map, List.getElem?_map, List.getElem?_eq_getElem hi]
      rfl
    · rw [insOf_stored _ _ (fun b hb => hdash _ hsi b (List.mem_of_mem_drop hb)),
        ← suffix_common reduced _ hti _ hh, List.append_assoc, List.take_append_drop,
        ← hfirst _ hsi, List.take_append_drop]

-- non-vacuity: plain insert, empty insert stored as '-', truncation (common suffix longer than kGraph)
example : extractMiddleBases [[65,67,71,84,65,67],[65,67,84,84,65,67]] 2 = ([[71], [84]], [84,65]) := by decide
example : extractMiddleBases [[65,67,65,67],[65,67,84,84,65,67]] 2 = ([[45], [84,84]], [65,67]) := by decide
example : extractMiddleBases [[65,67,71,65,67,71],[65,67,84,65,67,71]] 2 = ([[71], [84]], [65,67]) := by decide
example : commonSuffixLen ([[65,67,71,65,67,71],[65,67,84,65,67,71]].map (fun s => s.drop 2)) = 3 := by decide
example : extractMiddleBases [[65,67,71]] 2 = ([[45]], [71]) := by decide

-- `hdash` is necessary: a literal '-' insert collides with the empty-insert marker
-- (two different paths, identical stored inserts)
example : (extractMiddleBases [[65,67,45,71],[65,67,71]] 2).1 = [[45], [45]] := by decide

end SkaModel.LOS
