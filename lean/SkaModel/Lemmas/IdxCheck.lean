/-
`RefSka.idxCheck` (model of the Rust iterator `IdxCheck`): run as an iteration of `step`, its
calls are followed in the coordinates (contig `c`, position `p`) of the absolute index
`contigOffset seq c + p`.  With every contig non-empty each call emits the next pair.
-/
import SkaModel.Impl.RefSka
import SkaModel.Lemmas.Coords

namespace SkaModel.VCF

open SkaModel SkaModel.Spec SkaModel.AW

def iter {α : Type} (f : α → α) : Nat → α → α
  | 0, x => x
  | n + 1, x => iter f n (f x)

theorem iter_add {α : Type} (f : α → α) (m n : Nat) (x : α) :
    iter f (m + n) x = iter f n (iter f m x) := by
  induction m generalizing x with
  | zero => simp [iter]
  | succ m ih => rw [Nat.add_right_comm]; exact ih (f x)

theorem foldl_const_eq_iter {α β : Type} (f : α → α) (l : List β) (x : α) :
    l.foldl (fun st _ => f st) x = iter f l.length x := by
  induction l generalizing x with
  | nil => rfl
  | cons b l ih => exact ih (f x)

/-- iterator state of `IdxCheckIter`: (current_chr, idx, output so far, finished) -/
abbrev St := Nat × Nat × List (Nat × Nat) × Bool

/-- one call of `IdxCheckIter::next` -/
def step (ends : List Nat) (st : St) : St :=
  let (chr, idx, out, done) := st
  if done then st else
  let chr := if idx ≥ ends.getD chr 0 then chr + 1 else chr
  if chr < ends.length then
    let pos := if chr > 0 then idx - ends.getD (chr - 1) 0 else idx
    (chr, idx + 1, out ++ [(chr, pos)], false)
  else (chr, idx, out, true)

/-- `IdxCheck::new`: cumulative end coordinates -/
def endsOf (seq : List (Array UInt8)) : List Nat :=
  (seq.foldl (fun (acc : Nat × List Nat) c => (acc.1 + c.size, acc.2 ++ [acc.1 + c.size])) (0, [])).2

theorem idxCheck_eq_iter (seq : List (Array UInt8)) :
    RefSka.idxCheck seq =
      (iter (step (endsOf seq)) ((endsOf seq).getLastD 0 + (endsOf seq).length + 1) (0, 0, [], false)).2.2.1 := by
  have : RefSka.idxCheck seq =
      ((List.range ((endsOf seq).getLastD 0 + (endsOf seq).length + 1)).foldl
        (fun st _ => step (endsOf seq) st) (0, 0, [], false)).2.2.1 := rfl
  rw [this, foldl_const_eq_iter, List.length_range]

theorem endsFold_take (seq : List (Array UInt8)) : ∀ k, k ≤ seq.length →
    (seq.take k).foldl
        (fun (acc : Nat × List Nat) c => (acc.1 + c.size, acc.2 ++ [acc.1 + c.size])) (0, [])
      = (contigOffset seq k, (List.range k).map (fun c => contigOffset seq (c + 1)))
  | 0, _ => by rw [off_zero]; rfl
  | k + 1, hk => by
    rw [List.take_succ_eq_append_getElem hk, List.foldl_append,
      endsFold_take seq k (Nat.le_of_succ_le hk), List.range_succ, List.map_append, List.map_singleton, off_succ, csize,
      getD_eq_getElem _ _ hk]
    rfl

theorem endsOf_eq (seq : List (Array UInt8)) :
    endsOf seq = (List.range seq.length).map (fun c => contigOffset seq (c + 1)) := by
  have h := endsFold_take seq seq.length (Nat.le_refl _)
  rw [List.take_length] at h
  rw [endsOf, h]

theorem endsOf_length (seq : List (Array UInt8)) : (endsOf seq).length = seq.length := by
  rw [endsOf_eq, List.length_map, List.length_range]

theorem endsOf_getD (seq : List (Array UInt8)) (c : Nat) (h : c < seq.length) :
    (endsOf seq).getD c 0 = contigOffset seq (c + 1) := by
  rw [endsOf_eq, List.getD_eq_getElem?_getD, List.getElem?_map, List.getElem?_range h]
  rfl

theorem endsOf_getLastD (seq : List (Array UInt8)) :
    (endsOf seq).getLastD 0 = contigOffset seq seq.length := by
  rw [endsOf_eq]
  cases seq.length with
  | zero => exact (off_zero seq).symm
  | succ n => rw [List.range_succ, List.map_append, List.map_singleton, List.getLastD_concat]

theorem iter_done (ends : List Nat) (n c idx : Nat) (out : List (Nat × Nat)) :
    iter (step ends) n (c, idx, out, true) = (c, idx, out, true) := by
  induction n with
  | zero => rfl
  | succ n ih => exact ih

section
variable (seq : List (Array UInt8))

/-- `hchr`: the iterator's contig counter is `c` already, or at the first position of a later contig
still `c - 1`. -/
theorem step_emit {c p chr : Nat} (out : List (Nat × Nat)) (hc : c < seq.length)
    (hp : p < csize seq c) (hchr : chr = c ∨ (chr + 1 = c ∧ p = 0)) :
    step (endsOf seq) (chr, contigOffset seq c + p, out, false)
      = (c, contigOffset seq c + p + 1, out ++ [(c, p)], false) := by
  have hchr' : (if contigOffset seq c + p ≥ (endsOf seq).getD chr 0 then chr + 1 else chr) = c := by
    rcases hchr with rfl | ⟨rfl, rfl⟩
    · rw [if_neg]
      rw [endsOf_getD seq chr hc, off_succ]
      exact Nat.not_le.2 (Nat.add_lt_add_left hp _)
    · rw [if_pos]
      rw [endsOf_getD seq chr (Nat.lt_of_succ_lt hc)]
      exact Nat.le_add_right _ _
  have hpos : (if c > 0 then contigOffset seq c + p - (endsOf seq).getD (c - 1) 0
      else contigOffset seq c + p) = p := by
    by_cases h0 : c > 0
    · rw [if_pos h0, endsOf_getD seq (c - 1) (Nat.lt_of_le_of_lt (Nat.sub_le _ _) hc),
        Nat.sub_add_cancel h0, Nat.add_sub_cancel_left]
    · rw [if_neg h0, Nat.eq_zero_of_not_pos h0, off_zero, Nat.zero_add]
  simp only [step, Bool.false_eq_true, if_false]
  rw [hchr', if_pos (by rw [endsOf_length]; exact hc), hpos]

theorem iter_within {c : Nat} (hc : c < seq.length) :
    ∀ (m p chr : Nat) (out : List (Nat × Nat)), chr = c ∨ (chr + 1 = c ∧ p = 0) →
      p + m < csize seq c →
      iter (step (endsOf seq)) (m + 1) (chr, contigOffset seq c + p, out, false)
        = (c, contigOffset seq c + p + m + 1,
            out ++ (List.range' p (m + 1)).map (fun q => (c, q)), false) := by
  intro m
  induction m with
  | zero =>
    intro p chr out hchr h
    exact step_emit seq out hc h hchr
  | succ m ih =>
    intro p chr out hchr h
    show iter _ (m + 1) (step _ _) = _
    rw [step_emit seq out hc (Nat.lt_of_le_of_lt (Nat.le_add_right _ _) h) hchr, Nat.add_assoc _ p 1,
      ih (p + 1) c _ (Or.inl rfl) (by omega), List.range'_succ (s := p) (n := m + 1), List.map_cons,
      List.append_assoc, ← Nat.add_assoc _ p 1, Nat.add_right_comm _ 1 m]
    rfl

theorem iter_contig {c : Nat} (hc : c < seq.length) (hsz : 1 ≤ csize seq c)
    (out : List (Nat × Nat)) :
    iter (step (endsOf seq)) (csize seq c) (c - 1, contigOffset seq c, out, false)
      = (c, contigOffset seq (c + 1), out ++ (List.range (csize seq c)).map (fun q => (c, q)),
          false) := by
  obtain ⟨n, hn⟩ : ∃ n, csize seq c = n + 1 := ⟨_, (Nat.sub_add_cancel hsz).symm⟩
  rw [off_succ, hn, List.range_eq_range']
  exact iter_within seq hc n 0 (c - 1) out
    ((Nat.eq_zero_or_pos c).imp (fun e => by rw [e]) fun h => ⟨Nat.sub_add_cancel h, rfl⟩)
    (by rw [hn, Nat.zero_add]; exact Nat.lt_succ_self n)

theorem iter_contigs (hsz : ∀ c ∈ seq, 1 ≤ c.size) :
    ∀ k, k ≤ seq.length →
      iter (step (endsOf seq)) (contigOffset seq k) (0, 0, [], false)
        = (k - 1, contigOffset seq k, coordsTo seq k, false) := by
  intro k
  induction k with
  | zero => intro _; rw [off_zero]; rfl
  | succ k ih =>
    intro h
    rw [off_succ, iter_add, ih (Nat.le_of_succ_le h), iter_contig seq h (hsz _ (getD_mem h)),
      coordsTo_succ seq k h, off_succ]
    rfl

theorem iter_end (m : Nat) (out : List (Nat × Nat)) :
    (iter (step (endsOf seq)) (m + 1)
      (seq.length - 1, contigOffset seq seq.length, out, false)).2.2.1 = out := by
  have hstep : ∃ c i, step (endsOf seq) (seq.length - 1, contigOffset seq seq.length, out, false)
      = (c, i, out, true) := by
    cases hlen : seq.length with
    | zero =>
      rw [List.eq_nil_of_length_eq_zero hlen]
      exact ⟨_, _, rfl⟩
    | succ n =>
      refine ⟨n + 1, contigOffset seq (n + 1), ?_⟩
      simp only [step, Bool.false_eq_true, if_false]
      rw [Nat.add_sub_cancel, endsOf_getD seq n (hlen ▸ Nat.lt_succ_self n), if_pos (Nat.le_refl _),
        endsOf_length, if_neg (hlen ▸ Nat.lt_irrefl _)]
  obtain ⟨c, i, h⟩ := hstep
  show (iter _ m (step _ _)).2.2.1 = out
  rw [h, iter_done]

end

end SkaModel.VCF
