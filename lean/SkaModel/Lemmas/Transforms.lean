/-
Byte facts (complete enumeration) and array facts for the input transformations
of C02: `applyCase`, `revCompSeq`.
-/
import SkaModel.Spec.Transforms
import SkaModel.Lemmas.Bytes
import SkaModel.Lemmas.Pack
import SkaModel.Lemmas.MaskOf

namespace SkaModel

open SkaModel.Spec

/-! `flipCase` acts on every byte and is checked by enumeration of all 256 values (one sweep: the
conjuncts share the evaluation of `flipCase b`). What concerns the alphabet only is checked on its
ten letters; `compByte` fixes every other byte. -/

theorem flipCase_table : ∀ b : UInt8, code (flipCase b) = code b ∧ validBase (flipCase b) = validBase b :=
  forall_uint8 (by decide +kernel)

theorem code_flipCase : ∀ b : UInt8, code (flipCase b) = code b :=
  fun b => (flipCase_table b).1

theorem validBase_flipCase : ∀ b : UInt8, validBase (flipCase b) = validBase b :=
  fun b => (flipCase_table b).2

theorem isDna_cases {b : UInt8} (h : isDna b = true) :
    b = 65 ∨ b = 67 ∨ b = 71 ∨ b = 84 ∨ b = 78 ∨ b = 97 ∨ b = 99 ∨ b = 103 ∨ b = 116 ∨ b = 110 := by
  simpa only [isDna, Bool.or_eq_true, beq_iff_eq, or_assoc] using h

theorem isDna_flipCase : ∀ b : UInt8, isDna b = true → isDna (flipCase b) = true := by
  intro b h
  rcases isDna_cases h with rfl | rfl | rfl | rfl | rfl | rfl | rfl | rfl | rfl | rfl <;> decide +kernel

theorem compByte_of_not_dna {b : UInt8} (h : isDna b = false) : compByte b = b := by
  simp only [isDna, Bool.or_eq_false_iff] at h
  obtain ⟨⟨⟨⟨⟨⟨⟨⟨⟨h65, h67⟩, h71⟩, h84⟩, _⟩, h97⟩, h99⟩, h103⟩, h116⟩, _⟩ := h
  simp only [compByte, h65, h67, h71, h84, h97, h99, h103, h116, Bool.false_eq_true, if_false]

/-- on A C G T a c g t the complement flips bit 1 of the 2-bit code (last conjunct) -/
theorem compByte_table : ∀ b : UInt8, validBase (compByte b) = validBase b ∧ isDna (compByte b) = isDna b ∧
    compByte (compByte b) = b ∧ (isDna b = true → validBase b = true → code (compByte b) = code b ^^^ 2) := by
  intro b
  cases h : isDna b with
  | false =>
    rw [compByte_of_not_dna h, compByte_of_not_dna h]
    exact ⟨rfl, h, rfl, fun h' => nomatch h'⟩
  | true =>
    rcases isDna_cases h with rfl | rfl | rfl | rfl | rfl | rfl | rfl | rfl | rfl | rfl <;> decide +kernel

theorem validBase_compByte : ∀ b : UInt8, validBase (compByte b) = validBase b :=
  fun b => (compByte_table b).1

theorem isDna_compByte : ∀ b : UInt8, isDna (compByte b) = isDna b :=
  fun b => (compByte_table b).2.1

theorem compByte_compByte : ∀ b : UInt8, compByte (compByte b) = b :=
  fun b => (compByte_table b).2.2.1

theorem code_compByte : ∀ b : UInt8, isDna b = true → validBase b = true →
    code (compByte b) = code b ^^^ 2 :=
  fun b => (compByte_table b).2.2.2

def SameCodes (a b : Array UInt8) : Prop :=
  b.size = a.size ∧ ∀ p, validBase (b.getD p 0) = validBase (a.getD p 0) ∧
    code (b.getD p 0) = code (a.getD p 0)

theorem SameCodes.windows {a b : Array UInt8} (h : SameCodes a b) (k : Nat) :
    windows k b = windows k a := by
  unfold Spec.windows
  have : (fun p => validBase (b.getD p 0)) = (fun p => validBase (a.getD p 0)) :=
    funext fun p => (h.2 p).1
  rw [h.1, this]

theorem SameCodes.codesAt {a b : Array UInt8} (h : SameCodes a b) (s n : Nat) :
    codesAt b s n = codesAt a s n := by
  unfold Spec.codesAt
  have : (fun t => code (b.getD (s + t) 0)) = (fun t => code (a.getD (s + t) 0)) :=
    funext fun t => (h.2 (s + t)).2
  rw [this]

theorem SameCodes.armsAt {a b : Array UInt8} (h : SameCodes a b) (k j : Nat) :
    armsAt k b j = armsAt k a j := by
  unfold Spec.armsAt
  simp only [h.codesAt]

theorem SameCodes.midAt {a b : Array UInt8} (h : SameCodes a b) (k j : Nat) :
    midAt k b j = midAt k a j := by
  unfold Spec.midAt
  exact (h.2 _).2

theorem SameCodes.obs {a b : Array UInt8} (h : SameCodes a b) (k : Nat) (rc : Bool) (j : Nat) :
    obs k rc b j = obs k rc a j := by
  unfold Spec.obs
  simp only [h.armsAt, h.midAt]

theorem SameCodes.obsMask {a b : Array UInt8} (h : SameCodes a b) (k : Nat) (rc : Bool)
    (j : Nat) : obsMask k rc b j = obsMask k rc a j := by
  unfold Spec.obsMask Spec.isPalin
  simp only [h.armsAt, h.obs]

theorem SameCodes.observations {a b : Array UInt8} (h : SameCodes a b) (k : Nat) (rc : Bool) :
    observations k rc [b] = observations k rc [a] := by
  rw [observations_single, observations_single, h.windows]
  simp only [h.obs, h.obsMask]

theorem applyCase_size (m : List Bool) (r : Array UInt8) : (applyCase m r).size = r.size := by
  simp [applyCase]

theorem applyCase_getD (m : List Bool) (r : Array UInt8) (p : Nat) :
    (applyCase m r).getD p 0
      = if p < r.size then
          (if m.getD p false then flipCase (r.getD p 0) else r.getD p 0)
        else 0 := by
  unfold applyCase
  rw [Array.getD_eq_getD_getElem?, List.getElem?_toArray, List.getElem?_map,
    List.getElem?_zipIdx, Array.getD_eq_getD_getElem?]
  by_cases hp : p < r.size
  · simp [hp]
  · simp [hp]

theorem applyCase_sameCodes (m : List Bool) (r : Array UInt8) : SameCodes r (applyCase m r) := by
  refine ⟨applyCase_size m r, fun p => ?_⟩
  rw [applyCase_getD]
  by_cases hp : p < r.size
  · rw [if_pos hp]
    by_cases hm : m.getD p false = true
    · rw [if_pos hm]; exact ⟨validBase_flipCase _, code_flipCase _⟩
    · rw [if_neg hm]; exact ⟨rfl, rfl⟩
  · rw [if_neg hp]
    have : r.getD p 0 = 0 := by
      rw [Array.getD_eq_getD_getElem?]; simp [hp]
    rw [this]; exact ⟨rfl, rfl⟩

theorem applyCase_nil (r : Array UInt8) : applyCase [] r = r := by
  unfold applyCase
  simp only [List.getD_nil, Bool.false_eq_true, if_false]
  rw [show (fun bi : UInt8 × Nat => bi.1) = Prod.fst from rfl, List.zipIdx_map_fst, Array.toArray_toList]

theorem revCompSeq_size (r : Array UInt8) : (revCompSeq r).size = r.size := by
  simp [revCompSeq]

/-- a position `p` and its mirror image `q` are tied by `p + q + 1 = r.size` -/
theorem revCompSeq_getD_add (r : Array UInt8) {p q : Nat} (h : p + q + 1 = r.size) :
    (revCompSeq r).getD p 0 = compByte (r.getD q 0) := by
  have hq : q < r.size := Nat.lt_of_lt_of_eq (Nat.lt_succ_of_le (Nat.le_add_left q p)) h
  unfold revCompSeq
  rw [Array.getD_eq_getD_getElem?, List.getElem?_toArray, List.getElem?_map,
    List.getElem?_reverse' (h.trans Array.length_toList.symm), Array.getD_eq_getD_getElem?]
  simp [hq]

theorem revCompSeq_revCompSeq (r : Array UInt8) : revCompSeq (revCompSeq r) = r := by
  unfold revCompSeq
  simp only [List.map_reverse, List.reverse_reverse, List.map_map]
  have : compByte ∘ compByte = id := funext compByte_compByte
  rw [this, List.map_id]

def AllDna (r : Array UInt8) : Prop := ∀ p, p < r.size → isDna (r.getD p 0) = true

theorem AllDna.revCompSeq {r : Array UInt8} (h : AllDna r) : AllDna (revCompSeq r) := by
  intro p hp
  rw [revCompSeq_size] at hp
  obtain ⟨q, hq⟩ := Nat.exists_eq_add_of_lt hp
  rw [revCompSeq_getD_add r hq.symm, isDna_compByte]
  exact h q (Nat.lt_of_lt_of_eq (Nat.lt_succ_of_le (Nat.le_add_left q p)) hq.symm)

end SkaModel
