/-
The initial state of the writer, and `finalise`: after the last `fillTo` the array holds
`Spec.writerChar` at every absolute index.
-/
import SkaModel.Lemmas.AWStep

namespace SkaModel.AW

open SkaModel SkaModel.Spec

variable {ref : List (Array UInt8)} {h : Nat} {ma : Bool}

theorem new_inv (k : Nat) : Base ref (halfK k) ma [] (AlnWriter.new ref k) ∧
    Between ref (halfK k) [] (AlnWriter.new ref k) := by
  refine ⟨⟨?_, ?_, rfl, Nat.zero_le _, ?_⟩, Or.inr ⟨⟨Or.inl rfl, rfl, fun m hm => nomatch hm⟩, rfl⟩⟩
  · show (Array.replicate _ GAP).size = _
    rw [Array.size_replicate, total_eq]
  · show 0 = contigOffset ref 0
    rw [off_zero]
  · intro c p _ _ _
    refine ⟨fun hx => ?_, fun _ => ?_⟩
    · obtain ⟨m, hm, _⟩ := hx.1
      cases hm
    · show (Array.replicate _ GAP).getD _ GAP = GAP
      rw [Array.getD_eq_getD_getElem?, Array.getElem?_replicate]
      split <;> rfl

theorem find_of_mid {ms : List Match} (hp : List.Pairwise MLt ms) {m : Match} (hm : m ∈ ms) :
    ms.find? (fun x => x.1 == m.1 && x.2.1 == m.2.1) = some m := by
  rw [← Option.map_id' (x := ms.find? _)]
  refine find_map_eq ms _ _ (some m) (fun a ha hP => ?_) fun _ _ => ⟨m, hm, by simp⟩
  rw [Bool.and_eq_true, beq_iff_eq, beq_iff_eq] at hP
  rw [mlt_unique ms hp a m ha hm hP.1 hP.2]

theorem find_of_not_mid {ms : List Match} {c p : Nat} (hn : ¬ IsMid ms c p) :
    ms.find? (fun x => x.1 == c && x.2.1 == p) = none := by
  rw [List.find?_eq_none]
  intro x hx hpx
  simp only [Bool.and_eq_true, beq_iff_eq] at hpx
  exact hn ⟨x, hx, hpx.1, hpx.2⟩

/-- after the last contig has been filled, the middle-base pass leaves `wBase` everywhere -/
theorem mid_char {ms : List Match} {w : AlnWriter} (hb : Base ref h ma ms w)
    (hcc : w.currChrom = ref.length) (hp : List.Pairwise MLt ms) (hbnd : ∀ m ∈ ms, Bnd ref h m)
    {c p : Nat} (hc : c < ref.length) (hpc : p < csize ref c) :
    (w.middleOut.foldl (fun o bp => o.setIfInBounds bp.2 bp.1) w.seqOut).getD
        (contigOffset ref c + p) GAP = wBase ref h ma ms c p := by
  have hidx : ∀ x ∈ ms, (midEntry ref ma x).2 = contigOffset ref c + p → x.1 = c ∧ x.2.1 = p := by
    intro x hx hxe
    obtain ⟨_, _, hx3⟩ := hbnd x hx
    exact abs_inj ref (Nat.lt_of_le_of_lt (Nat.le_add_right _ _) hx3) hpc ((Nat.add_comm ..).trans hxe)
  unfold wBase
  by_cases hmid : IsMid ms c p
  · obtain ⟨m, hm, hm1, hm2⟩ := hmid
    subst hm1; subst hm2
    rw [find_of_mid hp hm]
    simp only []
    refine foldl_set_some Prod.snd Prod.fst _ _ _ _ _ ?_ ?_ ?_
    · rw [hb.size]; exact abs_lt_total ref hc hpc
    · rw [hb.mid]
      exact ⟨midEntry ref ma m, List.mem_map.2 ⟨m, hm, rfl⟩, Nat.add_comm ..⟩
    · rw [hb.mid]
      intro x hx hxe
      obtain ⟨m', hm', rfl⟩ := List.mem_map.1 hx
      obtain ⟨e1, e2⟩ := hidx m' hm' hxe
      rw [mlt_unique ms hp m' m hm' hm e1 e2]
      rfl
  · rw [find_of_not_mid hmid]
    simp only []
    rw [foldl_set_none Prod.snd Prod.fst]
    · have hHc := hb.seq c p hc hpc hmid
      by_cases hcov : Cov h ms c p
      · rw [if_pos ((any_iff_cov ms c p).2 hcov)]
        exact hHc.1 ⟨hcov, Or.inl (hcc ▸ hc)⟩
      · rw [if_neg (fun hx => hcov ((any_iff_cov ms c p).1 hx))]
        exact hHc.2 (fun hr => hcov hr.1)
    · rw [hb.mid]
      intro x hx hxe
      obtain ⟨m', hm', rfl⟩ := List.mem_map.1 hx
      obtain ⟨e1, e2⟩ := hidx m' hm' hxe
      exact hmid ⟨m', hm', e1, e2⟩

theorem final_char {ms : List Match} {w : AlnWriter} (reps : List Nat)
    (hb : Base ref h ma ms w) (hmode : ModeA h ms w ∨ ModeB ref h ms w)
    (hp : List.Pairwise MLt ms) (hbnd : ∀ m ∈ ms, Bnd ref h m)
    {c p : Nat} (hc : c < ref.length) (hpc : p < csize ref c) :
    (AlnWriter.finalise ref h reps w).getD (contigOffset ref c + p) GAP =
      writerChar ref h ma reps ms c p := by
  obtain ⟨hb', hcc', _⟩ := fillTo_spec (ma := ma) ref.length (Nat.le_refl _) (ref.length + 1) w hb
    hmode hb.chromLe (Nat.lt_add_left _ (Nat.lt_succ_self _))
  unfold AlnWriter.finalise
  simp only []
  rw [repFold_getD, mid_char hb' hcc' hp hbnd hc hpc, writerChar_eq]
  rfl

theorem finalise_size {ms : List Match} {w : AlnWriter} (reps : List Nat)
    (hb : Base ref h ma ms w) (hmode : ModeA h ms w ∨ ModeB ref h ms w) :
    (AlnWriter.finalise ref h reps w).size = contigOffset ref ref.length := by
  obtain ⟨hb', _, _⟩ := fillTo_spec (ma := ma) ref.length (Nat.le_refl _) (ref.length + 1) w hb
    hmode hb.chromLe (Nat.lt_add_left _ (Nat.lt_succ_self _))
  unfold AlnWriter.finalise
  simp only []
  rw [repFold_size, foldl_set_size Prod.snd Prod.fst, hb'.size]

end SkaModel.AW
