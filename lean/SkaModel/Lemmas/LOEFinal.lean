/-
C18 completeness — the pipeline on a deletion family: `lo … = some ([], recs)` with one record per block, read on
one of the two strands, in the vocabulary of the statement (`dexpRec`, `RecsMatch`).  The expected records of
different blocks and strands differ, so the executable form `drecsMatchB` of `RecsMatch` holds as well.
-/
import SkaModel.Lemmas.LOEHrec
import SkaModel.Lemmas.LOEPipe

namespace SkaModel.LOE

open SkaModel.Skalo SkaModel.LOC

instance : Inhabited IndelRec := ⟨⟨[], [], [], [], []⟩⟩

/-- the record of a bubble: what `process_indels` computes for its two variants -/
def recOfBub (W k : Nat) (C : List (List Bool)) (col : Colours) (β : Bub) : IndelRec :=
  match LOP.recOf W (k - 1) C.length 0 1 col (bubVs W (k - 1) [] [] β false) with
  | some (some r) => r
  | _ => default

namespace DFam

variable {k : Nat} {F : List UInt8} {B : List (Nat × Nat)} {C : List (List Bool)}

/-- the pieces at the rightmost placement as windows of `F`, as `dexpFw` spells them (`lets_win_rv`: at the leftmost
placement, as `dexpRv` spells them) -/
theorem lets_win_fw (h : DFam k F B C) {t : Nat} (ht : t < B.length) :
    lE k F B t = win F (eX k F B t) (k - 1) ∧ lI k F B t = win F (bS B t + shf k F B t) (B.getD t (0, 0)).2 ∧
      lX k F B t = win F (bE B t + shf k F B t) (k - 1 - shf k F B t) := by
  have hN := (h.eX_pos ht).2
  have hs := h.sh_lt ht
  have hE : bE B t = bS B t + (B.getD t (0, 0)).2 := rfl
  refine ⟨lets_range' F _ _ (h.valid_en ht), ?_, lets_range' F _ _ (by omega)⟩
  rw [lI, hE, Nat.add_sub_cancel_left]
  exact lets_range' F _ _ (by omega)

theorem lets_win_rv (h : DFam k F B C) {t : Nat} (ht : t < B.length) :
    lE2 k F B t = win F (eX k F B t) (k - 1 - shf k F B t) ∧ lI2 F B t = win F (bS B t) (B.getD t (0, 0)).2 ∧
      lX2 k F B t = win F (bE B t) (k - 1) := by
  have hE : bE B t = bS B t + (B.getD t (0, 0)).2 := rfl
  refine ⟨?_, ?_, lets_range' F _ _ (h.valid_ex ht)⟩
  · obtain ⟨n, a, g⟩ := h.geo ht
    rw [lE2, g.beforeBlock, ← g.entry, Nat.add_sub_cancel]
    exact lets_range' F _ _
      (Nat.le_trans (Nat.add_le_add_left (Nat.le_of_add_right_le (Nat.le_of_eq g.entry)) _) (h.valid_en ht))
  · rw [lI2, hE, Nat.add_sub_cancel_left]
    exact lets_range' F _ _ (Nat.le_trans (Nat.le_add_right _ _) (h.eX_pos ht).2)

theorem recFw_eq (h : DFam k F B C) {t : Nat} (ht : t < B.length) :
    recFw k F B C t = dexpRec k F B C t false := by
  obtain ⟨e1, e2, e3⟩ := h.lets_win_fw ht
  unfold recFw indelRec dexpRec expRec dexpFw
  rw [e1, e2, e3, calls_eq, keepIdx_length, delIdx_length]
  simp only [Bool.false_eq_true, if_false, gt_iff_lt, decide_eq_true_eq]
  rfl

theorem recRv_eq (h : DFam k F B C) {t : Nat} (ht : t < B.length) :
    recRv k F B C t = dexpRec k F B C t true := by
  obtain ⟨e1, e2, e3⟩ := h.lets_win_rv ht
  unfold recRv indelRec dexpRec expRec dexpRv
  rw [e1, e2, e3, calls_eq, keepIdx_length, delIdx_length]
  simp only [if_true, gt_iff_lt, decide_eq_true_eq]
  rfl

end DFam

namespace Ctx

variable {W k : Nat} {F : List UInt8} {B : List (Nat × Nat)} {C : List (List Bool)} {a : Arr} {names : List String}

theorem recOfBub_fwd (cx : Ctx W k F B C a names) {t : Nat} (ht : t < B.length) :
    recOfBub W k C (buildGraph W a).2 (fwdBub k F B t) = recFw k F B C t := by
  unfold recOfBub
  rw [cx.recOf_fwd 0 1 [] [] ht false]

theorem recOfBub_rev (cx : Ctx W k F B C a names) {t : Nat} (ht : t < B.length) :
    recOfBub W k C (buildGraph W a).2 (revBub k F B t) = recRv k F B C t := by
  unfold recOfBub
  rw [cx.recOf_rev 0 1 [] [] ht false]

theorem lo_dfam (cx : Ctx W k F B C a names) (mNum mDen ik maxDepth : Nat) :
    ∃ recs, lo W k C.length mNum mDen ik maxDepth a = some ([], recs) ∧ RecsMatch k F B C recs := by
  have hrec : ∀ starts ends, ∀ β ∈ allBubs k F B, ∀ o,
      LOP.recOf W (k - 1) C.length mNum mDen (buildGraph W a).2 (bubVs W (k - 1) starts ends β o) =
        some (some (recOfBub W k C (buildGraph W a).2 β)) := by
    intro starts ends β hβ o
    obtain ⟨t, ht, rfl | rfl⟩ := (mem_allBubs k F B β).mp hβ
    · rw [cx.recOfBub_fwd ht]; exact cx.recOf_fwd mNum mDen starts ends ht o
    · rw [cx.recOfBub_rev ht]; exact cx.recOf_rev mNum mDen starts ends ht o
  obtain ⟨starts, ends, recs, flips, hid, han, hfl, hperm⟩ :=
    lo_bubbles cx.bg cx.twins cx.h.armLen cx.far cx.hcol (recOfBub W k C (buildGraph W a).2) hrec ik maxDepth
  refine ⟨recs, ?_, flips, ?_, ?_⟩
  · unfold lo
    simp only [Option.bind_eq_bind]
    rw [hid]
    simp only [Option.bind_some]
    exact han
  · rw [hfl]; simp [pairsOf]
  · refine hperm.trans (List.Perm.of_eq ?_)
    have hlen : flips.length = B.length := by rw [hfl]; simp [pairsOf]
    unfold pairsOf
    rw [List.range_eq_range', ← hlen, ZipFilter.zip_range_zipIdx]
    apply List.map_congr_left
    intro ft hft
    have hlt : ft.2 < B.length := by
      have := List.mem_zipIdx hft
      omega
    cases hf : ft.1 with
    | false =>
      simp only [Bool.false_eq_true, if_false]
      rw [cx.recOfBub_fwd hlt, cx.h.recFw_eq hlt]
    | true =>
      simp only [if_true]
      rw [cx.recOfBub_rev hlt, cx.h.recRv_eq hlt]

end Ctx

theorem indelRec_beq_iff (a b : IndelRec) : (a == b) = true ↔ a = b := by
  cases a; cases b
  constructor
  · intro h
    simp only [BEq.beq] at h
    unfold instBEqIndelRec.beq at h
    simp at h
    simp [h]
  · intro h
    rw [h]
    simp only [BEq.beq]
    unfold instBEqIndelRec.beq
    simp

theorem drecsMatchB_iff (k : Nat) (F : List UInt8) (B : List (Nat × Nat)) (C : List (List Bool)) (recs : List IndelRec) :
    drecsMatchB k F B C recs = true ↔ recs.length = B.length ∧ ∀ t, t < B.length →
      (recs.filter (fun r => r == dexpRec k F B C t false || r == dexpRec k F B C t true)).length = 1 := by
  unfold drecsMatchB
  rw [Bool.and_eq_true, decide_eq_true_eq, List.all_eq_true]
  simp only [List.mem_range, beq_iff_eq]

namespace DFam

variable {k : Nat} {F : List UInt8} {B : List (Nat × Nat)} {C : List (List Bool)}

theorem before_fw (h : DFam k F B C) {t : Nat} (ht : t < B.length) :
    (dexpRec k F B C t false).before = lets F (Nd.cols k B (.c (eX k F B t))) := by
  rw [← h.recFw_eq ht]; rfl

theorem before_rv (h : DFam k F B C) {t : Nat} (ht : t < B.length) :
    (dexpRec k F B C t true).before = rcSeq (lets F (Nd.cols k B (.c (bE B t)))) := by
  rw [← h.recRv_eq ht]; rfl

theorem dexp_inj (h : DFam k F B C) {t t' : Nat} (ht : t < B.length) (ht' : t' < B.length) {f f' : Bool}
    (e : dexpRec k F B C t f = dexpRec k F B C t' f') : t = t' := by
  have hv1 : (Nd.c (eX k F B t)).valid k F.length B (shf k F B) := h.valid_en ht
  have hv1' : (Nd.c (eX k F B t')).valid k F.length B (shf k F B) := h.valid_en ht'
  have hv2 : (Nd.c (bE B t)).valid k F.length B (shf k F B) := h.valid_ex ht
  have hv2' : (Nd.c (bE B t')).valid k F.length B (shf k F B) := h.valid_ex ht'
  have eb := congrArg IndelRec.before e
  cases f <;> cases f'
  · rw [h.before_fw ht, h.before_fw ht'] at eb
    have hc := (h.uniq _ (h.cols_mem hv1) _ (h.cols_mem hv1')).1 eb
    rw [h.canon_valid hv1, h.canon_valid hv1'] at hc
    exact h.eX_inj ht ht' (Nd.c.inj (h.cols_inj hv1 hv1' hc))
  · rw [h.before_fw ht, h.before_rv ht'] at eb
    exact absurd eb (h.uniq _ (h.cols_mem hv1) _ (h.cols_mem hv2')).2
  · rw [h.before_rv ht, h.before_fw ht'] at eb
    exact absurd eb.symm (h.uniq _ (h.cols_mem hv1') _ (h.cols_mem hv2)).2
  · rw [h.before_rv ht, h.before_rv ht'] at eb
    have e2 := rcSeq_inj (h.lets_ok hv2).1 (h.lets_ok hv2').1 eb
    have hc := (h.uniq _ (h.cols_mem hv2) _ (h.cols_mem hv2')).1 e2
    rw [h.canon_valid hv2, h.canon_valid hv2'] at hc
    exact h.bE_inj ht ht' (Nd.c.inj (h.cols_inj hv2 hv2' hc))

theorem drecsMatchB_of (h : DFam k F B C) {recs : List IndelRec} (hd : RecsMatch k F B C recs) :
    drecsMatchB k F B C recs = true := by
  obtain ⟨flips, hfl, hperm⟩ := hd
  rw [drecsMatchB_iff]
  constructor
  · rw [hperm.length_eq]; simp [hfl]
  · intro t ht
    rw [(hperm.filter _).length_eq, ← List.countP_eq_length_filter, List.countP_map]
    have hcongr : (flips.zipIdx).countP ((fun r => r == dexpRec k F B C t false || r == dexpRec k F B C t true) ∘
        (fun ft => dexpRec k F B C ft.2 ft.1)) = (flips.zipIdx).countP (fun ft => ft.2 == t) := by
      apply List.countP_congr
      intro ft hft
      have hlt : ft.2 < B.length := by
        have := List.mem_zipIdx hft
        omega
      simp only [Function.comp, Bool.or_eq_true, indelRec_beq_iff]
      show (dexpRec k F B C ft.2 ft.1 = _ ∨ dexpRec k F B C ft.2 ft.1 = _) ↔ (ft.2 == t) = true
      rw [beq_iff_eq]
      constructor
      · rintro (e | e) <;> exact h.dexp_inj hlt ht e
      · intro e
        subst e
        cases ft.1
        · exact Or.inl rfl
        · exact Or.inr rfl
    rw [hcongr, ZipFilter.countP_zipIdx_snd, if_pos (by omega)]

end DFam

end SkaModel.LOE
