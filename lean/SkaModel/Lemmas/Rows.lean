/-
Row-level facts used by the `MDict.append` / `MDict.merge` proofs.
-/
namespace SkaModel.Rows

theorem getD_set {α : Type} (row : List α) (idx i : Nat) (b dflt : α) (h : idx < row.length) :
    (row.set idx b).getD i dflt = if i = idx then b else row.getD i dflt := by
  simp only [List.getD_eq_getElem?_getD, List.getElem?_set]
  by_cases e : idx = i
  · subst e; simp [h]
  · have e' : ¬ i = idx := fun x => e x.symm
    simp [e, e']

theorem getD_replicate_zero (n i : Nat) : (List.replicate n (0 : UInt8)).getD i 0 = 0 := by
  simp only [List.getD_eq_getElem?_getD, List.getElem?_replicate]
  by_cases h : i < n <;> simp [h]

theorem getD_of_le (row : List UInt8) (i : Nat) (h : row.length ≤ i) : row.getD i 0 = 0 := by
  simp [List.getD_eq_getElem?_getD, List.getElem?_eq_none h]

/-- `merge` updates names and rows alike: combine the common prefix pairwise, keep the rest of the
first list -/
def zipPad {α : Type} (f : α × α → α) (l₁ l₂ : List α) : List α :=
  let z := (l₁.zip l₂).map f
  z ++ l₁.drop z.length

theorem zipPad_length {α : Type} (f : α × α → α) (l₁ l₂ : List α) : (zipPad f l₁ l₂).length = l₁.length := by
  simp only [zipPad, List.length_append, List.length_map, List.length_zip, List.length_drop]
  exact Nat.add_sub_of_le (Nat.min_le_left _ _)

theorem zipPad_getD {α : Type} (f : α × α → α) (l₁ l₂ : List α) (h : l₁.length = l₂.length) (dflt : α) (i : Nat)
    (hi : i < l₁.length) : (zipPad f l₁ l₂).getD i dflt = f (l₁.getD i dflt, l₂.getD i dflt) := by
  have hz : ((l₁.zip l₂).map f).length = l₁.length := by simp [List.length_zip, h]
  have hd : l₁.drop ((l₁.zip l₂).map f).length = [] := by rw [hz]; simp
  have hi2 : i < l₂.length := h ▸ hi
  have : (l₁.zip l₂)[i]? = some (l₁[i], l₂[i]) := by
    rw [List.getElem?_eq_getElem (by rw [List.length_zip, ← h, Nat.min_self]; exact hi)]
    simp
  simp only [zipPad, hd, List.append_nil, List.getD_eq_getElem?_getD, List.getElem?_map, this,
    List.getElem?_eq_getElem hi, List.getElem?_eq_getElem hi2, Option.map_some, Option.getD_some]

/-- the row update of `merge`: cell-wise `|=` over the common prefix, the rest of `row` untouched -/
def orRow (row r2 : List UInt8) : List UInt8 :=
  zipPad (fun ab => ab.1 ||| ab.2) row r2

theorem orRow_length (row r2 : List UInt8) : (orRow row r2).length = row.length :=
  zipPad_length _ row r2

/-- beyond the end both sides read the default `0 = 0 ||| 0` -/
theorem orRow_getD (row r2 : List UInt8) (h : row.length = r2.length) (i : Nat) :
    (orRow row r2).getD i 0 = row.getD i 0 ||| r2.getD i 0 := by
  by_cases hi : i < row.length
  · exact zipPad_getD _ row r2 h 0 i hi
  · have hi1 : row.length ≤ i := Nat.le_of_not_lt hi
    rw [getD_of_le _ i (by rw [orRow_length]; exact hi1), getD_of_le row i hi1,
      getD_of_le r2 i (h ▸ hi1)]
    decide

theorem ext_getD {α : Type} (dflt : α) (l₁ l₂ : List α) (hl : l₁.length = l₂.length)
    (h : ∀ i, i < l₁.length → l₁.getD i dflt = l₂.getD i dflt) : l₁ = l₂ := by
  apply List.ext_getElem hl
  intro i h1 h2
  have := h i h1
  simpa [List.getD_eq_getElem?_getD, List.getElem?_eq_getElem h1, List.getElem?_eq_getElem h2] using this

end SkaModel.Rows
