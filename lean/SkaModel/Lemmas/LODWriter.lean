/-
C17 (second sentence) — through the writer `create_fasta_and_vcf`: given the sites of a planted family with their
true columns, in any order, and the ancestor as reference, the SNP alignment and the VCF records (site, reference
base, true column) are in coordinate order, one per site, and every pseudo-genome IS the sample.
-/
import SkaModel.Lemmas.LODDefs
import SkaModel.Lemmas.LOCPlant
import SkaModel.Lemmas.LOWriter

namespace SkaModel.LOD

open SkaModel SkaModel.Spec SkaModel.Props.C16 SkaModel.Skalo SkaModel.LOC

theorem san_base {b : UInt8} (h : isBase b = true) : LOW.san b = b := by
  rcases isBase_cases h with rfl | rfl | rfl | rfl <;> decide

variable {k L : Nat} {A : List UInt8} {S : List (List UInt8)} {P : List Nat}

theorem truePlaced_fst (S : List (List UInt8)) (P : List Nat) : (truePlaced S P).map (·.1) = P := by
  unfold truePlaced
  rw [List.map_map]
  exact List.map_id _

theorem col_getD {i : Nat} (hi : i < S.length) (p : Nat) (d : UInt8) :
    (S.map (fun s => s.getD p 0)).getD i d = S[i].getD p 0 := by
  rw [List.getD_eq_getElem?_getD, List.getElem?_map, List.getElem?_eq_getElem hi]
  rfl

theorem placed_nodup (pf : PFam k L S P) (hk : 1 ≤ k) {placed : List (Nat × List UInt8)}
    (hp : placed.Perm (truePlaced S P)) : (placed.map (·.1)).Nodup :=
  (hp.map (·.1)).nodup_iff.mpr (by
    rw [truePlaced_fst]
    exact (pf.sorted hk).imp (fun h => Nat.ne_of_lt h))

/-- the writer sorts the placed columns back into coordinate order -/
theorem sorted_placed (pf : PFam k L S P) (hk : 1 ≤ k) {placed : List (Nat × List UInt8)}
    (hp : placed.Perm (truePlaced S P)) : sortByKey (·.1) placed = truePlaced S P := by
  refine sortByKey_eq_of_perm _ hp ?_
  unfold truePlaced
  rw [List.pairwise_map]
  exact pf.sorted hk

theorem writer_planted (pfA : PFam k L (A :: S) P) (pf : PFam k L S P) (hk : 1 ≤ k) (hL : 0 < L)
    {placed : List (Nat × List UInt8)} (hp : placed.Perm (truePlaced S P)) :
    createFastaAndVcf A S.length placed =
      { snpSeqs := S.map (fun s => P.map (fun p => s.getD p 0)),
        pseudo := some S,
        vcf := P.map (fun p => (p, A.getD p 0, S.map (fun s => s.getD p 0))) } := by
  have hAm : A ∈ A :: S := List.mem_cons_self ..
  have hlA := pfA.len hAm
  have hAe : A.isEmpty = false := by cases A with
    | nil => exact absurd hlA (Nat.ne_of_lt hL)
    | cons _ _ => rfl
  have hPL : ∀ p ∈ P, p < A.length := fun p hp' =>
    hlA ▸ pf.site_lt hp'
  have hsan : ∀ q, q < A.length → (A.map LOW.san).getD q 0 = A.getD q 0 := fun q hq => by
    rw [LOW.getD_map_san A q hq, san_base (pfA.base hAm _ (getD_mem hq))]
  have hs : LOW.SSorted (truePlaced S P) := List.pairwise_map.2 (pf.sorted hk)
  -- the closed form of the writer on the columns in coordinate order; what is left is one equation per output
  rw [LOW.createFastaAndVcf_closed A S.length placed (placed_nodup pf hk hp) (fun _ v hv => by
      obtain ⟨p, hp', rfl⟩ := List.mem_map.mp (hp.mem_iff.mp hv)
      exact hPL p hp'),
    sorted_placed pf hk hp, hAe]
  simp only [Bool.false_eq_true, if_false]
  congr 1
  · refine LO.map_range_eq S _ _ fun i hi => ?_
    unfold truePlaced
    rw [List.map_map]
    exact List.map_congr_left fun p _ => col_getD hi p 45
  · congr 1
    refine LO.map_range_self S _ fun i hi => ?_
    have hSi : S[i] ∈ S := List.getElem_mem hi
    have hl : S[i].length = A.length := (pf.len hSi).trans hlA.symm
    rw [← hl]
    refine LO.map_range_self S[i] _ fun q hq => ?_
    rw [← getD_eq_getElem S[i] 0 hq]
    by_cases hqP : q ∈ P
    · exact (LOW.charAt_of_mem _ hs (v := (q, S.map (fun s => s.getD q 0)))
        (List.mem_map.2 ⟨q, hqP, rfl⟩) i).trans (col_getD hi q 45)
    · rw [LOW.charAt_of_not_mem _ (fun v hv e => by
          obtain ⟨p, hp', rfl⟩ := List.mem_map.1 hv
          exact hqP (e ▸ hp')), hsan q (hl ▸ hq)]
      exact (pfA.off S[i] (List.mem_cons_of_mem _ hSi) A hAm q (hlA ▸ hl ▸ hq) hqP).symm
  · unfold LOW.vcfOf truePlaced
    rw [List.map_map]
    refine List.map_congr_left fun p hp' => ?_
    simp only [Function.comp]
    rw [hsan p (hPL p hp')]

theorem truePlaced_mirror (pf : PFam k L S P) :
    truePlaced (rcFam S) (mirrorP L P) = (truePlacedRc L S P).reverse := by
  unfold truePlaced truePlacedRc mirrorP rcFam
  rw [List.map_reverse, List.map_map]
  congr 1
  apply List.map_congr_left
  intro p hp
  simp only [Function.comp, List.map_map, Prod.mk.injEq, true_and]
  apply List.map_congr_left
  intro s hs
  simp only [Function.comp]
  exact pf.getD_mirror_site hs hp

theorem writer_planted_rc (pfA : PFam k L (A :: S) P) (pf : PFam k L S P) (hk : 1 ≤ k) (hL : 0 < L)
    {placed : List (Nat × List UInt8)} (hp : placed.Perm (truePlacedRc L S P)) :
    createFastaAndVcf (rcSeq A) S.length placed =
      { snpSeqs := (rcFam S).map (fun s => (mirrorP L P).map (fun p => s.getD p 0)),
        pseudo := some (rcFam S),
        vcf := (mirrorP L P).map (fun p => (p, (rcSeq A).getD p 0, (rcFam S).map (fun s => s.getD p 0))) } := by
  have := writer_planted (A := rcSeq A) (S := rcFam S) (P := mirrorP L P) pfA.mirror pf.mirror hk hL
    (placed := placed) (by
      rw [truePlaced_mirror pf]
      exact hp.trans (List.reverse_perm _).symm)
  rwa [show (rcFam S).length = S.length from List.length_map _] at this

end SkaModel.LOD
