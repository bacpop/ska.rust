/-
C17 completeness — the variant groups reported from the entry node of a site of a strand (`GG`): the group
runs from the site `p` to a later site `p'`; every variant spells windows of samples, all sites between
are marked, and every base a sample shows at such a site is shown by a variant.

Coordinates: those of a site are named in `LOCPlant` (`PFam.entry_add` …).  A window from the site `p` to the site `p'`
is given by the two equations `c0 + (k - 1) = p` and `c0 + len = p' + k`.
-/
import SkaModel.Lemmas.LOCWalk

namespace SkaModel.LOC

open SkaModel SkaModel.Spec SkaModel.Props.C16 SkaModel.Skalo SkaModel.Props.C17G SkaModel.LOG

section

variable {k L : Nat} {T : List (List UInt8)} {PT : List Nat}

/-- a group of variants on the strand `T`: the sequences have `len` letters and start at coordinate `c0` -/
structure GG (k L : Nat) (T : List (List UInt8)) (PT : List Nat) (c0 len : Nat) (vs : List Variant) : Prop where
  hL : c0 + len ≤ L
  hk : 2 * k - 1 ≤ len
  hv : ∀ v ∈ vs, v.1.length = len ∧ AllBase v.1 ∧ ∀ i, i + k ≤ len → ∃ t ∈ T, win v.1 i k = win t (c0 + i) k
  room : ∀ q ∈ PT, c0 ≤ q → q < c0 + len → c0 + (k - 1) ≤ q ∧ q + k ≤ c0 + len
  mark : ∀ q ∈ PT, c0 ≤ q → q < c0 + len → ∃ v ∈ vs, q - c0 ∈ v.2
  cov : ∀ q ∈ PT, c0 ≤ q → q < c0 + len → ∀ t ∈ T, ∃ v ∈ vs, v.1.getD (q - c0) 0 = t.getD q 0

theorem GG.split {c0 len : Nat} {vs : List Variant} (hg : GG k L T PT c0 len vs) {q : Nat} (hq : q ∈ PT)
    (h1 : c0 ≤ q) (h2 : q < c0 + len) : ∃ d e, q = c0 + d ∧ len = d + 1 + e ∧ k - 1 ≤ d ∧ k - 1 ≤ e := by
  obtain ⟨hr1, hr2⟩ := hg.room q hq h1 h2
  obtain ⟨d, rfl⟩ := Nat.exists_eq_add_of_le h1
  obtain ⟨e, rfl⟩ : ∃ e, len = d + 1 + e := Nat.exists_eq_add_of_le (Nat.lt_of_add_lt_add_left h2)
  refine ⟨d, e, rfl, rfl, Nat.le_of_add_le_add_left hr1, Nat.sub_le_of_le_add ?_⟩
  rw [Nat.add_assoc c0, Nat.add_assoc d, Nat.add_comm 1] at hr2
  exact Nat.le_of_add_le_add_left (Nat.le_of_add_le_add_left hr2)

/-- a site `q` of the group is the letter `i + (k - 1)` of the variants; the `k`-mer ending at it starts at the
letter `i`, which stands at the entry coordinate of `q` -/
theorem GG.site (pf : PFam k L T PT) (hk : 1 ≤ k) {c0 len : Nat} {vs : List Variant}
    (hg : GG k L T PT c0 len vs) {q : Nat} (hq : q ∈ PT) (h1 : c0 ≤ q) (h2 : q < c0 + len) :
    ∃ i, q - c0 = i + (k - 1) ∧ q - k + 1 = c0 + i ∧ i + (k - 1) + k ≤ len := by
  obtain ⟨d, e, rfl, rfl, hd, he⟩ := hg.split hq h1 h2
  obtain ⟨i, rfl⟩ := Nat.exists_eq_add_of_le' hd
  refine ⟨i, Nat.add_sub_cancel_left .., Nat.add_right_cancel ((pf.entry_add hk hq).trans (Nat.add_assoc ..).symm), ?_⟩
  rw [Nat.add_assoc _ 1 e, Nat.add_comm 1]
  exact Nat.add_le_add_left (Nat.le_add_of_sub_le he) _

theorem GG.along {c0 len : Nat} {vs : List Variant} (hg : GG k L T PT c0 len vs) {v : Variant} (hv : v ∈ vs)
    {m : Nat} (hm : m ≤ k) : Along m L T c0 len v.1 :=
  have hk := hg.hk
  Along.of_le ⟨(hg.hv v hv).1, (hg.hv v hv).2.1, hg.hL, by omega, (hg.hv v hv).2.2⟩ hm

theorem GG.letter (pf : PFam k L T PT) (hk : 1 ≤ k) {c0 len : Nat} {vs : List Variant}
    (hg : GG k L T PT c0 len vs) {v : Variant} (hv : v ∈ vs) {pos : Nat} (hp : pos < len) :
    ∃ t ∈ T, v.1.getD pos 0 = t.getD (c0 + pos) 0 :=
  (hg.along hv hk).letter (fun _ => pf.len) hp

theorem GG.equal_length {c0 len : Nat} {vs : List Variant}
    (h : GG k L T PT c0 len vs) : ∀ v ∈ vs, ∀ v' ∈ vs, v.1.length = v'.1.length := by
  intro v hv v' hv'
  rw [(h.hv v hv).1, (h.hv v' hv').1]

theorem sites_between : ∀ (qs : List Nat) (p : Nat), SitesOK PT p qs →
    ∀ q ∈ PT, p < q → q ≤ qs.getLastD p → q ∈ qs
  | [], p, _, q, _, h1, h2 => by rw [List.getLastD_nil] at h2; omega
  | q1 :: rest, p, h, q, hq, h1, h2 => by
    by_cases e : q = q1
    · rw [e]; exact List.mem_cons_self ..
    · have h3 : ¬ (p < q ∧ q < q1) := h.1.2.2 q hq
      rw [List.getLastD_cons] at h2
      exact List.mem_cons_of_mem _ (sites_between rest q1 h.2 q hq (by omega) h2)

theorem mem_walkOf (k : Nat) : ∀ (ch : List (Nat × List UInt8)) (t : List UInt8) (p : Nat) (q : Nat)
    (tq : List UInt8), (q, tq) ∈ ch → fN k tq (q - k + 2) ∈ walkOf k t p ch
  | [], _, _, _, _, h => by simp at h
  | (q1, t1) :: rest, t, p, q, tq, h => by
    simp only [walkOf]
    rcases List.mem_cons.mp h with e | h'
    · simp only [Prod.mk.injEq] at e
      rw [e.1, e.2]
      simp
    · have := mem_walkOf k rest t1 q1 q tq h'
      simp [this]

theorem last_arm_mem (k : Nat) : ∀ (ch : List (Nat × List UInt8)) (t : List UInt8) (p : Nat),
    fN k ((ch.map (·.2)).getLastD t) ((ch.map (·.1)).getLastD p - k + 2) ∈ fN k t (p - k + 2) :: walkOf k t p ch
  | [], t, p => List.mem_cons_self ..
  | (q, tq) :: rest, t, p => by
    have := last_arm_mem k rest tq q
    simp only [List.map_cons, List.getLastD_cons, walkOf, List.mem_cons] at this ⊢
    rcases this with h | h
    · right; right; right; right; left
      exact h
    · right; right; right; right; right
      exact h

theorem mem_armPath (comp : List (Nat × List Nat)) (k : Nat) (t : List UInt8) (p : Nat) (t2 : List UInt8)
    (ch : List (Nat × List UInt8)) {x : Nat} (h : x ∈ fN k t2 (p - k + 2) :: walkOf k t2 p ch) :
    x ∈ armPath comp k t p t2 ch := by
  unfold armPath pathOf
  rcases List.mem_cons.mp h with e | h
  · rw [e]; simp
  · exact List.mem_append_right _ (List.mem_flatMap.mpr ⟨x, h, List.mem_cons_self ..⟩)

theorem map_fst_const (qs : List Nat) (b : List UInt8) : (qs.map (fun q => (q, b))).map (·.1) = qs := by
  rw [List.map_map]
  exact List.map_id' _

theorem const_samples {b : List UInt8} (hb : b ∈ T) (qs : List Nat) :
    ∀ x ∈ qs.map (fun q => (q, b)), x.2 ∈ T := by
  intro x hx
  obtain ⟨q, _, rfl⟩ := List.mem_map.mp hx
  exact hb

end

namespace Strand

variable {k L : Nat} {g : Graph} {T T' : List (List UInt8)} {PT PT' : List Nat}

theorem paths_exit (st : Strand k L g T PT T' PT') {starts ends : List Nat}
    (ex : Ext k starts ends T PT T' PT') (maxDepth : Nat) {t : List UInt8} (ht : t ∈ T) {p : Nat} (hp : p ∈ PT)
    {e : Nat} {paths : List (List Nat)}
    (hmem : (e, paths) ∈ pathsFrom (compactGraph g starts ends).1 (compactGraph g starts ends).2 ends maxDepth
      (fN k t (p - k + 1))) :
    ∃ p' ∈ PT, p ≤ p' ∧ e = fN k t (p' + 1) ∧
      ∀ pth, pth ∈ paths ↔ ∃ t2 ∈ T, ∃ ch : List (Nat × List UInt8), SitesOK PT p (ch.map (·.1)) ∧
        (∀ x ∈ ch, x.2 ∈ T) ∧ ch.length ≤ maxDepth ∧ (ch.map (·.1)).getLastD p = p' ∧
        pth = armPath (compactGraph g starts ends).2 k t p t2 ch := by
  obtain ⟨p0, hp0⟩ := List.exists_mem_of_ne_nil _ ((mem_pathsFrom _ _ _ _ _ _ _).mp hmem).1
  obtain ⟨t0, ht0, ch0, hs0, hT0, hl0, he0⟩ :=
    (st.found_strand ex maxDepth _ ht hp (e, p0)).mp ((mem_pathsFrom_paths hmem p0).mp hp0)
  obtain ⟨rfl, -⟩ := Prod.mk.inj he0
  obtain ⟨hlm, hle⟩ := sitesOK_last _ p hp hs0
  refine ⟨_, hlm, hle, rfl, fun pth => ?_⟩
  rw [mem_pathsFrom_paths hmem, st.found_strand ex maxDepth _ ht hp]
  constructor
  · rintro ⟨t2, ht2, ch, h1, h2, h3, he⟩
    obtain ⟨e1, rfl⟩ := Prod.mk.inj he
    -- the exit node determines the last site
    have hlm' := (sitesOK_last _ p hp h1).1
    exact ⟨t2, ht2, ch, h1, h2, h3, (Nat.add_right_cancel (st.node_level ht ht (add_pred_le (st.pf.exit_fit hlm))
      (add_pred_le (st.pf.exit_fit hlm')) e1).1).symm, rfl⟩
  · rintro ⟨t2, ht2, ch, h1, h2, h3, hl, rfl⟩
    exact ⟨t2, ht2, ch, h1, h2, h3, by rw [hl]⟩

theorem paths_walk (st : Strand k L g T PT T' PT') {starts ends : List Nat}
    (ex : Ext k starts ends T PT T' PT') (maxDepth : Nat) {t : List UInt8} (ht : t ∈ T) {p : Nat} (hp : p ∈ PT)
    {p' : Nat} (hp' : p' ∈ PT) (hpp' : p ≤ p') {paths : List (List Nat)}
    (hmem : (fN k t (p' + 1), paths) ∈ pathsFrom (compactGraph g starts ends).1 (compactGraph g starts ends).2 ends
      maxDepth (fN k t (p - k + 1))) :
    ∃ m, p - k + 1 + m = p' ∧
      ∀ pth ∈ paths, Walk g pth ∧ pth.head? = some (fN k t (p - k + 1)) ∧ pth.length = m + 2 := by
  have hc0 : p - k + 1 + (k - 1) ≤ L := add_pred_le (st.pf.entry_fit hp)
  have hexit := add_pred_le (st.pf.exit_fit hp')
  obtain ⟨m, hm⟩ := Nat.exists_eq_add_of_le (Nat.le_trans (Nat.le.intro (st.pf.entry_add st.k1 hp)) hpp')
  refine ⟨m, hm.symm, fun pth hpth => ?_⟩
  have hck := (st.compact_ext ex ht hc0 (List.mem_append_left _ (ex.entry_mem ht hp))).2
  have hce := (st.compact_ext ex ht hexit (List.mem_append_right _ (ex.exit_mem ht hp'))).2
  have hw := pathsFrom_walk (T17_compact_sound g starts ends) hck hmem pth hpth
  -- the path runs from the entry node to the exit node, one coordinate per step
  obtain ⟨_, s, q, _, e1⟩ := pathsFrom_shape hmem pth hpth
  have hh : pth.head? = some (fN k t (p - k + 1)) := by rw [e1]; rfl
  have hlast : pth[pth.length - 1]? = some (fN k t (p' + 1)) := by
    have hi : interior (compactGraph g starts ends).2 (fN k t (p' + 1)) = [] := by
      unfold interior; rw [hce]; rfl
    rw [hi] at e1
    rw [← List.getLast?_eq_getElem?, e1, List.getLast?_concat]
  obtain ⟨n, hn⟩ : ∃ n, pth.length = n + 1 := ⟨pth.length - 1, by rw [e1]; simp⟩
  rw [hn, Nat.add_sub_cancel] at hlast
  obtain ⟨tl, htl, hel, hlvl⟩ := st.walk_levels pth t _ ht hc0 hw hh n _ hlast
  have hlev := (st.node_level ht htl hexit hlvl hel).1
  rw [hm, Nat.add_assoc] at hlev
  exact ⟨hw, hh, by rw [hn, ← Nat.add_left_cancel hlev]⟩

theorem group_good (st : Strand k L g T PT T' PT') {starts ends : List Nat}
    (ex : Ext k starts ends T PT T' PT') {W : Nat} (hW : 2 * k ≤ W) (maxDepth : Nat)
    {t : List UInt8} (ht : t ∈ T) {p : Nat} (hp : p ∈ PT) {grp : (Nat × Nat) × List Variant}
    (hgrp : grp ∈ groupsFrom W (k - 1) (compactGraph g starts ends).1 (compactGraph g starts ends).2
      starts ends maxDepth (fN k t (p - k + 1))) :
    ∃ c0 len, GG k L T PT c0 len grp.2 ∧ c0 ≤ p ∧ p < c0 + len := by
  have hk5 := st.k5
  obtain ⟨_, e, paths, hmem, _, _, hg⟩ := (mem_groupsFrom _ _ _ _ _ _ _ _ grp).mp hgrp
  obtain ⟨p', hp', hpp', rfl, hiff⟩ := st.paths_exit ex maxDepth ht hp hmem
  obtain ⟨m, hm, hwalk⟩ := st.paths_walk ex maxDepth ht hp hp' hpp' hmem
  have hne : paths ≠ [] := ((mem_pathsFrom _ _ _ _ _ _ _).mp hmem).1
  obtain ⟨p0, hp0⟩ := List.exists_mem_of_ne_nil _ hne
  rw [filtered_all hne (fun p1 h => (hwalk p1 h).2.2)] at hg
  subst hg
  -- the window: `c0 + (k - 1) = p` and `c0 + len = p' + k` with `len = m + k`, the length of the sequences
  have hc := st.pf.entry_add st.k1 hp
  have hl : p - k + 1 + (m + k) = p' + k := by rw [← Nat.add_assoc, hm]
  have hlen : m + 1 + 1 + (k - 1) - 1 = m + k := by
    rw [Nat.add_right_comm, Nat.add_sub_cancel, Nat.add_assoc, Nat.add_sub_cancel' st.k1]
  have hc0 : p - k + 1 + (k - 1) ≤ L := add_pred_le (st.pf.entry_fit hp)
  have hsite : ∀ q ∈ PT, p - k + 1 ≤ q → q < p - k + 1 + (m + k) → p ≤ q ∧ q ≤ p' := fun q hq h1 h2 =>
    -- `p = c0 + (k - 1) ≤ q + (k - 1) < q + k`, and `q < c0 + len = p' + k`
    st.pf.site_between hp hp' hq
      (Nat.lt_of_le_of_lt (Nat.le_of_eq hc.symm) (Nat.lt_of_le_of_lt (Nat.add_le_add_right h1 (k - 1))
        (Nat.add_lt_add_left (Nat.sub_lt st.k1 Nat.one_pos) q)))
      (hl ▸ h2)
  refine ⟨p - k + 1, m + k,
    { hL := hl ▸ st.pf.site_fit hp', hk := Nat.sub_le_of_le_add ?_, hv := ?_, room := ?_, mark := ?_, cov := ?_ },
    Nat.le.intro hc, by rw [hl]; exact Nat.lt_of_le_of_lt hpp' (Nat.lt_add_of_pos_right st.k1)⟩
  · -- `k - 1 ≤ m` since `p ≤ p'`
    have hkm : k - 1 ≤ m := Nat.le_of_add_le_add_left (a := p - k + 1) (by rw [hc, hm]; exact hpp')
    rw [Nat.two_mul, Nat.add_right_comm]
    exact Nat.add_le_add_right (Nat.le_add_of_sub_le hkm) k
  · intro v hv
    obtain ⟨p1, hp1, rfl⟩ := List.mem_map.mp hv
    obtain ⟨hw1, hh1, hl1⟩ := hwalk p1 hp1
    obtain ⟨h1, h2, _, h4⟩ := st.variant_spec hW starts ends ht hc0 hw1 hh1
    rw [hl1, hlen] at h1 h4
    exact ⟨h1, h2, h4⟩
  · intro q hq h1 h2
    obtain ⟨h3, h4⟩ := hsite q hq h1 h2
    exact ⟨by rw [hc]; exact h3, by rw [hl]; exact Nat.add_le_add_right h4 k⟩
  · intro q hq h1 h2
    obtain ⟨h3, h4⟩ := hsite q hq h1 h2
    obtain ⟨hw0, hh0, hl0⟩ := hwalk p0 hp0
    refine ⟨_, List.mem_map.mpr ⟨p0, hp0, rfl⟩,
      st.variant_mark ex W ht hc0 hw0 hh0 hq (by rw [hc]; exact h3) (Nat.sub_le_of_le_add ?_)⟩
    -- `q ≤ p' = c0 + m`
    rw [hl0, Nat.add_comm]
    exact Nat.le_trans h4 (Nat.le_trans (Nat.le_of_eq hm.symm) (Nat.add_le_add_left (Nat.le_add_right m 2) _))
  · intro q hq h1 h2 tq htq
    obtain ⟨h3, h4⟩ := hsite q hq h1 h2
    obtain ⟨_, _, ch, hs, _, hdep, hlast, _⟩ := (hiff p0).mp hp0
    -- the path through the arms of `tq` at `p` and at all the sites crossed
    have hpth := (hiff (armPath (compactGraph g starts ends).2 k t p tq ((ch.map (·.1)).map (fun q => (q, tq))))).mpr
      ⟨tq, htq, _, by rw [map_fst_const]; exact hs, const_samples htq _,
        by rw [List.length_map, List.length_map]; exact hdep, by rw [map_fst_const]; exact hlast, rfl⟩
    obtain ⟨hw3, hh3, _⟩ := hwalk _ hpth
    have e := st.pf.arm_add st.k2 hq
    have hqL := st.pf.arm_fit st.k2 hq
    have := st.variant_letter hW starts ends ht hc0 hw3 hh3 htq hqL (mem_armPath _ k t p tq _ ?_) (m := k - 2)
      (Nat.sub_lt_sub_left (Nat.lt_of_lt_of_le (by decide) hk5) (by decide))
    · rw [e] at this
      exact ⟨_, List.mem_map.mpr ⟨_, hpth, rfl⟩, this⟩
    · rcases Nat.eq_or_lt_of_le h3 with e | hlt
      · rw [e]; exact List.mem_cons_self ..
      · exact List.mem_cons_of_mem _ (mem_walkOf k _ tq p q tq
          (List.mem_map.mpr ⟨q, sites_between _ p hs q hq hlt (by rw [hlast]; exact h4), rfl⟩))

end Strand

end SkaModel.LOC
