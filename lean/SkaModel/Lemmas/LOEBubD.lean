/-
C18 completeness — the bubbles of the graph of a deletion family: for every block the bubble of the samples'
strand (from the node before the block to the node after it; one arm through the block, one arm of jumping
windows) and its twin on the other strand.  Every field of `BG` for the bubble of the samples' strand is a fact
about the `RE`-successors (or predecessors) of its nodes; the same field of the twin is the mirrored fact about
`RE`-predecessors, read on the other strand.
-/
import SkaModel.Lemmas.LOESuccD

namespace SkaModel.LOE

open SkaModel SkaModel.Spec SkaModel.Props.C16 SkaModel.Skalo SkaModel.Props.C17G SkaModel.LOG SkaModel.LOC

theorem mem_between {e E y : Nat} : y ∈ List.range' (e + 1) (E - e - 1) ↔ e < y ∧ y < E := by
  rw [List.mem_range'_1]
  omega

theorem between_ends (f : Nat → Nat) {e E : Nat} (h : e + 1 < E) (d : Nat) :
    ((List.range' (e + 1) (E - e - 1)).map f).headD d = f (e + 1) ∧
    ((List.range' (e + 1) (E - e - 1)).map f).getLastD d = f (E - 1) ∧
    ((List.range' (e + 1) (E - e - 1)).reverse.map f).headD d = f (E - 1) ∧
    ((List.range' (e + 1) (E - e - 1)).reverse.map f).getLastD d = f (e + 1) := by
  obtain ⟨n, rfl⟩ := Nat.exists_eq_add_of_lt h
  rw [Nat.add_sub_cancel, Nat.sub_sub, Nat.add_assoc (e + 1) n 1, Nat.add_sub_cancel_left]
  refine ⟨rfl, ?_, ?_, ?_⟩
  · rw [range'_snoc, List.map_append, List.map_singleton, List.getLastD_concat]
  · rw [range'_snoc, List.reverse_append]
    rfl
  · rw [List.range'_succ, List.reverse_cons, List.map_append, List.map_singleton, List.getLastD_concat]

theorem chain1_between (g : Graph) (f : Nat → Nat) (z : Nat) {e E : Nat}
    (hstep : ∀ y, e < y → y + 1 < E → Assoc.lookup g (f y) = some [f (y + 1)])
    (hlast : ∀ y, e < y → y + 1 = E → Assoc.lookup g (f y) = some [z]) (h : e + 1 < E) :
    Chain1 g ((List.range' (e + 1) (E - e - 1)).map f ++ [z]) := by
  obtain ⟨n, rfl⟩ := Nat.exists_eq_add_of_lt h
  rw [Nat.sub_sub, Nat.add_assoc (e + 1) n 1, Nat.add_sub_cancel_left]
  clear h
  induction n generalizing e with
  | zero => exact ⟨hlast (e + 1) (Nat.lt_succ_self e) rfl, trivial⟩
  | succ n ih =>
    have hrest := ih (e := e + 1) (fun y h1 h2 => hstep y (Nat.lt_of_succ_lt h1) (by omega))
      (fun y h1 h2 => hlast y (Nat.lt_of_succ_lt h1) (by omega))
    rw [List.range'_succ, List.map_cons, List.cons_append] at hrest ⊢
    rw [List.range'_succ, List.map_cons, List.cons_append]
    exact ⟨hstep (e + 1) (Nat.lt_succ_self e) (by omega), hrest⟩

theorem chain1_between_rev (g : Graph) (f : Nat → Nat) (z : Nat) {e E : Nat}
    (hstep : ∀ y, e < y → y + 1 < E → Assoc.lookup g (f (y + 1)) = some [f y])
    (hlast : Assoc.lookup g (f (e + 1)) = some [z]) (h : e + 1 < E) :
    Chain1 g ((List.range' (e + 1) (E - e - 1)).reverse.map f ++ [z]) := by
  obtain ⟨n, rfl⟩ := Nat.exists_eq_add_of_lt h
  rw [Nat.sub_sub, Nat.add_assoc (e + 1) n 1, Nat.add_sub_cancel_left]
  clear h
  induction n with
  | zero => exact ⟨hlast, trivial⟩
  | succ n ih =>
    have hrest := ih (fun y h1 h2 => hstep y h1 (Nat.lt_succ_of_lt h2))
    rw [range'_snoc, List.reverse_append, List.reverse_singleton, List.singleton_append, List.map_cons,
      List.cons_append]
    rw [range'_snoc, List.reverse_append, List.reverse_singleton, List.singleton_append, List.map_cons,
      List.cons_append] at hrest ⊢
    exact ⟨hstep (e + 1 + n) (by omega) (by omega), hrest⟩

def fwdBub (k : Nat) (F : List UInt8) (B : List (Nat × Nat)) (t : Nat) : Bub :=
  { en := nF k F B (.c (eX k F B t))
    ex := nF k F B (.c (bE B t))
    a := (List.range' (eX k F B t + 1) (bE B t - eX k F B t - 1)).map (fun x => nF k F B (.c x))
    b := (List.range' (eX k F B t + 1) (bS B t - eX k F B t - 1)).map (fun x => nF k F B (.g t x)) }

def revBub (k : Nat) (F : List UInt8) (B : List (Nat × Nat)) (t : Nat) : Bub :=
  { en := nR k F B (.c (bE B t))
    ex := nR k F B (.c (eX k F B t))
    a := (List.range' (eX k F B t + 1) (bE B t - eX k F B t - 1)).reverse.map (fun x => nR k F B (.c x))
    b := (List.range' (eX k F B t + 1) (bS B t - eX k F B t - 1)).reverse.map (fun x => nR k F B (.g t x)) }

def allBubs (k : Nat) (F : List UInt8) (B : List (Nat × Nat)) : List Bub :=
  (List.range B.length).map (fwdBub k F B) ++ (List.range B.length).map (revBub k F B)

theorem mem_allBubs (k : Nat) (F : List UInt8) (B : List (Nat × Nat)) (β : Bub) :
    β ∈ allBubs k F B ↔ ∃ t, t < B.length ∧ (β = fwdBub k F B t ∨ β = revBub k F B t) := by
  unfold allBubs
  simp only [List.mem_append, List.mem_map, List.mem_range]
  constructor
  · rintro (⟨t, ht, rfl⟩ | ⟨t, ht, rfl⟩)
    · exact ⟨t, ht, Or.inl rfl⟩
    · exact ⟨t, ht, Or.inr rfl⟩
  · rintro ⟨t, ht, rfl | rfl⟩
    · exact Or.inl ⟨t, ht, rfl⟩
    · exact Or.inr ⟨t, ht, rfl⟩

theorem forall_allBubs {k : Nat} {F : List UInt8} {B : List (Nat × Nat)} {P : Bub → Prop}
    (h : ∀ t, t < B.length → ∀ β, β = fwdBub k F B t ∨ β = revBub k F B t → P β) : ∀ β ∈ allBubs k F B, P β := by
  intro β hβ
  obtain ⟨t, ht, hβt⟩ := (mem_allBubs k F B β).mp hβ
  exact h t ht β hβt

theorem exists_allBubs (k : Nat) (F : List UInt8) (B : List (Nat × Nat)) (P : Bub → Prop) :
    (∃ β ∈ allBubs k F B, P β) ↔ ∃ t, t < B.length ∧ (P (fwdBub k F B t) ∨ P (revBub k F B t)) := by
  constructor
  · rintro ⟨β, hβ, h⟩
    obtain ⟨t, ht, rfl | rfl⟩ := (mem_allBubs k F B β).mp hβ
    · exact ⟨t, ht, Or.inl h⟩
    · exact ⟨t, ht, Or.inr h⟩
  · rintro ⟨t, ht, h | h⟩
    · exact ⟨_, (mem_allBubs k F B _).mpr ⟨t, ht, Or.inl rfl⟩, h⟩
    · exact ⟨_, (mem_allBubs k F B _).mpr ⟨t, ht, Or.inr rfl⟩, h⟩

theorem bub_lens {k : Nat} {F : List UInt8} {B : List (Nat × Nat)} {t : Nat} {β : Bub}
    (hβ : β = fwdBub k F B t ∨ β = revBub k F B t) :
    β.a.length = bE B t - eX k F B t - 1 ∧ β.b.length = bS B t - eX k F B t - 1 := by
  rcases hβ with rfl | rfl
  · simp only [fwdBub, List.length_map, List.length_range', and_self]
  · simp only [revBub, List.length_map, List.length_reverse, List.length_range', and_self]

section

variable {k : Nat} {F : List UInt8} {B : List (Nat × Nat)}

theorem re_c_succ {x : Nat} (hx : x + k ≤ F.length) (hne : ∀ t', t' < B.length → x ≠ eX k F B t') (n : Nd) :
    RE k F.length B (shf k F B) (.c x) n ↔ n = .c (x + 1) := by
  constructor
  · intro hr
    rcases re_succ_c hr with ⟨rfl, _⟩ | ⟨t', ht', e, _⟩
    · rfl
    · exact absurd e (hne t' ht')
  · rintro rfl
    exact RE.cc x hx

theorem re_c_pred {x : Nat} (hx : x + k ≤ F.length) (hne : ∀ t', t' < B.length → x + 1 ≠ bE B t') (n : Nd) :
    RE k F.length B (shf k F B) n (.c (x + 1)) ↔ n = .c x := by
  constructor
  · intro hr
    rcases re_pred_c hr with ⟨x', rfl, e, _⟩ | ⟨t', ht', _, e⟩
    · rw [Nat.add_right_cancel e]
    · exact absurd e (hne t' ht')
  · rintro rfl
    exact RE.cc x hx

theorem re_g_succ {t x : Nat} (hv : (Nd.g t x).valid k F.length B (shf k F B)) (h2 : x + 1 < bS B t) (n : Nd) :
    RE k F.length B (shf k F B) (.g t x) n ↔ n = .g t (x + 1) := by
  constructor
  · intro hr
    rcases re_succ_g hr with ⟨rfl, _, _⟩ | ⟨e, _⟩
    · rfl
    · omega
  · rintro rfl
    exact RE.gg t x hv.1 hv.2.1 h2

theorem re_g_last {t : Nat} (ht : t < B.length) (n : Nd) :
    RE k F.length B (shf k F B) (.g t (bS B t - 1)) n ↔ n = .c (bE B t) := by
  constructor
  · intro hr
    rcases re_succ_g hr with ⟨_, _, e⟩ | ⟨_, rfl⟩
    · omega
    · rfl
  · rintro rfl
    exact RE.gc t ht

end

namespace DFam

variable {k : Nat} {F : List UInt8} {B : List (Nat × Nat)} {C : List (List Bool)}

theorem arm_lens (h : DFam k F B C) {t : Nat} (ht : t < B.length) {β : Bub}
    (hβ : β = fwdBub k F B t ∨ β = revBub k F B t) :
    1 ≤ β.b.length ∧ β.b.length < β.a.length ∧ β.b.length + 1 ≤ k - 1 := by
  obtain ⟨la, lb⟩ := bub_lens hβ
  obtain ⟨he, hb⟩ := h.ex_lt ht
  have hk := (h.eX_bounds ht).2.2
  omega

theorem valid_a (h : DFam k F B C) {t : Nat} (ht : t < B.length) {x : Nat}
    (hx : x ∈ List.range' (eX k F B t + 1) (bE B t - eX k F B t - 1)) :
    (Nd.c x).valid k F.length B (shf k F B) :=
  h.valid_c ht (Nat.le_trans (Nat.le_of_lt (mem_between.mp hx).2) (Nat.le_add_right _ _))

theorem valid_b (h : DFam k F B C) {t : Nat} (ht : t < B.length) {x : Nat}
    (hx : x ∈ List.range' (eX k F B t + 1) (bS B t - eX k F B t - 1)) :
    (Nd.g t x).valid k F.length B (shf k F B) :=
  h.valid_g ht (mem_between.mp hx).1 (mem_between.mp hx).2

theorem heads_fwd (h : DFam k F B C) {t : Nat} (ht : t < B.length) :
    (fwdBub k F B t).ha = nF k F B (.c (eX k F B t + 1)) ∧
    (fwdBub k F B t).hb = nF k F B (.g t (eX k F B t + 1)) ∧
    (fwdBub k F B t).la = nF k F B (.c (bE B t - 1)) ∧
    (fwdBub k F B t).lb = nF k F B (.g t (bS B t - 1)) := by
  obtain ⟨he, hb⟩ := h.ex_lt ht
  obtain ⟨a1, a2, _⟩ := between_ends (fun x => nF k F B (.c x)) (Nat.lt_trans he hb) 0
  obtain ⟨b1, b2, _⟩ := between_ends (fun x => nF k F B (.g t x)) he 0
  exact ⟨a1, b1, a2, b2⟩

theorem heads_rev (h : DFam k F B C) {t : Nat} (ht : t < B.length) :
    (revBub k F B t).ha = nR k F B (.c (bE B t - 1)) ∧
    (revBub k F B t).hb = nR k F B (.g t (bS B t - 1)) ∧
    (revBub k F B t).la = nR k F B (.c (eX k F B t + 1)) ∧
    (revBub k F B t).lb = nR k F B (.g t (eX k F B t + 1)) := by
  obtain ⟨he, hb⟩ := h.ex_lt ht
  obtain ⟨_, _, a3, a4⟩ := between_ends (fun x => nR k F B (.c x)) (Nat.lt_trans he hb) 0
  obtain ⟨_, _, b3, b4⟩ := between_ends (fun x => nR k F B (.g t x)) he 0
  exact ⟨a3, b3, a4, b4⟩

theorem re_c_in (h : DFam k F B C) {t : Nat} (ht : t < B.length) {x : Nat}
    (h1 : eX k F B t < x) (h2 : x < bE B t) (n : Nd) :
    RE k F.length B (shf k F B) (.c x) n ↔ n = .c (x + 1) := by
  have hb := (h.eX_pos ht).2
  exact re_c_succ (by omega) (fun t' ht' => (h.inner_col ht h1 h2 ht').1) n

theorem re_c_in_pred (h : DFam k F B C) {t : Nat} (ht : t < B.length) {x : Nat}
    (h1 : eX k F B t ≤ x) (h2 : x + 1 < bE B t) (n : Nd) :
    RE k F.length B (shf k F B) n (.c (x + 1)) ↔ n = .c x := by
  have hb := (h.eX_pos ht).2
  exact re_c_pred (by omega) (fun t' ht' => (h.inner_col ht (Nat.lt_succ_of_le h1) h2 ht').2) n

theorem re_en (h : DFam k F B C) {t : Nat} (ht : t < B.length) (n : Nd) :
    RE k F.length B (shf k F B) (.c (eX k F B t)) n ↔ n = .c (eX k F B t + 1) ∨ n = .g t (eX k F B t + 1) := by
  constructor
  · intro hr
    rcases re_succ_c hr with ⟨rfl, _⟩ | ⟨t', ht', e, rfl⟩
    · exact Or.inl rfl
    · have := h.eX_inj ht ht' e
      subst this
      exact Or.inr rfl
  · rintro (rfl | rfl)
    · have hb := (h.eX_pos ht).2
      have := h.ex_lt ht
      exact RE.cc _ (by omega)
    · exact RE.cg t ht

theorem re_ex (h : DFam k F B C) {t : Nat} (ht : t < B.length) (n : Nd) :
    RE k F.length B (shf k F B) n (.c (bE B t)) ↔ n = .c (bE B t - 1) ∨ n = .g t (bS B t - 1) := by
  constructor
  · intro hr
    rcases re_pred_c hr with ⟨x, rfl, e, _⟩ | ⟨t', ht', rfl, e⟩
    · rw [e]
      exact Or.inl rfl
    · have := h.bE_inj ht ht' e
      subst this
      exact Or.inr rfl
  · rintro (rfl | rfl)
    · have hN := (h.eX_pos ht).2
      have := RE.cc (k := k) (N := F.length) (B := B) (m := shf k F B) (bE B t - 1) (by omega)
      rwa [h.bE_pred ht] at this
    · exact RE.gc t ht

theorem re_g_pred (h : DFam k F B C) {t x : Nat} (hv : (Nd.g t x).valid k F.length B (shf k F B))
    (h2 : x + 1 < bS B t) (n : Nd) :
    RE k F.length B (shf k F B) n (.g t (x + 1)) ↔ n = .g t x := by
  constructor
  · intro hr
    obtain ⟨_, hc⟩ := re_pred_g hr
    rcases hc with ⟨_, e⟩ | ⟨x', rfl, e, _, _⟩
    · have hb := (h.bt hv.1).2.2.1
      have := hv.2.1
      omega
    · rw [Nat.add_right_cancel e]
  · rintro rfl
    exact RE.gg t x hv.1 hv.2.1 h2

theorem re_g_first (h : DFam k F B C) {t : Nat} (ht : t < B.length) (n : Nd) :
    RE k F.length B (shf k F B) n (.g t (eX k F B t + 1)) ↔ n = .c (eX k F B t) := by
  constructor
  · intro hr
    obtain ⟨_, hc⟩ := re_pred_g hr
    rcases hc with ⟨rfl, _⟩ | ⟨x', _, e, h3, _⟩
    · rfl
    · have he := (h.eX_bounds ht).1
      have hk5 := h.k5
      omega
  · rintro rfl
    exact RE.cg t ht

theorem nd_arms (h : DFam k F B C) {t : Nat} (ht : t < B.length) {ν : Nd → Nat}
    (inj : ∀ {n n' : Nd}, n.valid k F.length B (shf k F B) → n'.valid k F.length B (shf k F B) → ν n = ν n' → n = n') :
    (ν (.c (eX k F B t)) :: (List.range' (eX k F B t + 1) (bE B t - eX k F B t - 1)).map (fun x => ν (.c x)) ++
      [ν (.c (bE B t))]).Nodup ∧
    (ν (.c (eX k F B t)) :: (List.range' (eX k F B t + 1) (bS B t - eX k F B t - 1)).map (fun x => ν (.g t x)) ++
      [ν (.c (bE B t))]).Nodup := by
  obtain ⟨he, hb⟩ := h.ex_lt ht
  have ea : eX k F B t + 1 + (bE B t - eX k F B t - 1) = bE B t := by omega
  have vcy : ∀ y, y ≤ bE B t → (Nd.c y).valid k F.length B (shf k F B) :=
    fun y hy => h.valid_c ht (Nat.le_trans hy (Nat.le_add_right _ _))
  constructor
  · -- the path through the block is `c (eX t), c (eX t + 1), …, c (bE t)`
    have e : ν (.c (eX k F B t)) :: (List.range' (eX k F B t + 1) (bE B t - eX k F B t - 1)).map (fun x => ν (.c x)) ++
        [ν (.c (bE B t))] = (List.range' (eX k F B t) (bE B t - eX k F B t - 1 + 1 + 1)).map (fun x => ν (.c x)) := by
      rw [List.range'_succ, range'_snoc, List.map_cons, List.map_append, List.map_singleton, ea]
      rfl
    rw [e]
    apply nodup_map_on _ _ List.nodup_range'
    intro x hx y hy hxy
    rw [List.mem_range'_1] at hx hy
    exact Nd.c.inj (inj (vcy x (by omega)) (vcy y (by omega)) hxy)
  · rw [List.cons_append, List.nodup_cons, List.nodup_append]
    refine ⟨?_, ?_, List.pairwise_singleton _ _, ?_⟩
    · intro hm
      rcases List.mem_append.mp hm with hm | hm
      · obtain ⟨y, hy, e⟩ := List.mem_map.mp hm
        exact Nd.noConfusion (inj (h.valid_b ht hy) (h.valid_en ht) e)
      · have := Nd.c.inj (inj (h.valid_en ht) (h.valid_ex ht) (List.mem_singleton.mp hm))
        omega
    · apply nodup_map_on _ _ List.nodup_range'
      intro x hx y hy hxy
      exact (Nd.g.inj (inj (h.valid_b ht hx) (h.valid_b ht hy) hxy)).2
    · intro x hx y hy e
      obtain ⟨z, hz, rfl⟩ := List.mem_map.mp hx
      rw [List.mem_singleton.mp hy] at e
      exact Nd.noConfusion (inj (h.valid_b ht hz) (h.valid_ex ht) e)

theorem nd (h : DFam k F B C) {t : Nat} (ht : t < B.length) {β : Bub}
    (hβ : β = fwdBub k F B t ∨ β = revBub k F B t) :
    (β.en :: β.a ++ [β.ex]).Nodup ∧ (β.en :: β.b ++ [β.ex]).Nodup := by
  rcases hβ with rfl | rfl
  · exact h.nd_arms ht h.nuF_inj
  · obtain ⟨ha, hb⟩ := h.nd_arms ht (ν := nR k F B) h.nuR_inj
    exact ⟨nodup_path_reverse _ ha, nodup_path_reverse _ hb⟩

theorem lastne (h : DFam k F B C) {t : Nat} (ht : t < B.length) {β : Bub}
    (hβ : β = fwdBub k F B t ∨ β = revBub k F B t) : β.la ≠ β.lb := by
  obtain ⟨vh, vl⟩ := h.valid_g_ends ht
  rcases hβ with rfl | rfl
  · rw [(h.heads_fwd ht).2.2.1, (h.heads_fwd ht).2.2.2]
    exact fun e => Nd.noConfusion
      (h.nuF_inj (h.valid_c ht (Nat.le_trans (Nat.sub_le _ _) (Nat.le_add_right _ _))) vl e)
  · rw [(h.heads_rev ht).2.2.1, (h.heads_rev ht).2.2.2]
    obtain ⟨_, _⟩ := h.ex_lt ht
    exact fun e => Nd.noConfusion (h.nuR_inj (h.valid_c ht (by omega)) vh e)

theorem not_ext (h : DFam k F B C) {n : Nd} (hv : n.valid k F.length B (shf k F B))
    (hn : ∀ t', t' < B.length → n ≠ .c (eX k F B t') ∧ n ≠ .c (bE B t')) {β' : Bub} (hβ' : β' ∈ allBubs k F B) :
    (nF k F B n ≠ β'.en ∧ nF k F B n ≠ β'.ex) ∧ (nR k F B n ≠ β'.en ∧ nR k F B n ≠ β'.ex) := by
  obtain ⟨t', ht', rfl | rfl⟩ := (mem_allBubs k F B β').mp hβ'
  · exact ⟨⟨fun e => (hn t' ht').1 (h.nuF_inj hv (h.valid_en ht') e),
        fun e => (hn t' ht').2 (h.nuF_inj hv (h.valid_ex ht') e)⟩,
      ⟨fun e => h.nuF_ne_nuR (h.valid_en ht') hv e.symm, fun e => h.nuF_ne_nuR (h.valid_ex ht') hv e.symm⟩⟩
  · exact ⟨⟨h.nuF_ne_nuR hv (h.valid_ex ht'), h.nuF_ne_nuR hv (h.valid_en ht')⟩,
      ⟨fun e => (hn t' ht').2 (h.nuR_inj hv (h.valid_ex ht') e),
        fun e => (hn t' ht').1 (h.nuR_inj hv (h.valid_en ht') e)⟩⟩

theorem arm_not_ext (h : DFam k F B C) {t : Nat} (ht : t < B.length) {β : Bub}
    (hβ : β = fwdBub k F B t ∨ β = revBub k F B t) {X : Nat} (hX : X ∈ β.a ∨ X ∈ β.b)
    {β' : Bub} (hβ' : β' ∈ allBubs k F B) : X ≠ β'.en ∧ X ≠ β'.ex := by
  have hc : ∀ y, y ∈ List.range' (eX k F B t + 1) (bE B t - eX k F B t - 1) →
      (nF k F B (.c y) ≠ β'.en ∧ nF k F B (.c y) ≠ β'.ex) ∧ (nR k F B (.c y) ≠ β'.en ∧ nR k F B (.c y) ≠ β'.ex) := by
    intro y hy
    obtain ⟨h1, h2⟩ := mem_between.mp hy
    exact h.not_ext (h.valid_a ht hy) (fun t' ht' =>
      ⟨fun e => (h.inner_col ht h1 h2 ht').1 (Nd.c.inj e), fun e => (h.inner_col ht h1 h2 ht').2 (Nd.c.inj e)⟩) hβ'
  have hg : ∀ y, y ∈ List.range' (eX k F B t + 1) (bS B t - eX k F B t - 1) →
      (nF k F B (.g t y) ≠ β'.en ∧ nF k F B (.g t y) ≠ β'.ex) ∧ (nR k F B (.g t y) ≠ β'.en ∧ nR k F B (.g t y) ≠ β'.ex) :=
    fun y hy => h.not_ext (h.valid_b ht hy) (fun _ _ => ⟨nofun, nofun⟩) hβ'
  rcases hβ with rfl | rfl
  · rcases hX with hX | hX
    · obtain ⟨y, hy, rfl⟩ := List.mem_map.mp hX
      exact (hc y hy).1
    · obtain ⟨y, hy, rfl⟩ := List.mem_map.mp hX
      exact (hg y hy).1
  · rcases hX with hX | hX
    · obtain ⟨y, hy, rfl⟩ := List.mem_map.mp hX
      exact (hc y (List.mem_reverse.mp hy)).2
    · obtain ⟨y, hy, rfl⟩ := List.mem_map.mp hX
      exact (hg y (List.mem_reverse.mp hy)).2

theorem en_inj_fwd (h : DFam k F B C) {t t' : Nat} (ht : t < B.length) (ht' : t' < B.length)
    (e : (fwdBub k F B t).en = (fwdBub k F B t').en) : t = t' :=
  h.eX_inj ht ht' (Nd.c.inj (h.nuF_inj (h.valid_en ht) (h.valid_en ht') e))

theorem en_inj_rev (h : DFam k F B C) {t t' : Nat} (ht : t < B.length) (ht' : t' < B.length)
    (e : (revBub k F B t).en = (revBub k F B t').en) : t = t' :=
  h.bE_inj ht ht' (Nd.c.inj (h.nuR_inj (h.valid_ex ht) (h.valid_ex ht') e))

theorem en_fwd_ne_rev (h : DFam k F B C) {t t' : Nat} (ht : t < B.length) (ht' : t' < B.length) :
    (fwdBub k F B t).en ≠ (revBub k F B t').en :=
  h.nuF_ne_nuR (h.valid_en ht) (h.valid_ex ht')

theorem armLen (h : DFam k F B C) : ArmLen (k - 1) (allBubs k F B) where
  ne := forall_allBubs fun _ ht _ hβ => Nat.ne_of_gt (h.arm_lens ht hβ).2.1
  le := forall_allBubs fun _ ht _ hβ => Or.inr (h.arm_lens ht hβ).2.2

end DFam

namespace Ctx

variable {W k : Nat} {F : List UInt8} {B : List (Nat × Nat)} {C : List (List Bool)} {a : Arr} {names : List String}

theorem bS_inj (cx : Ctx W k F B C a names) {t t' : Nat} (ht : t < B.length) (ht' : t' < B.length)
    (e : bS B t = bS B t') : t = t' :=
  cx.h.near_col ht ht' (Nat.le_trans (Nat.le_of_eq e) (Nat.le_add_right _ _))
    (e ▸ Nat.le_trans (Nat.le_of_lt (cx.h.ex_lt ht).2) (Nat.le_add_right _ _))
    (Nat.le_of_add_right_le (cx.h.ex_lt ht').1) (Nat.le_of_lt (cx.h.ex_lt ht').2)

theorem ensucc (cx : Ctx W k F B C a names) {t : Nat} (ht : t < B.length) {β : Bub}
    (hβ : β = fwdBub k F B t ∨ β = revBub k F B t) :
    succs (buildGraph W a).1 β.en = [β.ha, β.hb] ∨ succs (buildGraph W a).1 β.en = [β.hb, β.ha] := by
  rcases hβ with rfl | rfl
  · rw [(cx.h.heads_fwd ht).1, (cx.h.heads_fwd ht).2.1]
    exact cx.strandF.pair nofun (cx.h.re_en ht)
  · rw [(cx.h.heads_rev ht).1, (cx.h.heads_rev ht).2.1]
    exact cx.strandR.pair nofun (cx.h.re_ex ht)

theorem chA (cx : Ctx W k F B C a names) {t : Nat} (ht : t < B.length) {β : Bub}
    (hβ : β = fwdBub k F B t ∨ β = revBub k F B t) : Chain1 (buildGraph W a).1 (β.a ++ [β.ex]) := by
  have hab := Nat.lt_trans (cx.h.ex_lt ht).1 (cx.h.ex_lt ht).2
  rcases hβ with rfl | rfl
  · apply chain1_between
    · intro y h1 h2
      exact cx.strandF.lookup (cx.h.re_c_in ht h1 (Nat.lt_of_succ_lt h2))
    · intro y h1 h2
      have := cx.strandF.lookup (cx.h.re_c_in ht h1 (h2 ▸ Nat.lt_succ_self y))
      rwa [h2] at this
    · exact hab
  · apply chain1_between_rev
    · intro y h1 h2
      exact cx.strandR.lookup (cx.h.re_c_in_pred ht (Nat.le_of_lt h1) h2)
    · exact cx.strandR.lookup (cx.h.re_c_in_pred ht (Nat.le_refl _) hab)
    · exact hab

theorem chB (cx : Ctx W k F B C a names) {t : Nat} (ht : t < B.length) {β : Bub}
    (hβ : β = fwdBub k F B t ∨ β = revBub k F B t) : Chain1 (buildGraph W a).1 (β.b ++ [β.ex]) := by
  have he := (cx.h.ex_lt ht).1
  rcases hβ with rfl | rfl
  · apply chain1_between
    · intro y h1 h2
      exact cx.strandF.lookup (re_g_succ (cx.h.valid_g ht h1 (Nat.lt_of_succ_lt h2)) h2)
    · intro y _ h2
      rw [show y = bS B t - 1 from Nat.eq_sub_of_add_eq h2]
      exact cx.strandF.lookup (re_g_last ht)
    · exact he
  · apply chain1_between_rev
    · intro y h1 h2
      exact cx.strandR.lookup (cx.h.re_g_pred (cx.h.valid_g ht h1 (Nat.lt_of_succ_lt h2)) h2)
    · exact cx.strandR.lookup (cx.h.re_g_first ht)
    · exact he

theorem predA (cx : Ctx W k F B C a names) {t : Nat} (ht : t < B.length) {β : Bub}
    (hβ : β = fwdBub k F B t ∨ β = revBub k F B t) (Y : Nat) (hY : β.ha ∈ succs (buildGraph W a).1 Y) :
    Y = β.en := by
  obtain ⟨he, hb⟩ := cx.h.ex_lt ht
  rcases hβ with rfl | rfl
  · rw [(cx.h.heads_fwd ht).1] at hY
    exact cx.strandF.pred_eq (cx.h.re_c_in_pred ht (Nat.le_refl _) (by omega)) hY
  · rw [(cx.h.heads_rev ht).1] at hY
    have h := cx.h.re_c_in ht (x := bE B t - 1) (by omega) (by omega)
    rw [cx.h.bE_pred ht] at h
    exact cx.strandR.pred_eq h hY

theorem predB (cx : Ctx W k F B C a names) {t : Nat} (ht : t < B.length) {β : Bub}
    (hβ : β = fwdBub k F B t ∨ β = revBub k F B t) (Y : Nat) (hY : β.hb ∈ succs (buildGraph W a).1 Y) :
    Y = β.en := by
  rcases hβ with rfl | rfl
  · rw [(cx.h.heads_fwd ht).2.1] at hY
    exact cx.strandF.pred_eq (cx.h.re_g_first ht) hY
  · rw [(cx.h.heads_rev ht).2.1] at hY
    exact cx.strandR.pred_eq (re_g_last ht) hY

theorem predX (cx : Ctx W k F B C a names) {t : Nat} (ht : t < B.length) {β : Bub}
    (hβ : β = fwdBub k F B t ∨ β = revBub k F B t) (Y : Nat) (hY : β.ex ∈ succs (buildGraph W a).1 Y) :
    Y ∈ β.a ∨ Y ∈ β.b := by
  obtain ⟨l1, l2, _⟩ := cx.h.arm_lens ht hβ
  have hla : β.la ∈ β.a := getLastD_mem (List.ne_nil_of_length_pos (Nat.lt_trans l1 l2)) 0
  have hlb : β.lb ∈ β.b := getLastD_mem (List.ne_nil_of_length_pos l1) 0
  rcases hβ with rfl | rfl
  · obtain ⟨_, _, h3, h4⟩ := cx.h.heads_fwd ht
    obtain ⟨n, hr, rfl⟩ := (cx.strandF.pred (cx.h.valid_ex ht) Y).mp hY
    rcases (cx.h.re_ex ht n).mp hr with rfl | rfl
    · exact Or.inl (h3 ▸ hla)
    · exact Or.inr (h4 ▸ hlb)
  · obtain ⟨_, _, h7, h8⟩ := cx.h.heads_rev ht
    obtain ⟨n, hr, rfl⟩ := (cx.strandR.pred (cx.h.valid_en ht) Y).mp hY
    rcases (cx.h.re_en ht n).mp hr with rfl | rfl
    · exact Or.inl (h7 ▸ hla)
    · exact Or.inr (h8 ▸ hlb)

theorem bg (cx : Ctx W k F B C a names) : BG (buildGraph W a).1 (allBubs k F B) where
  nd := succs_nodup W a
  lk := lookup_buildGraph W a
  knd := LOP.buildGraph_keys_nodup W a
  single := by
    intro X h2
    obtain ⟨t, ht, rfl | rfl⟩ := cx.two_succs h2
    · exact ⟨fwdBub k F B t, (mem_allBubs k F B _).mpr ⟨t, ht, Or.inl rfl⟩, rfl⟩
    · exact ⟨revBub k F B t, (mem_allBubs k F B _).mpr ⟨t, ht, Or.inr rfl⟩, rfl⟩
  lenA := forall_allBubs fun _ ht _ hβ => Nat.le_trans (cx.h.arm_lens ht hβ).1 (Nat.le_of_lt (cx.h.arm_lens ht hβ).2.1)
  lenB := forall_allBubs fun _ ht _ hβ => (cx.h.arm_lens ht hβ).1
  ensucc := forall_allBubs fun _ ht _ => cx.ensucc ht
  chA := forall_allBubs fun _ ht _ => cx.chA ht
  chB := forall_allBubs fun _ ht _ => cx.chB ht
  ndA := forall_allBubs fun _ ht _ hβ => (cx.h.nd ht hβ).1
  ndB := forall_allBubs fun _ ht _ hβ => (cx.h.nd ht hβ).2
  lastne := forall_allBubs fun _ ht _ => cx.h.lastne ht
  armA := forall_allBubs fun _ ht _ hβ _ hX _ => cx.h.arm_not_ext ht hβ (Or.inl hX)
  armB := forall_allBubs fun _ ht _ hβ _ hX _ => cx.h.arm_not_ext ht hβ (Or.inr hX)
  predA := forall_allBubs fun _ ht _ => cx.predA ht
  predB := forall_allBubs fun _ ht _ => cx.predB ht
  predX := forall_allBubs fun _ ht _ => cx.predX ht
  enInj := by
    intro β hβ β' hβ' e
    obtain ⟨t, ht, rfl | rfl⟩ := (mem_allBubs k F B β).mp hβ <;>
      obtain ⟨t', ht', rfl | rfl⟩ := (mem_allBubs k F B β').mp hβ'
    · rw [cx.h.en_inj_fwd ht ht' e]
    · exact absurd e (cx.h.en_fwd_ne_rev ht ht')
    · exact absurd e.symm (cx.h.en_fwd_ne_rev ht' ht)
    · rw [cx.h.en_inj_rev ht ht' e]

def pairsOf (k : Nat) (F : List UInt8) (B : List (Nat × Nat)) : List (Bub × Bub) :=
  (List.range B.length).map (fun t => (fwdBub k F B t, revBub k F B t))

theorem mem_pairsOf {p : Bub × Bub} (hp : p ∈ pairsOf k F B) :
    ∃ t, t < B.length ∧ p = (fwdBub k F B t, revBub k F B t) := by
  obtain ⟨t, ht, rfl⟩ := List.mem_map.mp hp
  exact ⟨t, List.mem_range.mp ht, rfl⟩

theorem kW (cx : Ctx W k F B C a names) : 2 * k ≤ W := (validK_bounds cx.hk cx.hw).2.2

theorem revComp_nF (cx : Ctx W k F B C a names) {n : Nd} (hv : n.valid k F.length B (shf k F B)) :
    revComp W (nF k F B n) (k - 1) = nR k F B n := by
  have hkW := cx.kW
  unfold nF nR nuF nuR
  exact revComp_packL W (widthOk_cases cx.hw) _ (cds_codes _) (k - 1) (cx.h.lets_ok hv).2 (by omega)

theorem revComp_nR (cx : Ctx W k F B C a names) {n : Nd} (hv : n.valid k F.length B (shf k F B)) :
    revComp W (nR k F B n) (k - 1) = nF k F B n := by
  have hkW := cx.kW
  unfold nF nR nuF nuR
  rw [revComp_packL W (widthOk_cases cx.hw) _ (rcCodes_codes (cds_codes _)) (k - 1)
    (by rw [rcCodes_length]; exact (cx.h.lets_ok hv).2) (by omega), rcCodes_rcCodes]

theorem twins (cx : Ctx W k F B C a names) : Twins W (k - 1) (allBubs k F B) (pairsOf k F B) where
  cover := by
    intro β
    rw [mem_allBubs]
    constructor
    · rintro ⟨t, ht, h⟩
      exact ⟨_, List.mem_map.mpr ⟨t, List.mem_range.mpr ht, rfl⟩, h⟩
    · rintro ⟨p, hp, h⟩
      obtain ⟨t, ht, rfl⟩ := mem_pairsOf hp
      exact ⟨t, ht, h⟩
  rc1 := by
    intro p hp
    obtain ⟨t, ht, rfl⟩ := mem_pairsOf hp
    exact (cx.revComp_nF (cx.h.valid_ex ht)).symm
  rc2 := by
    intro p hp
    obtain ⟨t, ht, rfl⟩ := mem_pairsOf hp
    exact (cx.revComp_nR (cx.h.valid_en ht)).symm
  rc3 := by
    intro p hp
    obtain ⟨t, ht, rfl⟩ := mem_pairsOf hp
    exact cx.revComp_nF (cx.h.valid_en ht)
  rc4 := by
    intro p hp
    obtain ⟨t, ht, rfl⟩ := mem_pairsOf hp
    exact cx.revComp_nR (cx.h.valid_ex ht)
  enex := by
    intro β hβ γ hγ
    obtain ⟨t, ht, rfl | rfl⟩ := (mem_allBubs k F B β).mp hβ <;>
      obtain ⟨t', ht', rfl | rfl⟩ := (mem_allBubs k F B γ).mp hγ
    · exact fun e => cx.h.eX_ne_bE ht ht' (Nd.c.inj (cx.h.nuF_inj (cx.h.valid_en ht) (cx.h.valid_ex ht') e))
    · exact cx.h.nuF_ne_nuR (cx.h.valid_en ht) (cx.h.valid_en ht')
    · exact fun e => cx.h.nuF_ne_nuR (cx.h.valid_ex ht') (cx.h.valid_ex ht) e.symm
    · exact fun e => cx.h.eX_ne_bE ht' ht (Nd.c.inj (cx.h.nuR_inj (cx.h.valid_ex ht) (cx.h.valid_en ht') e)).symm
  pnd := by
    unfold pairsOf
    rw [List.map_map, List.map_map, List.nodup_append]
    refine ⟨?_, ?_, ?_⟩
    · apply nodup_map_on _ _ List.nodup_range
      intro t ht t' ht' e
      exact cx.h.en_inj_fwd (List.mem_range.mp ht) (List.mem_range.mp ht') e
    · apply nodup_map_on _ _ List.nodup_range
      intro t ht t' ht' e
      exact cx.h.en_inj_rev (List.mem_range.mp ht) (List.mem_range.mp ht') e
    · intro x hx y hy e
      obtain ⟨t, ht, rfl⟩ := List.mem_map.mp hx
      obtain ⟨t', ht', rfl⟩ := List.mem_map.mp hy
      exact cx.h.en_fwd_ne_rev (List.mem_range.mp ht) (List.mem_range.mp ht') e

end Ctx

end SkaModel.LOE
