/-
CRC-32C as an injective (and GF(2)-linear) state machine: single-byte errors
are always detected; the Snappy mask is injective.
-/
import SkaModel.Impl.Crc32c

namespace SkaModel.FR

open SkaModel

theorem xor_cancel_right {a b p : Nat} (h : a ^^^ p = b ^^^ p) : a = b := by
  have := congrArg (· ^^^ p) h
  simpa [Nat.xor_assoc] using this

theorem xor_cancel_left {a b p : Nat} (h : p ^^^ a = p ^^^ b) : a = b := by
  rw [Nat.xor_comm p a, Nat.xor_comm p b] at h
  exact xor_cancel_right h

structure Inj32 (f : Nat → Nat) : Prop where
  lt : ∀ {c}, c < 2 ^ 32 → f c < 2 ^ 32
  inj : ∀ {x y}, x < 2 ^ 32 → y < 2 ^ 32 → f x = f y → x = y

theorem Inj32.comp {f g : Nat → Nat} (hf : Inj32 f) (hg : Inj32 g) : Inj32 (fun c => g (f c)) :=
  ⟨fun h => hg.lt (hf.lt h), fun hx hy h => hf.inj hx hy (hg.inj (hf.lt hx) (hf.lt hy) h)⟩

theorem xor_inj32 {p : Nat} (hp : p < 2 ^ 32) : Inj32 (· ^^^ p) :=
  ⟨fun h => Nat.xor_lt_two_pow h hp, fun _ _ => xor_cancel_right⟩

theorem crcBit_cases {x : Nat} (hx : x < 2 ^ 32) :
    ∃ h, h < 2 ^ 31 ∧ ((x = 2 * h + 1 ∧ crcBit x = h ^^^ 0x82F63B78) ∨ (x = 2 * h ∧ crcBit x = h)) := by
  have e := (Nat.div_add_mod x 2).symm
  refine ⟨x / 2, Nat.div_lt_of_lt_mul hx, ?_⟩
  unfold crcBit
  split
  · next h1 =>
    rw [h1] at e
    exact .inl ⟨e, rfl⟩
  · next h0 =>
    rw [Nat.mod_two_ne_one.mp h0] at e
    exact .inr ⟨e, rfl⟩

theorem testBit31_xor_poly {h : Nat} (hh : h < 2 ^ 31) : (h ^^^ 0x82F63B78).testBit 31 = true := by
  rw [Nat.testBit_xor, Nat.testBit_lt_two_pow hh]
  decide

/-- bit 31 of the new state is the bit shifted out, the other bits give back the half -/
theorem crcBit_inj32 : Inj32 crcBit := by
  refine ⟨fun hc => ?_, fun hx hy h => ?_⟩
  · obtain ⟨h, hh, ⟨-, e⟩ | ⟨-, e⟩⟩ := crcBit_cases hc
    · exact e ▸ Nat.xor_lt_two_pow (Nat.lt_trans hh (by decide)) (by decide)
    · exact e ▸ Nat.lt_trans hh (by decide)
  · obtain ⟨a, ha, ⟨rfl, ea⟩ | ⟨rfl, ea⟩⟩ := crcBit_cases hx <;>
      obtain ⟨b, hb, ⟨rfl, eb⟩ | ⟨rfl, eb⟩⟩ := crcBit_cases hy <;>
      rw [ea, eb] at h
    · rw [xor_cancel_right h]
    · have h1 := testBit31_xor_poly ha
      rw [h, Nat.testBit_lt_two_pow hb] at h1
      cases h1
    · have h1 := testBit31_xor_poly hb
      rw [← h, Nat.testBit_lt_two_pow ha] at h1
      cases h1
    · rw [h]

theorem crcBit_xor (x y : Nat) : crcBit (x ^^^ y) = crcBit x ^^^ crcBit y := by
  -- the polynomial is added once, twice (cancelling) or not at all
  have key : ∀ a b p : Nat, a ^^^ b = (a ^^^ p) ^^^ (b ^^^ p) ∧ (a ^^^ b) ^^^ p = (a ^^^ p) ^^^ b := by
    intro a b p
    constructor <;>
    · apply Nat.eq_of_testBit_eq
      intro i
      simp only [Nat.testBit_xor]
      cases a.testBit i <;> cases b.testBit i <;> cases p.testBit i <;> rfl
  have hm := @Nat.xor_mod_two_eq_one x y
  unfold crcBit
  rw [Nat.xor_div_two]
  by_cases hx : x % 2 = 1 <;> by_cases hy : y % 2 = 1
  · rw [if_neg (by rw [hm]; simp [hx, hy]), if_pos hx, if_pos hy]
    exact (key _ _ _).1
  · rw [if_pos (by rw [hm]; simp [hx, hy]), if_pos hx, if_neg hy]
    exact (key _ _ _).2
  · rw [if_pos (by rw [hm]; simp [hx, hy]), if_neg hx, if_pos hy]
    exact Nat.xor_assoc ..
  · rw [if_neg (by rw [hm]; simp [hx, hy]), if_neg hx, if_neg hy]

theorem crcBit_zero : crcBit 0 = 0 := by decide

def crcBit8 (c : Nat) : Nat := crcBit (crcBit (crcBit (crcBit (crcBit (crcBit (crcBit (crcBit c)))))))

theorem crcByte_eq (c : Nat) (b : UInt8) : crcByte c b = crcBit8 (c ^^^ b.toNat) := rfl

theorem crcBit8_inj32 : Inj32 crcBit8 := by
  delta crcBit8
  exact ((((((crcBit_inj32.comp crcBit_inj32).comp crcBit_inj32).comp crcBit_inj32).comp crcBit_inj32).comp
    crcBit_inj32).comp crcBit_inj32).comp crcBit_inj32

theorem crcBit8_xor (x y : Nat) : crcBit8 (x ^^^ y) = crcBit8 x ^^^ crcBit8 y := by
  unfold crcBit8
  simp only [crcBit_xor]

theorem byte_lt_two_pow_32 (b : UInt8) : b.toNat < 2 ^ 32 := Nat.lt_trans b.toNat_lt (by decide)

theorem crcByte_inj32 (b : UInt8) : Inj32 (crcByte · b) := by
  simp only [crcByte_eq]
  exact (xor_inj32 (byte_lt_two_pow_32 b)).comp crcBit8_inj32

theorem crcByte_inj_byte {c : Nat} (hc : c < 2 ^ 32) (b1 b2 : UInt8)
    (h : crcByte c b1 = crcByte c b2) : b1 = b2 := by
  rw [crcByte_eq, crcByte_eq] at h
  have := xor_cancel_left
    (crcBit8_inj32.inj (Nat.xor_lt_two_pow hc (byte_lt_two_pow_32 b1))
      (Nat.xor_lt_two_pow hc (byte_lt_two_pow_32 b2)) h)
  exact UInt8.toNat_inj.mp this

theorem foldl_inj32 (bs : List UInt8) : Inj32 (bs.foldl crcByte) := by
  induction bs with
  | nil => exact ⟨id, fun _ _ h => h⟩
  | cons b bs ih =>
    simp only [List.foldl_cons]
    exact ((crcByte_inj32 b).comp ih :)

theorem crc32c_lt (bs : List UInt8) : crc32c bs < 2 ^ 32 :=
  Nat.xor_lt_two_pow ((foldl_inj32 bs).lt (by decide)) (by decide)

theorem crc32c_one_byte (pre post : List UInt8) {x y : UInt8} (hxy : x ≠ y) :
    crc32c (pre ++ x :: post) ≠ crc32c (pre ++ y :: post) := by
  intro h
  unfold crc32c at h
  have h := xor_cancel_right h
  simp only [List.foldl_append, List.foldl_cons] at h
  have hs : pre.foldl crcByte 0xFFFFFFFF < 2 ^ 32 := (foldl_inj32 pre).lt (by decide)
  have := (foldl_inj32 post).inj ((crcByte_inj32 x).lt hs) ((crcByte_inj32 y).lt hs) h
  exact hxy (crcByte_inj_byte hs x y this)

def maskNat (s : Nat) : Nat := (((s >>> 15) ||| ((s <<< 17) % 2 ^ 32)) + 0xA282EAD8) % 2 ^ 32

theorem crc32cMasked_eq (bs : List UInt8) : crc32cMasked bs = maskNat (crc32c bs) := rfl

theorem add_mod_inj {m c x y : Nat} (hx : x < m) (hy : y < m) (h : (x + c) % m = (y + c) % m) : x = y := by
  have key : ∀ {x y : Nat}, y < m → (x + c) % m = (y + c) % m → y ≤ x := fun {x y} hy h => by
    have := Nat.sub_mod_eq_zero_of_mod_eq h.symm
    rw [Nat.add_sub_add_right, Nat.mod_eq_of_lt (Nat.lt_of_le_of_lt (Nat.sub_le ..) hy)] at this
    exact Nat.le_of_sub_eq_zero this
  exact Nat.le_antisymm (key hx h.symm) (key hy h)

theorem base_inj {n a b c d : Nat} (hb : b < n) (hd : d < n) (h : n * a + b = n * c + d) : a = c ∧ b = d := by
  have h1 := congrArg (· / n) h
  have h2 := congrArg (· % n) h
  simp only [Nat.mul_add_div (Nat.zero_lt_of_lt hb), Nat.div_eq_of_lt, Nat.mul_add_mod, Nat.mod_eq_of_lt, hb, hd,
    Nat.add_zero] at h1 h2
  exact ⟨h1, h2⟩

/-- rotating right by 15 swaps the 15 low bits `a` and the 17 high bits `b` -/
theorem rot_split {s : Nat} (h : s < 2 ^ 32) : ∃ a b, b < 2 ^ 17 ∧ s = 2 ^ 15 * b + a ∧
    (s >>> 15) ||| ((s <<< 17) % 2 ^ 32) = 2 ^ 17 * a + b ∧ 2 ^ 17 * a + b < 2 ^ 32 := by
  have ha : s % 2 ^ 15 < 2 ^ 15 := Nat.mod_lt _ (by decide)
  have hb : s / 2 ^ 15 < 2 ^ 17 := Nat.div_lt_of_lt_mul h
  -- the bound: `2 ^ 17 * a + b < 2 ^ 17 * (a + 1) ≤ 2 ^ 17 * 2 ^ 15`
  refine ⟨s % 2 ^ 15, s / 2 ^ 15, hb, (Nat.div_add_mod s _).symm, ?_,
    Nat.lt_of_lt_of_le (Nat.add_lt_add_left hb _) (Nat.mul_le_mul_left (2 ^ 17) ha)⟩
  rw [Nat.shiftLeft_eq, Nat.mul_comm s, show 2 ^ 32 = 2 ^ 17 * 2 ^ 15 from rfl, Nat.mul_mod_mul_left,
    Nat.shiftRight_eq_div_pow, Nat.or_comm, Nat.two_pow_add_eq_or_of_lt hb]

theorem maskNat_inj {s t : Nat} (hs : s < 2 ^ 32) (ht : t < 2 ^ 32) (h : maskNat s = maskNat t) : s = t := by
  obtain ⟨a, b, hb, rfl, ea, la⟩ := rot_split hs
  obtain ⟨c, d, hd, rfl, ec, lc⟩ := rot_split ht
  rw [maskNat, maskNat, ea, ec] at h
  obtain ⟨rfl, rfl⟩ := base_inj hb hd (add_mod_inj la lc h)
  rfl

theorem maskNat_lt (s : Nat) : maskNat s < 2 ^ 32 := Nat.mod_lt _ (by decide)

theorem crc32cMasked_lt (bs : List UInt8) : crc32cMasked bs < 2 ^ 32 := maskNat_lt _

theorem crc32cMasked_one_byte (pre post : List UInt8) {x y : UInt8} (hxy : x ≠ y) :
    crc32cMasked (pre ++ x :: post) ≠ crc32cMasked (pre ++ y :: post) := by
  intro h
  rw [crc32cMasked_eq, crc32cMasked_eq] at h
  exact crc32c_one_byte pre post hxy (maskNat_inj (crc32c_lt _) (crc32c_lt _) h)

end SkaModel.FR
