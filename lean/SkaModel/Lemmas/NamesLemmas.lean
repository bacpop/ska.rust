import SkaModel.Impl.Names
import SkaModel.Lemmas.ListLemmas
namespace SkaModel.NamesLemmas
open SkaModel.Names

theorem len_app (pre e' : List Char) : (pre ++ '.' :: e').length = pre.length + 1 + e'.length := by
  simp; omega

theorem drop_suffix (pre e' : List Char) (k : Nat) (hk : k ≤ e'.length) :
    (pre ++ '.' :: e').drop ((pre ++ '.' :: e').length - k) = e'.drop (e'.length - k) := by
  have h : (pre ++ '.' :: e').length - k = (pre ++ ['.']).length + (e'.length - k) := by
    rw [len_app, List.length_append, List.length_singleton, Nat.add_sub_assoc hk]
  rw [h, List.append_cons pre '.' e', ← List.drop_drop, List.drop_left' rfl]

theorem getD_mid (pre : List Char) (c : Char) (rest : List Char) :
    (pre ++ c :: rest).getD pre.length 'x' = c := by
  rw [List.getD_eq_getElem?_getD, List.getElem?_append_right (Nat.le_refl _), Nat.sub_self]
  rfl

theorem endsWithExt_self (pre e' e : List Char) (need : Nat) (h : e'.map fold = e) :
    endsWithExt (pre ++ '.' :: e') e need = decide (need ≤ pre.length) := by
  subst h
  unfold endsWithExt
  rw [List.length_map, drop_suffix pre e' e'.length (Nat.le_refl _), Nat.sub_self, List.drop_zero,
    len_app, Nat.add_sub_cancel, Nat.add_sub_cancel, getD_mid, beq_self_eq_true,
    beq_self_eq_true, Bool.and_true, Bool.and_true]
  exact decide_eq_decide.2 (by omega)

theorem endsWithExt_shorter (pre e' e1 : List Char) (need : Nat) (hk : e1.length ≤ e'.length)
    (hne : (e'.map fold).drop (e'.length - e1.length) ≠ e1) :
    endsWithExt (pre ++ '.' :: e') e1 need = false := by
  unfold endsWithExt
  rw [drop_suffix pre e' e1.length hk]
  have : (List.map fold (List.drop (e'.length - e1.length) e') == e1) = false := by
    rw [List.map_drop]; simpa using hne
  rw [this]; simp

/-- the table of extensions is ordered so that no earlier entry is a suffix of a later one -/
theorem exts_earlier : ∀ e ∈ exts, ∀ e1 ∈ exts.takeWhile (· != e),
    e1.length ≤ e.length ∧ e.drop (e.length - e1.length) ≠ e1 := by decide +kernel

theorem nl_not_mem_exts : ∀ e ∈ exts, '\n' ∉ e := by decide +kernel

theorem matchExt_ext (pre e' : List Char) (hp : pre ≠ []) (he : e'.map fold ∈ exts) :
    matchExt (pre ++ '.' :: e') = some (e'.map fold) := by
  apply find?_eq_some_of _ _ _ he
  · rw [endsWithExt_self pre e' _ 1 rfl]
    exact decide_eq_true (List.length_pos_iff.2 hp)
  · intro e1 h1
    obtain ⟨hlen, hne⟩ := exts_earlier _ he e1 h1
    rw [List.length_map] at hlen hne
    exact endsWithExt_shorter pre e' e1 1 hlen hne

theorem nl_not_mem_ext (e' : List Char) (he : e'.map fold ∈ exts) : '\n' ∉ e' := by
  intro hm
  have h1 : fold '\n' ∈ e'.map fold := List.mem_map_of_mem hm
  exact nl_not_mem_exts _ he h1

theorem getD_ne_slash (a stem rest : List Char) (hs : '/' ∉ stem) (j : Nat) (h1 : a.length ≤ j)
    (h2 : j < a.length + stem.length) : ((a ++ (stem ++ rest)).getD j 'x' == '/') = false := by
  rw [List.getD_eq_getElem?_getD, List.getElem?_append_right h1,
    List.getElem?_append_left (by omega)]
  have hlt : j - a.length < stem.length := by omega
  rw [List.getElem?_eq_getElem hlt]
  simp only [Option.getD_some, beq_eq_false_iff_ne, ne_eq]
  intro heq
  exact hs (heq ▸ List.getElem_mem hlt)

theorem lastSlash_plain (stem rest : List Char) (hs : '/' ∉ stem) :
    lastSlash (stem ++ rest) stem.length = none := by
  unfold lastSlash
  apply find_rev_range_none
  intro j hj
  have := getD_ne_slash [] stem rest hs j (by simp) (by simpa using hj)
  simp only [List.nil_append] at this
  rw [this]; simp

theorem lastSlash_path (dir stem rest : List Char) (hd : dir ≠ []) (hne : stem ≠ []) (hs : '/' ∉ stem) :
    lastSlash (dir ++ '/' :: (stem ++ rest)) (dir.length + 1 + stem.length) = some dir.length := by
  have hdl : 1 ≤ dir.length := List.length_pos_iff.2 hd
  have hsl : 1 ≤ stem.length := List.length_pos_iff.2 hne
  unfold lastSlash
  apply find_rev_range_some
  · omega
  · rw [getD_mid, decide_eq_true hdl,
      decide_eq_true (show dir.length + 1 < dir.length + 1 + stem.length by omega)]
    rfl
  · intro j h1 h2
    have := getD_ne_slash (dir ++ ['/']) stem rest hs j (by rw [List.length_append]; exact h1)
      (by rw [List.length_append]; exact h2)
    rw [← List.append_cons] at this
    rw [this, Bool.and_false]

theorem endsWithExt_decomp (s e : List Char) (h : endsWithExt s e 1 = true) :
    ∃ stem e', stem ≠ [] ∧ e'.map fold = e ∧ s = stem ++ '.' :: e' := by
  unfold endsWithExt at h
  simp only [Bool.and_eq_true, decide_eq_true_eq, beq_iff_eq] at h
  obtain ⟨⟨hlen, hmap⟩, hdot⟩ := h
  -- `n`: the position of the dot
  obtain ⟨n, hn⟩ : ∃ n, s.length = n + 1 + e.length := ⟨s.length - e.length - 1, by omega⟩
  have h1 : s.length - e.length = n + 1 := by rw [hn, Nat.add_sub_cancel]
  have hi : n < s.length := by omega
  rw [h1] at hmap hdot
  rw [Nat.add_sub_cancel, List.getD_eq_getElem?_getD, List.getElem?_eq_getElem hi,
    Option.getD_some] at hdot
  refine ⟨s.take n, s.drop (n + 1), ?_, hmap, ?_⟩
  · intro h0
    have := congrArg List.length h0
    rw [List.length_take_of_le (Nat.le_of_lt hi), List.length_nil] at this
    omega
  · calc s = s.take n ++ s.drop n := (List.take_append_drop _ _).symm
      _ = _ := by rw [List.drop_eq_getElem_cons hi, hdot]

theorem matchExt_decomp (s e : List Char) (h : matchExt s = some e) :
    ∃ stem e', stem ≠ [] ∧ e'.map fold ∈ exts ∧ s = stem ++ '.' :: e' := by
  unfold matchExt at h
  have hm := List.mem_of_find?_eq_some h
  have hp := List.find?_some h
  obtain ⟨stem, e', h1, h2, h3⟩ := endsWithExt_decomp s e hp
  exact ⟨stem, e', h1, h2 ▸ hm, h3⟩

theorem contains_nl_false (s : List Char) (h : '\n' ∉ s) : s.contains '\n' = false := by
  simpa [List.contains_iff_mem] using h

theorem sampleName_ext (pre e' : List Char) (hp : pre ≠ []) (he : e'.map fold ∈ exts)
    (hnl : '\n' ∉ pre) :
    sampleName (pre ++ '.' :: e') =
      match lastSlash (pre ++ '.' :: e') pre.length with
      | some i => pre.drop (i + 1)
      | none => pre := by
  have hc : (pre ++ '.' :: e').contains '\n' = false := by
    apply contains_nl_false
    simp only [List.mem_append, List.mem_cons, not_or]
    exact ⟨hnl, by decide, nl_not_mem_ext e' he⟩
  have hse : (pre ++ '.' :: e').length - (e'.map fold).length - 1 = pre.length := by
    rw [len_app, List.length_map, Nat.add_sub_cancel, Nat.add_sub_cancel]
  unfold sampleName
  rw [hc, matchExt_ext pre e' hp he]
  simp only [Bool.false_eq_true, if_false, hse]
  rw [List.take_left' rfl]
  rfl

end SkaModel.NamesLemmas
