/-
C18 completeness — the graph of the table of a deletion family in terms of nodes in columns: the node
numbers of the two strands (`nuF`, `nuR`) are injective on the valid nodes and never coincide across the
strands; an edge joins the two nodes of a pair related by `RE`, forwards on the samples' strand and backwards
on the other strand.
-/
import SkaModel.Lemmas.LOEWinEx
import SkaModel.Lemmas.LOCGraph

namespace SkaModel.LOE

open SkaModel SkaModel.Spec SkaModel.Props.C16 SkaModel.Skalo SkaModel.Props.C17G SkaModel.LOG SkaModel.LOC

def nuF (F : List UInt8) (w : List Nat) : Nat := packL (cds (w.map (getF F)))
def nuR (F : List UInt8) (w : List Nat) : Nat := packL (rcCodes (cds (w.map (getF F))))

theorem kmerAt_lets (F : List UInt8) (U : List Nat) (m j : Nat) :
    kmerAt m (lets F U) j = nuF F (cwin U j m) ∧ rcKmerAt m (lets F U) j = nuR F (cwin U j m) := by
  unfold kmerAt rcKmerAt nuF nuR lets
  rw [win_map]
  exact ⟨rfl, rfl⟩

theorem nuF_congr {F : List UInt8} {w w' : List Nat} (e : lets F w = lets F w') : nuF F w = nuF F w' := by
  unfold nuF
  unfold lets at e
  rw [e]

theorem nuR_congr {F : List UInt8} {w w' : List Nat} (e : lets F w = lets F w') : nuR F w = nuR F w' := by
  unfold nuR
  unfold lets at e
  rw [e]

theorem getF_base {F : List UInt8} (hb : AllBase F) {x : Nat} (hx : x < F.length) : isBase (getF F x) = true :=
  hb _ (getD_mem hx)

theorem map_getF_base {F : List UInt8} (hb : AllBase F) {w : List Nat} (hw : ∀ x ∈ w, x < F.length) :
    AllBase (w.map (getF F)) := by
  intro b hbm
  obtain ⟨x, hx, rfl⟩ := List.mem_map.mp hbm
  exact getF_base hb (hw x hx)

theorem dsample_length (F : List UInt8) (B : List (Nat × Nat)) (c : List Bool) :
    (dsample F B c).length = (keepCols F.length B c).length := by
  simp [dsample]

theorem keepCols_lt {N : Nat} {B : List (Nat × Nat)} {c : List Bool} {x : Nat} (hx : x ∈ keepCols N B c) : x < N :=
  ((mem_keepCols N B c x).mp hx).1

theorem cwin_subset {K : List Nat} {j m : Nat} {x : Nat} (hx : x ∈ cwin K j m) : x ∈ K := by
  unfold cwin at hx
  exact List.drop_subset _ _ (List.take_subset _ _ hx)

theorem mem_colWindows (m N : Nat) (B : List (Nat × Nat)) (C : List (List Bool)) (w : List Nat) :
    w ∈ colWindows m N B C ↔ ∃ c ∈ C, IsWin m N B c w := by
  unfold colWindows IsWin cwin
  simp only [List.mem_flatMap, List.mem_map, List.mem_range]
  constructor
  · rintro ⟨c, hc, j, hj, rfl⟩
    exact ⟨c, hc, j, by omega, rfl⟩
  · rintro ⟨c, hc, j, hj, rfl⟩
    exact ⟨c, hc, j, by omega, rfl⟩

theorem fN_dsample {k : Nat} (F : List UInt8) (B : List (Nat × Nat)) (c : List Bool) (j : Nat) :
    fN k (dsample F B c) j = nuF F (cwin (keepCols F.length B c) j (k - 1)) := by
  unfold fN nuF dsample
  rw [win_map]

theorem rN_dsample {k : Nat} (F : List UInt8) (B : List (Nat × Nat)) (c : List Bool) (j : Nat) :
    rN k (dsample F B c) j = nuR F (cwin (keepCols F.length B c) j (k - 1)) := by
  unfold rN nuR dsample
  rw [win_map]

theorem cols_g_split {k : Nat} {F : List UInt8} {B : List (Nat × Nat)} {t x : Nat}
    (hv : (Nd.g t x).valid k F.length B (shf k F B)) :
    ∃ a r, bS B t = x + (a + 1) ∧ k - 1 = a + 1 + (r + 1) ∧ shf k F B t ≤ r ∧
      Nd.cols k B (.g t x) = List.range' x (a + 1) ++ List.range' (bE B t) (r + 1) ∧
      Nd.cols k B (.c x) = List.range' x (a + 1) ++ List.range' (bS B t) (r + 1) := by
  obtain ⟨_, h1, h2⟩ := hv
  obtain ⟨a, r, ha, hk, eg⟩ := jump_eq (n := k - 1) (bE B t) h2 (by omega)
  refine ⟨a, r, ha, hk, by omega, eg, ?_⟩
  show List.range' x (k - 1) = _
  rw [hk, ha]
  exact List.range'_append_1.symm

theorem cols_length {k : Nat} {F : List UInt8} {B : List (Nat × Nat)} {n : Nd}
    (hv : n.valid k F.length B (shf k F B)) : (n.cols k B).length = k - 1 := by
  cases n with
  | c x => exact List.length_range'
  | g t x =>
    obtain ⟨a, r, _, hr, _, eg, _⟩ := cols_g_split hv
    rw [eg, List.length_append, List.length_range', List.length_range', hr]

namespace DFam

variable {k : Nat} {F : List UInt8} {B : List (Nat × Nat)} {C : List (List Bool)}

theorem vfam (h : DFam k F B C) : VFam (dsamples F B C) := by
  intro s hs
  obtain ⟨c, _, rfl⟩ := List.mem_map.mp hs
  exact map_getF_base h.base (fun x hx => keepCols_lt hx)

theorem isWin_base (h : DFam k F B C) {m : Nat} {c : List Bool} {u : List Nat} (hu : IsWin m F.length B c u) :
    AllBase (lets F u) := by
  obtain ⟨j, _, rfl⟩ := hu
  exact map_getF_base h.base fun x hx => keepCols_lt (cwin_subset hx)

theorem re_valid (h : DFam k F B C) {n n' : Nd} (hr : RE k F.length B (shf k F B) n n') :
    n.valid k F.length B (shf k F B) ∧ n'.valid k F.length B (shf k F B) := by
  cases hr with
  | cc x hx =>
    have hk5 := h.k5
    exact ⟨by show x + (k - 1) ≤ F.length; omega, by show x + 1 + (k - 1) ≤ F.length; omega⟩
  | cg t ht => exact ⟨h.valid_en ht, (h.valid_g_ends ht).1⟩
  | gg t x ht h1 h2 =>
    exact ⟨⟨ht, h1, Nat.lt_of_succ_lt h2⟩, ⟨ht, Nat.lt_of_lt_of_le h1 (Nat.add_le_add_right (Nat.le_succ x) k), h2⟩⟩
  | gc t ht => exact ⟨(h.valid_g_ends ht).2, h.valid_ex ht⟩

theorem cols_inj (h : DFam k F B C) {n n' : Nd} (hv : n.valid k F.length B (shf k F B)) (hv' : n'.valid k F.length B (shf k F B))
    (e : n.cols k B = n'.cols k B) : n = n' := by
  obtain ⟨m, hm⟩ : ∃ m, k - 1 = m + 1 := ⟨k - 2, by have := h.k5; omega⟩
  have hc : ∀ x, Nd.cols k B (.c x) = x :: List.range' (x + 1) m := by
    intro x
    show List.range' x (k - 1) = _
    rw [hm, List.range'_succ]
  -- a contiguous window is no jumping window: it runs into the block
  have hcg : ∀ x t x', (Nd.g t x').valid k F.length B (shf k F B) → Nd.cols k B (.c x) ≠ Nd.cols k B (.g t x') := by
    intro x t x' hv e
    obtain ⟨a, r, _, _, _, eg, ec⟩ := cols_g_split hv
    have hx : x = x' := by
      have := congrArg List.head? e
      rw [hc, eg, List.range'_succ] at this
      exact Option.some.inj this
    rw [hx, ec, eg, List.range'_succ (s := bS B t), List.range'_succ (s := bE B t)] at e
    have := (List.cons.inj (List.append_inj e rfl).2).1
    have := (h.bt hv.1).1
    omega
  cases n with
  | c x =>
    cases n' with
    | c x' =>
      rw [hc, hc] at e
      rw [(List.cons.inj e).1]
    | g t x' => exact absurd e (hcg x t x' hv')
  | g t x =>
    cases n' with
    | c x' => exact absurd e.symm (hcg x' t x hv)
    | g t' x' =>
      obtain ⟨a, r, ha, hr, _, eg, _⟩ := cols_g_split hv
      obtain ⟨a', r', ha', hr', _, eg', _⟩ := cols_g_split hv'
      rw [eg, eg', List.range'_succ (s := x), List.range'_succ (s := x')] at e
      have hx : x = x' := (List.cons.inj e).1
      subst hx
      have hb := (h.bt hv.1).1
      have hb' := (h.bt hv'.1).1
      rw [h.near_eq hv.1 hv'.1 (by omega) (by omega)]

theorem cols_mem (h : DFam k F B C) {n : Nd} (hv : n.valid k F.length B (shf k F B)) :
    n.cols k B ∈ colWindows (k - 1) F.length B C :=
  (mem_colWindows _ _ _ _ _).mpr (h.valid_window hv)

theorem canon_valid (h : DFam k F B C) {n : Nd} (hv : n.valid k F.length B (shf k F B)) :
    canonW F (n.cols k B) = n.cols k B := by
  cases n with
  | c x =>
    have hh : (List.range' x (k - 1)).headD 0 = x := c_head k B x h.k2
    unfold canonW
    simp only [Nd.cols, List.length_range']
    rw [hh, ite_self]
  | g t x =>
    obtain ⟨a, r, _, _, hsh, eg, ec⟩ := cols_g_split hv
    have hh := g_head k B t x hv.2.2
    unfold canonW
    simp only
    rw [cols_length hv, hh, if_neg]
    -- behind the block the letter at distance `shf` differs from the letter in the block
    intro e
    rw [beq_iff_eq] at e
    change _ = (Nd.cols k B (.c x)).map (getF F) at e
    rw [eg, ec, List.map_append, List.map_append] at e
    have e3 := congrArg (fun l => l[shf k F B t]?) (List.append_inj e rfl).2
    simp only [List.getElem?_map] at e3
    rw [List.getElem?_range' (by omega), List.getElem?_range' (by omega)] at e3
    simp only [Nat.one_mul, Option.map_some, Option.some.injEq] at e3
    exact h.sh_ne hv.1 e3.symm

theorem lets_inj (h : DFam k F B C) {n n' : Nd} (hv : n.valid k F.length B (shf k F B))
    (hv' : n'.valid k F.length B (shf k F B)) (e : lets F (n.cols k B) = lets F (n'.cols k B)) : n = n' := by
  apply h.cols_inj hv hv'
  rw [← h.canon_valid hv, ← h.canon_valid hv']
  exact (h.uniq _ (h.cols_mem hv) _ (h.cols_mem hv')).1 e

theorem lets_ok (h : DFam k F B C) {n : Nd} (hv : n.valid k F.length B (shf k F B)) :
    AllBase (lets F (n.cols k B)) ∧ (cds (lets F (n.cols k B))).length = k - 1 :=
  ⟨(h.valid_window hv).elim fun _ hc => h.isWin_base hc.2, by rw [cds_length, lets_length, cols_length hv]⟩

theorem nuF_inj (h : DFam k F B C) {n n' : Nd} (hv : n.valid k F.length B (shf k F B))
    (hv' : n'.valid k F.length B (shf k F B)) (e : nuF F (n.cols k B) = nuF F (n'.cols k B)) : n = n' :=
  h.lets_inj hv hv' (cds_inj (h.lets_ok hv).1 (h.lets_ok hv').1
    (packL_inj (cds_codes _) (cds_codes _) ((h.lets_ok hv).2.trans (h.lets_ok hv').2.symm) e))

theorem nuR_inj (h : DFam k F B C) {n n' : Nd} (hv : n.valid k F.length B (shf k F B))
    (hv' : n'.valid k F.length B (shf k F B)) (e : nuR F (n.cols k B) = nuR F (n'.cols k B)) : n = n' := by
  have e1 := congrArg rcCodes (packL_inj (rcCodes_codes (cds_codes _)) (rcCodes_codes (cds_codes _))
    (by rw [rcCodes_length, rcCodes_length]; exact (h.lets_ok hv).2.trans (h.lets_ok hv').2.symm) e)
  rw [rcCodes_rcCodes, rcCodes_rcCodes] at e1
  exact h.lets_inj hv hv' (cds_inj (h.lets_ok hv).1 (h.lets_ok hv').1 e1)

theorem nuF_ne_nuR (h : DFam k F B C) {n n' : Nd} (hv : n.valid k F.length B (shf k F B))
    (hv' : n'.valid k F.length B (shf k F B)) :
    nuF F (n.cols k B) ≠ nuR F (n'.cols k B) := by
  intro e
  apply (h.uniq _ (h.cols_mem hv) _ (h.cols_mem hv')).2
  unfold nuF nuR at e
  rw [← cds_rcSeq (w := (n'.cols k B).map (getF F)) (h.lets_ok hv').1] at e
  exact cds_inj (h.lets_ok hv).1 (h.lets_ok hv').1.rcSeq
    (packL_inj (cds_codes _) (cds_codes _) (by
      rw [cds_length, cds_length, rcSeq_length, List.length_map, List.length_map, cols_length hv,
        cols_length hv']) e)

theorem edge_iff (h : DFam k F B C) {a : Arr} {names : List String} (ha : IsArrOf a k names (dsamples F B C))
    (hk : ValidK k) {W : Nat} (hw : WidthOk W k) (X Y : Nat) :
    Edge (buildGraph W a).1 X Y ↔ ∃ n n', RE k F.length B (shf k F B) n n' ∧
      ((X = nuF F (n.cols k B) ∧ Y = nuF F (n'.cols k B)) ∨
       (X = nuR F (n'.cols k B) ∧ Y = nuR F (n.cols k B))) := by
  have hk5 := h.k5
  rw [edge_iff_mem_allEdges, IsArrOf.mem_allEdges ha h.vfam hk hw]
  have hsplit : ∀ (K : List Nat) (j : Nat), cwin K j (k - 1) = (cwin K j k).take (k - 1) ∧
      cwin K (j + 1) (k - 1) = (cwin K j k).drop 1 := by
    intro K j
    exact ⟨(cwin_take K j k (k - 1) (by omega)).symm, (cwin_drop K j k 1).symm⟩
  constructor
  · rintro ⟨s, hs, j, hj, hx⟩
    obtain ⟨c, hc, rfl⟩ := List.mem_map.mp hs
    rw [dsample_length] at hj
    obtain ⟨x, _, hsh⟩ := h.win_class c (by omega) (Nat.le_refl k) hj
    obtain ⟨n, n', hr, e1, e2⟩ := h.shape_edge hsh (fun y hy => keepCols_lt (cwin_subset hy))
    refine ⟨n, n', hr, ?_⟩
    rw [fN_dsample, fN_dsample, rN_dsample, rN_dsample, (hsplit _ j).1, (hsplit _ j).2, nuF_congr e1, nuF_congr e2,
      nuR_congr e1, nuR_congr e2] at hx
    simpa [Prod.mk.injEq] using hx
  · rintro ⟨n, n', hr, hx⟩
    obtain ⟨c, hc, j, hj, e1, e2⟩ := h.re_window hr
    refine ⟨dsample F B c, List.mem_map.mpr ⟨c, hc, rfl⟩, j, by rw [dsample_length]; exact hj, ?_⟩
    rw [fN_dsample, fN_dsample, rN_dsample, rN_dsample, (hsplit _ j).1, (hsplit _ j).2, nuF_congr e1, nuF_congr e2,
      nuR_congr e1, nuR_congr e2]
    simpa [Prod.mk.injEq] using hx

end DFam

end SkaModel.LOE
