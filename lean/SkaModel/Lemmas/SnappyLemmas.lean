/-
The Snappy block decoder `snappyElems` against the element grammar of `Spec/SnappyFormat`: the
decoder reads one element (`parseElem`), checks it against the output so far (`SElem.WF`) and
applies it (`snappyElems_succ`); refinement on well-formed streams and soundness
(`Props/C09Snappy`) are inductions over that step.  The length preamble `varint`.
-/
import SkaModel.Lemmas.LeBytes
namespace SkaModel.SnappyLemmas
open SkaModel SkaModel.SnappyFormat SkaModel.LE

theorem succ_mod_cases (i : Nat) {n : Nat} (h : 0 < n) :
    (i % n + 1 < n ∧ (i + 1) % n = i % n + 1) ∨ (i % n + 1 = n ∧ (i + 1) % n = 0) := by
  have hr := Nat.mod_lt i h
  have e : i + 1 = i % n + 1 + n * (i / n) := by rw [Nat.add_right_comm, Nat.mod_add_div]
  by_cases hc : i % n + 1 < n
  · exact .inl ⟨hc, by rw [e, Nat.add_mul_mod_self_left, Nat.mod_eq_of_lt hc]⟩
  · have hn : i % n + 1 = n := by omega
    exact .inr ⟨hn, by rw [e, hn, Nat.add_mul_mod_self_left, Nat.mod_self]⟩

theorem copyPattern_succ (out : List UInt8) (off len : Nat) (h1 : 1 ≤ off) (h2 : off ≤ out.length) :
    copyPattern out off (len + 1)
      = out.getD (out.length - off) 0 :: copyPattern (out ++ [out.getD (out.length - off) 0]) off len := by
  unfold copyPattern
  rw [List.range_succ_eq_map]
  simp only [List.map_cons, List.map_map, Nat.zero_mod, Nat.add_zero]
  congr 1
  apply List.map_congr_left
  intro i _
  simp only [Function.comp, List.length_append, List.length_cons, List.length_nil,
    List.getD_eq_getElem?_getD]
  -- with `out.length = a + off`, position `i + 1` of the pattern lies in `out`, or is the byte just appended
  obtain ⟨a, ha⟩ := Nat.exists_eq_add_of_le' h2
  rw [ha, Nat.add_sub_cancel, Nat.add_right_comm a off, Nat.add_sub_cancel, Nat.add_assoc a, Nat.add_comm (0 + 1)]
  rcases succ_mod_cases i h1 with ⟨hc, e⟩ | ⟨hc, e⟩
  · rw [e, List.getElem?_append_left (by omega)]
  · rw [e, hc, ← ha]
    simp

theorem copyBack_toList (out : Array UInt8) (off len : Nat) (h1 : 1 ≤ off) (h2 : off ≤ out.size) :
    (copyBack out off len).toList = out.toList ++ copyPattern out.toList off len := by
  induction len generalizing out with
  | zero => simp [copyBack, copyPattern]
  | succ len ih =>
    rw [copyBack, ih _ (by simp; omega), copyPattern_succ _ _ _ h1 (by simpa using h2)]
    simp [Array.getD_eq_getD_getElem?, List.getD_eq_getElem?_getD]

theorem copyBack_size (out : Array UInt8) (off len : Nat) : (copyBack out off len).size = out.size + len := by
  induction len generalizing out with
  | zero => rfl
  | succ len ih => rw [copyBack, ih]; simp; omega

theorem cons_length_le_fuel {e : SElem} {es : List SElem} : ∀ {fuel : Nat}, (e :: es).length ≤ fuel →
    ∃ f, fuel = f + 1 ∧ es.length ≤ f
  | _ + 1, h => ⟨_, rfl, Nat.le_of_succ_le_succ h⟩

theorem snappyElems_nil (dlen fuel : Nat) (out : Array UInt8) : snappyElems dlen fuel [] out = some out := by
  cases fuel <;> simp [snappyElems]

theorem parseElems_nil (fuel : Nat) : parseElems fuel [] = some [] := by
  cases fuel <;> simp [parseElems]

/-! The decoder `snappyElems` and the grammar parser `parseElems` analyse the tag byte in the same
way.  `Tag` is what the byte announces.  The arithmetic between the 256 bytes and the tags within
the ranges of the format is a finite fact, settled by evaluation (`tag_table`, `toNat_table`); what
is read after the tag (`Tag.read`) and what the decoder does after it (`Tag.exec`) then speak of
plain lengths. -/

inductive Tag where
  /-- a literal of `len` bytes -/
  | lit0 (len : Nat)
  /-- a literal whose length, less one, is in the next `nb` bytes -/
  | litN (nb : Nat)
  /-- a copy of `len` bytes; the offset is `hi` (three bits) above the next byte -/
  | copy1 (len hi : Nat)
  /-- a copy of `len` bytes; the offset is in the next two bytes -/
  | copy2 (len : Nat)
  /-- the same with four offset bytes -/
  | copy4 (len : Nat)
  deriving DecidableEq

def Tag.ofNat (t : Nat) : Tag :=
  if t % 4 == 0 then (if t / 4 + 1 ≥ 61 then .litN (t / 4 + 1 - 60) else .lit0 (t / 4 + 1))
  else if t % 4 == 1 then .copy1 (4 + t / 4 % 8) (t / 32)
  else if t % 4 == 2 then .copy2 (1 + t / 4) else .copy4 (1 + t / 4)

/-- the tag byte as `SElem.ser` writes it -/
def Tag.toNat : Tag → Nat
  | .lit0 len => (len - 1) * 4
  | .litN nb => (60 + (nb - 1)) * 4
  | .copy1 len hi => 1 + (len - 4) * 4 + hi * 32
  | .copy2 len => 2 + (len - 1) * 4
  | .copy4 len => 3 + (len - 1) * 4

/-- the ranges of the format -/
def Tag.ok : Tag → Prop
  | .lit0 len => 1 ≤ len ∧ len ≤ 60
  | .litN nb => 1 ≤ nb ∧ nb ≤ 4
  | .copy1 len hi => 4 ≤ len ∧ len ≤ 11 ∧ hi < 8
  | .copy2 len => 1 ≤ len ∧ len ≤ 64
  | .copy4 len => 1 ≤ len ∧ len ≤ 64

instance (g : Tag) : Decidable g.ok := by
  cases g <;> unfold Tag.ok <;> infer_instance

theorem tag_table : ∀ t < 256, (Tag.ofNat t).toNat = t ∧ (Tag.ofNat t).ok := by
  decide +kernel

abbrev Tag.back (g : Tag) : Prop := g.toNat < 256 ∧ Tag.ofNat g.toNat = g

theorem toNat_table :
    (∀ len < 61, 1 ≤ len → (Tag.lit0 len).back) ∧ (∀ nb < 5, 1 ≤ nb → (Tag.litN nb).back) ∧
    (∀ len < 12, 4 ≤ len → ∀ hi < 8, (Tag.copy1 len hi).back) ∧
    (∀ len < 65, 1 ≤ len → (Tag.copy2 len).back ∧ (Tag.copy4 len).back) := by
  decide +kernel

theorem Tag.ok.back : ∀ {g : Tag}, g.ok → g.back
  | .lit0 _, h => toNat_table.1 _ (Nat.lt_succ_of_le h.2) h.1
  | .litN _, h => toNat_table.2.1 _ (Nat.lt_succ_of_le h.2) h.1
  | .copy1 .., h => toNat_table.2.2.1 _ (Nat.lt_succ_of_le h.2.1) h.1 _ h.2.2
  | .copy2 _, h => (toNat_table.2.2.2 _ (Nat.lt_succ_of_le h.2) h.1).1
  | .copy4 _, h => (toNat_table.2.2.2 _ (Nat.lt_succ_of_le h.2) h.1).2

/-- the `len` bytes of a literal; `nb`, how the length was announced, is only recorded -/
def readLit (nb len : Nat) (rest : List UInt8) : Option (SElem × List UInt8) :=
  if rest.length < len then none else some (.lit nb (rest.take len), rest.drop len)

def readOff (nb : Nat) (mk : Nat → SElem) (rest : List UInt8) : Option (SElem × List UInt8) :=
  if rest.length < nb then none else some (mk (leNat (rest.take nb)), rest.drop nb)

def Tag.read (rest : List UInt8) : Tag → Option (SElem × List UInt8)
  | .lit0 len => readLit 0 len rest
  | .litN nb => if rest.length < nb then none else readLit nb (leNat (rest.take nb) + 1) (rest.drop nb)
  | .copy1 len hi => readOff 1 (fun lo => .copy1 len (hi * 256 + lo)) rest
  | .copy2 len => readOff 2 (.copy2 len) rest
  | .copy4 len => readOff 4 (.copy4 len) rest

def parseElem : List UInt8 → Option (SElem × List UInt8)
  | [] => none
  | tag :: rest => (Tag.ofNat tag.toNat).read rest

theorem readLit_inv {nb len : Nat} {rest r : List UInt8} {e : SElem} (h : readLit nb len rest = some (e, r)) :
    ∃ bs, bs.length = len ∧ e = .lit nb bs ∧ rest = bs ++ r := by
  unfold readLit at h
  split at h
  · cases h
  · next hl =>
    obtain ⟨rfl, rfl⟩ := Prod.mk.inj (Option.some.inj h)
    exact ⟨_, by rw [List.length_take]; omega, rfl, (List.take_append_drop ..).symm⟩

theorem readLit_exact (nb : Nat) (bs r : List UInt8) :
    readLit nb bs.length (bs ++ r) = some (.lit nb bs, r) := by
  rw [readLit, if_neg (by simp), List.take_left, List.drop_left]

theorem readOff_inv {nb : Nat} {mk : Nat → SElem} {rest r : List UInt8} {e : SElem}
    (h : readOff nb mk rest = some (e, r)) : ∃ v, v < 256 ^ nb ∧ e = mk v ∧ rest = leBytes nb v ++ r := by
  unfold readOff at h
  split at h
  · cases h
  · next hl =>
    obtain ⟨rfl, rfl⟩ := Prod.mk.inj (Option.some.inj h)
    exact ⟨_, leNat_take_lt nb rest, rfl, (leBytes_take_drop (Nat.le_of_not_lt hl)).symm⟩

theorem readOff_exact {nb v : Nat} (h : v < 256 ^ nb) (mk : Nat → SElem) (r : List UInt8) :
    readOff nb mk (leBytes nb v ++ r) = some (mk v, r) := by
  rw [readOff, if_neg (by simp [leBytes_length]), take_leBytes, drop_leBytes, leNat_leBytes nb v h]

theorem read_inv {g : Tag} {rest r : List UInt8} {e : SElem} (hg : g.ok) (h : g.read rest = some (e, r)) :
    UInt8.ofNat g.toNat :: rest = e.ser ++ r := by
  cases g with
  | lit0 len =>
    obtain ⟨bs, rfl, rfl, rfl⟩ := readLit_inv h
    rfl
  | litN nb =>
    obtain ⟨k, rfl⟩ := Nat.exists_eq_add_of_le' hg.1
    rw [Tag.read] at h
    split at h
    · cases h
    · next hl =>
      obtain ⟨bs, hb, rfl, hr⟩ := readLit_inv h
      rw [← leBytes_take_drop (Nat.le_of_not_lt hl), hr, SElem.ser, hb, Nat.add_sub_cancel,
        List.cons_append, List.append_assoc]
      rfl
  | copy1 len hi =>
    rw [Tag.read] at h
    obtain ⟨v, hv, rfl, rfl⟩ := readOff_inv h
    rw [SElem.ser, Nat.mul_comm hi, Nat.mul_add_div (by decide), Nat.mul_add_mod, Nat.div_eq_of_lt hv, Nat.add_zero]
    rfl
  | copy2 len =>
    obtain ⟨v, hv, rfl, rfl⟩ := readOff_inv h
    rfl
  | copy4 len =>
    obtain ⟨v, hv, rfl, rfl⟩ := readOff_inv h
    rfl

theorem parseElem_inv {src : List UInt8} {e : SElem} {r : List UInt8}
    (h : parseElem src = some (e, r)) : src = e.ser ++ r := by
  cases src with
  | nil => cases h
  | cons tag rest =>
    obtain ⟨ht, hok⟩ := tag_table tag.toNat tag.toNat_lt
    rw [← read_inv hok h, ht, UInt8.ofNat_toNat]

theorem read_ser {o dlen : Nat} {e : SElem} (hw : e.WF o dlen) (rest : List UInt8) :
    ∃ (g : Tag) (body : List UInt8), e.ser = UInt8.ofNat g.toNat :: body ∧ g.back ∧ g.read (body ++ rest) = some (e, rest) := by
  cases e with
  | lit nb bs =>
    obtain ⟨a1, a2, ⟨rfl, h60⟩ | ⟨h1, h4, hv⟩⟩ := hw
    · exact ⟨.lit0 bs.length, bs, rfl, Tag.ok.back ⟨a1, h60⟩, readLit_exact 0 bs rest⟩
    · obtain ⟨k, rfl⟩ := Nat.exists_eq_add_of_le' h1
      refine ⟨.litN (k + 1), leBytes (k + 1) (bs.length - 1) ++ bs, rfl, Tag.ok.back ⟨h1, h4⟩, ?_⟩
      rw [Tag.read, List.append_assoc, take_leBytes, drop_leBytes, leNat_leBytes _ _ hv,
        Nat.sub_add_cancel a1, if_neg (by simp [leBytes_length])]
      exact readLit_exact _ bs rest
  | copy1 len off =>
    obtain ⟨a1, a2, a3, a4, a5, a6⟩ := hw
    refine ⟨.copy1 len (off / 256), leBytes 1 (off % 256), by simp [SElem.ser, Tag.toNat, leBytes],
      Tag.ok.back ⟨a1, a2, Nat.div_lt_of_lt_mul a4⟩, ?_⟩
    rw [Tag.read, readOff_exact (Nat.mod_lt off (by decide)), Nat.div_add_mod']
  | copy2 len off =>
    obtain ⟨a1, a2, a3, a4, a5, a6⟩ := hw
    exact ⟨.copy2 len, leBytes 2 off, rfl, Tag.ok.back ⟨a1, a2⟩, readOff_exact a4 _ rest⟩
  | copy4 len off =>
    obtain ⟨a1, a2, a3, a4, a5, a6⟩ := hw
    exact ⟨.copy4 len, leBytes 4 off, rfl, Tag.ok.back ⟨a1, a2⟩, readOff_exact a4 _ rest⟩

theorem parseElem_ser {o dlen : Nat} {e : SElem} (hw : e.WF o dlen) (rest : List UInt8) :
    parseElem (e.ser ++ rest) = some (e, rest) := by
  obtain ⟨g, body, hs, ⟨hlt, hof⟩, hr⟩ := read_ser hw rest
  rw [hs, List.cons_append, parseElem, toNat_ofNat_lt _ hlt, hof, hr]

def applyElem (out : Array UInt8) : SElem → Array UInt8
  | .lit _ bs => out ++ bs.toArray
  | .copy1 len off => copyBack out off len
  | .copy2 len off => copyBack out off len
  | .copy4 len off => copyBack out off len

theorem applyElem_size (out : Array UInt8) (e : SElem) :
    (applyElem out e).size = out.size + e.outLen := by
  cases e <;> simp [applyElem, SElem.outLen, copyBack_size]

theorem applyElem_toList {out : Array UInt8} {dlen : Nat} {e : SElem} (hw : e.WF out.size dlen) :
    (applyElem out e).toList = e.denote out.toList := by
  cases e with
  | lit nb bs => simp [applyElem, SElem.denote]
  | copy1 len off => exact copyBack_toList _ _ _ hw.2.2.1 hw.2.2.2.2.1
  | copy2 len off => exact copyBack_toList _ _ _ hw.2.2.1 hw.2.2.2.2.1
  | copy4 len off => exact copyBack_toList _ _ _ hw.2.2.1 hw.2.2.2.2.1

theorem parseElems_succ (fuel : Nat) (tag : UInt8) (rest : List UInt8) :
    parseElems (fuel + 1) (tag :: rest) =
      (parseElem (tag :: rest)).bind fun p => (parseElems fuel p.2).map (p.1 :: ·) := by
  have push : ∀ (c : Prop) [Decidable c] (a b : Option (SElem × List UInt8))
      (f : SElem × List UInt8 → Option (List SElem)),
      (if c then a else b).bind f = if c then a.bind f else b.bind f :=
    fun c _ a b f => apply_ite (·.bind f) c a b
  simp only [parseElems, parseElem, Tag.ofNat, apply_ite (Tag.read rest)]
  simp only [Tag.read, readLit, readOff, push, Option.bind_none, Option.bind_some]

/-- the decoder's bounds test for a literal of `len ≥ 1` bytes that the input holds -/
theorem lit_check {α : Type} {b w : Prop} [Decidable b] [Decidable w] {len osz dlen : Nat}
    (hb : ¬ b) (hlen : 1 ≤ len) (hw : w ↔ osz + len ≤ dlen) (x : Option α) :
    (if (decide b || decide (dlen - osz < len)) = true then none else x) = if w then x else none := by
  by_cases hc : dlen - osz < len
  · rw [if_pos (by simp [hc]), if_neg (fun h => by have := hw.mp h; omega)]
  · rw [if_neg (by simp [hb, hc]), if_pos (hw.mpr (by omega))]

/-- the decoder's bounds tests for a copy, whatever the width of its offset field -/
theorem copy_check {α : Type} {w : Prop} [Decidable w] {off len osz dlen : Nat}
    (hw : w ↔ 1 ≤ off ∧ off ≤ osz ∧ osz + len ≤ dlen) (x : Option α) :
    (if (off == 0 || decide (osz < off)) = true then none
      else if osz + len > dlen then none else x) = if w then x else none := by
  by_cases c1 : off = 0 ∨ osz < off
  · rw [if_pos (by simpa using c1), if_neg (fun h => by have := hw.mp h; omega)]
  · rw [if_neg (by simpa using c1)]
    by_cases c2 : osz + len > dlen
    · rw [if_pos c2, if_neg (fun h => by have := hw.mp h; omega)]
    · rw [if_neg c2, if_pos (hw.mpr (by omega))]

/-- a copy is well-formed when its fields are within the ranges of its tag (`a`, `b`, `d`) and it
passes the decoder's tests -/
theorem wf_copy {a b c d e f : Prop} (ha : a) (hb : b) (hd : d) : (a ∧ b ∧ c ∧ d ∧ e ∧ f) ↔ (c ∧ e ∧ f) :=
  ⟨fun h => ⟨h.2.2.1, h.2.2.2.2⟩, fun h => ⟨ha, hb, h.1, hd, h.2⟩⟩

/-- the decoder's step for a literal of `len` bytes -/
def litStep (dlen fuel len : Nat) (rest : List UInt8) (out : Array UInt8) : Option (Array UInt8) :=
  if rest.length < len || dlen - out.size < len then none
  else snappyElems dlen fuel (rest.drop len) (out ++ (rest.take len).toArray)

/-- the decoder's step for a copy of `len` bytes with an offset field of `nb` bytes -/
def copyStep (dlen fuel nb offHi len : Nat) (rest : List UInt8) (out : Array UInt8) : Option (Array UInt8) :=
  if rest.length < nb then none
  else if (offHi + leNat (rest.take nb) == 0 || out.size < offHi + leNat (rest.take nb)) then none
  else if out.size + len > dlen then none
  else snappyElems dlen fuel (rest.drop nb) (copyBack out (offHi + leNat (rest.take nb)) len)

def Tag.exec (dlen fuel : Nat) (rest : List UInt8) (out : Array UInt8) : Tag → Option (Array UInt8)
  | .lit0 len => litStep dlen fuel len rest out
  | .litN nb =>
    if rest.length < nb then none else litStep dlen fuel (leNat (rest.take nb) + 1) (rest.drop nb) out
  | .copy1 len hi => copyStep dlen fuel 1 (hi * 256) len rest out
  | .copy2 len => copyStep dlen fuel 2 0 len rest out
  | .copy4 len => copyStep dlen fuel 4 0 len rest out

theorem snappyElems_eq_exec (dlen fuel : Nat) (tag : UInt8) (rest : List UInt8) (out : Array UInt8) :
    snappyElems dlen (fuel + 1) (tag :: rest) out = (Tag.ofNat tag.toNat).exec dlen fuel rest out := by
  rw [snappyElems, Tag.ofNat]
  generalize tag.toNat = t
  simp only [apply_ite (Tag.exec dlen fuel rest out)]
  refine ite_congr rfl (fun _ => ?_) (fun _ => ?_)
  · exact ite_congr rfl (fun _ => rfl) (fun _ => rfl)
  -- the decoder computes `(len, nb, offHi)` by the same two tests and goes on alike in all three cases
  · by_cases c1 : (t % 4 == 1) = true
    · rw [if_pos c1, if_pos c1]
      rfl
    · rw [if_neg c1, if_neg c1]
      by_cases c2 : (t % 4 == 2) = true
      · rw [if_pos c2, if_pos c2]
        rfl
      · rw [if_neg c2, if_neg c2]
        rfl

theorem litStep_eq {dlen fuel len nb : Nat} {rest : List UInt8} {out : Array UInt8} (h1 : 1 ≤ len)
    (hs : (nb = 0 ∧ len ≤ 60) ∨ (1 ≤ nb ∧ nb ≤ 4 ∧ len - 1 < 256 ^ nb)) :
    litStep dlen fuel len rest out = (readLit nb len rest).bind fun p =>
      if p.1.WF out.size dlen then snappyElems dlen fuel p.2 (applyElem out p.1) else none := by
  unfold litStep readLit
  by_cases hl : rest.length < len
  · rw [if_pos (by simp [hl]), if_pos hl]
    rfl
  · have hlen : (rest.take len).length = len := by rw [List.length_take]; omega
    rw [if_neg hl, Option.bind_some]
    refine lit_check hl h1 ?_ _
    simp only [SElem.WF, hlen]
    exact ⟨fun h => h.2.1, fun h => ⟨h1, h, hs⟩⟩

theorem copyStep_eq {dlen fuel nb offHi len : Nat} {rest : List UInt8} {out : Array UInt8} {mk : Nat → SElem}
    (hm : ∀ v, v < 256 ^ nb → ∃ off, offHi + v = off ∧ applyElem out (mk v) = copyBack out off len ∧
      ((mk v).WF out.size dlen ↔ 1 ≤ off ∧ off ≤ out.size ∧ out.size + len ≤ dlen)) :
    copyStep dlen fuel nb offHi len rest out = (readOff nb mk rest).bind fun p =>
      if p.1.WF out.size dlen then snappyElems dlen fuel p.2 (applyElem out p.1) else none := by
  unfold copyStep readOff
  split
  · rfl
  · obtain ⟨off, e, ha, hw⟩ := hm _ (leNat_take_lt nb rest)
    rw [Option.bind_some, ha, e]
    exact copy_check hw _

theorem exec_eq {g : Tag} (hg : g.ok) (dlen fuel : Nat) (rest : List UInt8) (out : Array UInt8) :
    g.exec dlen fuel rest out = (g.read rest).bind fun p =>
      if p.1.WF out.size dlen then snappyElems dlen fuel p.2 (applyElem out p.1) else none := by
  cases g with
  | lit0 len => exact litStep_eq hg.1 (.inl ⟨rfl, hg.2⟩)
  | litN nb =>
    have hv := leNat_take_lt nb rest
    rw [Tag.exec, Tag.read]
    split
    · rfl
    · exact litStep_eq (Nat.le_add_left 1 _) (.inr ⟨hg.1, hg.2, by omega⟩)
  | copy1 len hi =>
    obtain ⟨h1, h2, h3⟩ := hg
    rw [Tag.exec, Tag.read]
    exact copyStep_eq fun v hv => ⟨_, rfl, rfl, wf_copy h1 h2 (by omega)⟩
  | copy2 len =>
    rw [Tag.exec, Tag.read]
    exact copyStep_eq fun v hv => ⟨v, Nat.zero_add v, rfl, wf_copy hg.1 hg.2 hv⟩
  | copy4 len =>
    rw [Tag.exec, Tag.read]
    exact copyStep_eq fun v hv => ⟨v, Nat.zero_add v, rfl, wf_copy hg.1 hg.2 hv⟩

theorem snappyElems_succ (dlen fuel : Nat) (tag : UInt8) (rest : List UInt8) (out : Array UInt8) :
    snappyElems dlen (fuel + 1) (tag :: rest) out =
      (parseElem (tag :: rest)).bind fun p =>
        if p.1.WF out.size dlen then snappyElems dlen fuel p.2 (applyElem out p.1) else none := by
  rw [snappyElems_eq_exec, parseElem, exec_eq (tag_table _ tag.toNat_lt).2]

theorem ser_cons (e : SElem) : ∃ tag s, e.ser = tag :: s := by
  cases e with
  | lit nb bs => cases nb <;> exact ⟨_, _, rfl⟩
  | _ => exact ⟨_, _, rfl⟩

theorem snappyElems_ser {dlen : Nat} {e : SElem} {out : Array UInt8} (hw : e.WF out.size dlen)
    (fuel : Nat) (rest : List UInt8) :
    snappyElems dlen (fuel + 1) (e.ser ++ rest) out = snappyElems dlen fuel rest (applyElem out e) := by
  have hp := parseElem_ser hw rest
  obtain ⟨tag, s, hs⟩ := ser_cons e
  rw [hs, List.cons_append] at hp ⊢
  rw [snappyElems_succ, hp, Option.bind_some, if_pos hw]

theorem parseElems_ser {o dlen : Nat} {e : SElem} (hw : e.WF o dlen) (fuel : Nat) (rest : List UInt8) :
    parseElems (fuel + 1) (e.ser ++ rest) = (parseElems fuel rest).map (e :: ·) := by
  have hp := parseElem_ser hw rest
  obtain ⟨tag, s, hs⟩ := ser_cons e
  rw [hs, List.cons_append] at hp ⊢
  rw [parseElems_succ, hp, Option.bind_some]

theorem or_shift (acc b s : Nat) (h : acc < 2 ^ s) : acc ||| (b <<< s) = acc + b * 2 ^ s := by
  rw [Nat.or_comm, ← Nat.shiftLeft_add_eq_or_of_lt h, Nat.shiftLeft_eq, Nat.add_comm]

theorem varint_pos (m : Nat) : 1 ≤ (varint m).length := by
  rw [varint]; split <;> simp

/-- the loop of `readVarint` on a preamble: `shift` bits are in `acc`, the value still fits 64 bits -/
theorem go_varint (m : Nat) : ∀ (acc shift i : Nat) (rest : List UInt8),
    shift < 64 → acc < 2 ^ shift → m * 2 ^ shift < 2 ^ 64 →
    readVarint.go (varint m ++ rest) acc shift i = (acc + m * 2 ^ shift, i + (varint m).length) := by
  induction m using Nat.strongRecOn with
  | _ m ih =>
    intro acc shift i rest hs hacc hb
    rw [varint]
    split
    · rename_i hlt
      simp only [List.cons_append, List.nil_append, readVarint.go]
      rw [if_neg (by omega), toNat_ofNat_lt _ (by omega), if_pos hlt,
        Nat.mod_eq_of_lt (by rwa [Nat.shiftLeft_eq]), or_shift _ _ _ hacc]
      simp
    · rename_i hge
      simp only [List.cons_append, readVarint.go]
      rw [if_neg (by omega), toNat_ofNat_lt _ (by omega), if_neg (by omega)]
      have hand : (m % 128 + 128) &&& 127 = m % 128 := by
        have := Nat.and_two_pow_sub_one_eq_mod (m % 128 + 128) 7
        simp at this; omega
      have hm : 128 * (m / 128) + m % 128 = m := Nat.div_add_mod m 128
      have hq : 1 ≤ m / 128 := by omega
      -- the low 7 bits go to `acc`, the rest is read at `shift + 7`
      have hb' : m / 128 * 2 ^ (shift + 7) < 2 ^ 64 := by
        rw [Nat.pow_add, Nat.mul_comm (2 ^ shift), ← Nat.mul_assoc]
        exact Nat.lt_of_le_of_lt (Nat.mul_le_mul_right _ (Nat.div_mul_le_self m 128)) hb
      have hs' : shift + 7 < 64 :=
        (Nat.pow_lt_pow_iff_right (by decide)).mp
          (Nat.lt_of_le_of_lt (Nat.le_mul_of_pos_left _ hq) hb')
      have hr : m % 128 * 2 ^ shift < 2 ^ 64 :=
        Nat.lt_of_le_of_lt (Nat.mul_le_mul_right _ (Nat.mod_le m 128)) hb
      have hacc' : acc + m % 128 * 2 ^ shift < 2 ^ (shift + 7) := by
        rw [Nat.pow_add]
        have : m % 128 * 2 ^ shift ≤ 127 * 2 ^ shift := Nat.mul_le_mul_right _ (by omega)
        omega
      rw [hand, Nat.mod_eq_of_lt (by rwa [Nat.shiftLeft_eq]), or_shift _ _ _ hacc,
        ih (m / 128) (by omega) _ (shift + 7) (i + 1) rest hs' hacc' hb']
      simp only [List.length_cons, Prod.mk.injEq]
      refine ⟨?_, by omega⟩
      rw [Nat.pow_add, Nat.mul_comm (2 ^ shift), ← Nat.mul_assoc, Nat.add_assoc, ← Nat.add_mul,
        Nat.add_comm (m % 128), Nat.mul_comm (m / 128), hm]

theorem varint_len_le (j : Nat) : ∀ m, m < 128 ^ (j + 1) → (varint m).length ≤ j + 1 := by
  induction j with
  | zero =>
    intro m h
    rw [varint, if_pos h]
    exact Nat.le_refl 1
  | succ j ih =>
    intro m h
    rw [varint]
    split
    · exact Nat.le_add_left 1 _
    · rw [Nat.pow_succ, Nat.mul_comm] at h
      exact Nat.succ_le_succ (ih _ (Nat.div_lt_of_lt_mul h))

theorem readVarint_varint (n : Nat) (h : n < 2 ^ 32) (rest : List UInt8) :
    readVarint (varint n ++ rest) = (n, (varint n).length) := by
  unfold readVarint
  rw [go_varint n 0 0 0 rest (by omega) (by omega) (by omega)]
  simp

theorem varint_len_le5 (n : Nat) (h : n < 2 ^ 32) : (varint n).length ≤ 5 :=
  varint_len_le 4 n (Nat.lt_of_lt_of_le h (by decide))

theorem flatMap_ser_len (es : List SElem) : es.length ≤ (es.flatMap SElem.ser).length := by
  induction es with
  | nil => simp
  | cons e es ih =>
    obtain ⟨tag, s, hs⟩ := ser_cons e
    simp only [List.flatMap_cons, hs, List.length_append, List.length_cons]
    omega

end SkaModel.SnappyLemmas
