/-
The coordinate map of a list of contigs, (contig `c`, position `p`) ↦ `contigOffset seq c + p`.
Offsets go by prefixes (`off_succ`); the map respects the lexicographic order (`abs_lt`), so the
ranges of different contigs are disjoint (`region_iff`, `abs_inj`).  As a list: `coords seq` holds
the pairs in the order of their absolute index.  A table with one entry per position of every
contig (`Spec.writerSpec`, the coordinate list of `Spec.vcfSpec`) is a `map` over it
(`flatMap_coords`), and a list is such a table as soon as its entry at every absolute index is known
(`coords_ext`).  Inductions go over prefixes of the contig list (`coordsTo_succ` beside `off_succ`);
`zipIdx` is entered through `List.mem_zipIdx_iff_getElem?` only.
-/
import SkaModel.Spec.WriterSpec
import SkaModel.Lemmas.ListLemmas

namespace SkaModel.AW

open SkaModel SkaModel.Spec

def csize (ref : List (Array UInt8)) (c : Nat) : Nat := (ref.getD c #[]).size

theorem off_zero (ref : List (Array UInt8)) : contigOffset ref 0 = 0 := by
  simp [contigOffset]

theorem off_succ (ref : List (Array UInt8)) (c : Nat) :
    contigOffset ref (c + 1) = contigOffset ref c + csize ref c := by
  unfold contigOffset csize
  rw [List.take_add_one, List.map_append, List.foldl_append, List.getD_eq_getElem?_getD]
  cases hc : ref[c]? with
  | none => simp
  | some a => simp

theorem off_mono (ref : List (Array UInt8)) {c c' : Nat} (hcc : c ≤ c') :
    contigOffset ref c ≤ contigOffset ref c' := by
  induction hcc with
  | refl => exact Nat.le_refl _
  | step _ ih => exact Nat.le_trans ih (off_succ ref _ ▸ Nat.le_add_right _ _)

theorem off_succ_le (ref : List (Array UInt8)) {c c' : Nat} (hcc : c < c') :
    contigOffset ref c + csize ref c ≤ contigOffset ref c' := by
  rw [← off_succ]; exact off_mono ref hcc

theorem off_add (ref : List (Array UInt8)) (c m : Nat) :
    contigOffset ref (c + m)
      = ((List.range m).map (fun d => (ref.getD (c + d) #[]).size)).foldl (· + ·) (contigOffset ref c) := by
  induction m with
  | zero => rfl
  | succ m ih =>
    rw [List.range_succ, List.map_append, List.foldl_append, ← ih, ← Nat.add_assoc, off_succ]
    rfl

theorem abs_lt (ref : List (Array UInt8)) {c c' p : Nat} (p' : Nat) (hcc : c < c')
    (hp : p < csize ref c) : contigOffset ref c + p < contigOffset ref c' + p' :=
  Nat.lt_of_lt_of_le (Nat.add_lt_add_left hp _)
    (Nat.le_trans (off_succ_le ref hcc) (Nat.le_add_right _ _))

/-- total length of the output, as computed by `AlnWriter.new` -/
theorem total_eq (ref : List (Array UInt8)) :
    (ref.map (·.size)).foldl (· + ·) 0 = contigOffset ref ref.length := by
  simp [contigOffset]

theorem abs_lt_total (ref : List (Array UInt8)) {c p : Nat} (hc : c < ref.length)
    (hp : p < csize ref c) : contigOffset ref c + p < contigOffset ref ref.length :=
  abs_lt ref 0 hc hp

/-- offsets see only the sizes of the contigs -/
theorem sizes_map {f : Array UInt8 → Array UInt8} (hf : ∀ a, (f a).size = a.size)
    (ref : List (Array UInt8)) : (ref.map f).map (·.size) = ref.map (·.size) := by
  rw [List.map_map]
  exact List.map_congr_left fun a _ => hf a

theorem off_cons_succ (a : Array UInt8) (s : List (Array UInt8)) (j : Nat) :
    contigOffset (a :: s) (j + 1) = a.size + contigOffset s j := by
  induction j with
  | zero => rw [off_succ, off_zero, off_zero]; exact Nat.add_comm _ _
  | succ j ih => rw [off_succ, ih, off_succ, Nat.add_assoc]; rfl

theorem region_iff (ref : List (Array UInt8)) {c c' p start stop : Nat}
    (hp : p < csize ref c') (hstop : stop ≤ csize ref c) :
    (contigOffset ref c + start ≤ contigOffset ref c' + p ∧
      contigOffset ref c' + p < contigOffset ref c + stop) ↔
    (c' = c ∧ start ≤ p ∧ p < stop) := by
  constructor
  · rintro ⟨h1, h2⟩
    rcases Nat.lt_trichotomy c' c with hlt | rfl | hgt
    · exact absurd h1 (Nat.not_le.2 (abs_lt ref start hlt hp))
    · exact ⟨rfl, Nat.le_of_add_le_add_left h1, Nat.lt_of_add_lt_add_left h2⟩
    · exact absurd h2 (Nat.not_lt.2 (Nat.le_trans (Nat.add_le_add_left hstop _)
        (Nat.le_trans (off_succ_le ref hgt) (Nat.le_add_right _ _))))
  · rintro ⟨rfl, h1, h2⟩
    exact ⟨Nat.add_le_add_left h1 _, Nat.add_lt_add_left h2 _⟩

theorem abs_inj (ref : List (Array UInt8)) {c c' p p' : Nat}
    (hp : p < csize ref c) (hp' : p' < csize ref c')
    (heq : contigOffset ref c + p = contigOffset ref c' + p') : c = c' ∧ p = p' := by
  rcases Nat.lt_trichotomy c c' with h | rfl | h
  · exact absurd heq (Nat.ne_of_lt (abs_lt ref p' h hp))
  · exact ⟨rfl, Nat.add_left_cancel heq⟩
  · exact absurd heq.symm (Nat.ne_of_lt (abs_lt ref p h hp'))

end SkaModel.AW

namespace SkaModel.VCF

open SkaModel SkaModel.Spec SkaModel.AW

def coords (seq : List (Array UInt8)) : List (Nat × Nat) :=
  seq.zipIdx.flatMap (fun ci => (List.range ci.1.size).map (fun p => (ci.2, p)))

def coordsTo (seq : List (Array UInt8)) (k : Nat) : List (Nat × Nat) := coords (seq.take k)

theorem coordsTo_succ (seq : List (Array UInt8)) (k : Nat) (h : k < seq.length) :
    coordsTo seq (k + 1) = coordsTo seq k ++ (List.range (csize seq k)).map (fun p => (k, p)) := by
  have hk : (List.take k seq).length = k := by rw [List.length_take]; omega
  unfold coordsTo coords csize
  rw [List.take_succ_eq_append_getElem h, List.zipIdx_append, List.flatMap_append, hk,
    getD_eq_getElem _ _ h]
  simp

theorem coordsTo_length (seq : List (Array UInt8)) : coordsTo seq seq.length = coords seq := by
  rw [coordsTo, List.take_length]

theorem lt_of_mem_coords (seq : List (Array UInt8)) (cp : Nat × Nat) (h : cp ∈ coords seq) :
    ∃ hlt : cp.1 < seq.length, cp.2 < seq[cp.1].size := by
  obtain ⟨ci, hci, hcp⟩ := List.mem_flatMap.1 h
  obtain ⟨p, hp, rfl⟩ := List.mem_map.1 hcp
  obtain ⟨hlt, he⟩ := List.getElem?_eq_some_iff.1 (List.mem_zipIdx_iff_getElem?.1 hci)
  exact ⟨hlt, he ▸ List.mem_range.1 hp⟩

theorem coords_length (seq : List (Array UInt8)) :
    (coords seq).length = (seq.map (·.size)).sum := by
  unfold coords
  conv => rhs; rw [← List.zipIdx_map_fst 0 seq, List.map_map]
  rw [List.length_flatMap]
  simp only [Function.comp_def, List.length_map, List.length_range]

theorem flatMap_coords {β : Type} (seq : List (Array UInt8)) (G : Array UInt8 → Nat → Nat → β) :
    seq.zipIdx.flatMap (fun ci => (List.range ci.1.size).map (G ci.1 ci.2))
      = (coords seq).map (fun cp => G (seq.getD cp.1 #[]) cp.1 cp.2) := by
  rw [coords, List.map_flatMap]
  refine flatMap_congr' _ _ _ fun ci hci => ?_
  obtain ⟨hlt, he⟩ := List.getElem?_eq_some_iff.1 (List.mem_zipIdx_iff_getElem?.1 hci)
  rw [List.map_map]
  simp only [Function.comp_def, getD_eq_getElem seq #[] hlt, he]

theorem take_coordsTo {β : Type} (seq : List (Array UInt8)) (L : List β) (g : Nat → Nat → β)
    (hget : ∀ c p, c < seq.length → p < csize seq c → L[contigOffset seq c + p]? = some (g c p)) :
    ∀ k, k ≤ seq.length →
      L.take (contigOffset seq k) = (coordsTo seq k).map (fun cp => g cp.1 cp.2) := by
  intro k
  induction k with
  | zero => intro _; rw [off_zero]; rfl
  | succ k ih =>
    intro hk
    rw [coordsTo_succ seq k hk, List.map_append, ← ih (Nat.le_of_succ_le hk), off_succ,
      List.take_add, List.map_map]
    congr 1
    apply List.ext_getElem?
    intro p
    by_cases hp : p < csize seq k
    · rw [List.getElem?_take_of_lt hp, List.getElem?_drop, hget k p hk hp, List.getElem?_map,
        List.getElem?_range hp]
      rfl
    · rw [List.getElem?_eq_none (Nat.le_trans (List.length_take_le _ _) (Nat.le_of_not_lt hp)),
        List.getElem?_eq_none (by rw [List.length_map, List.length_range]; exact Nat.le_of_not_lt hp)]

theorem coords_ext {β : Type} (seq : List (Array UInt8)) (L : List β) (g : Nat → Nat → β)
    (hlen : L.length = contigOffset seq seq.length)
    (hget : ∀ c p, c < seq.length → p < csize seq c → L[contigOffset seq c + p]? = some (g c p)) :
    L = (coords seq).map (fun cp => g cp.1 cp.2) := by
  rw [← coordsTo_length, ← take_coordsTo seq L g hget _ (Nat.le_refl _), ← hlen, List.take_length]

end SkaModel.VCF
