/-
C17 completeness — `identify_good_kmers` on the graph of a planted family: the entry nodes are the
`(k-1)`-mers just before the sites of both strands, the exit nodes the `(k-1)`-mers just after them.
-/
import SkaModel.Lemmas.LOCStrand
import SkaModel.Lemmas.LOColourRow
import SkaModel.Lemmas.LOIdentify

namespace SkaModel.LOC

open SkaModel SkaModel.Spec SkaModel.Props.C16 SkaModel.Skalo SkaModel.Props.C17G

def isEntry (k : Nat) (T : List (List UInt8)) (PT : List Nat) (x : Nat) : Prop :=
  ∃ p ∈ PT, ∃ t ∈ T, x = fN k t (p - k + 1)

def isExit (k : Nat) (T : List (List UInt8)) (PT : List Nat) (x : Nat) : Prop :=
  ∃ p ∈ PT, ∃ t ∈ T, x = fN k t (p + 1)

structure Ext (k : Nat) (starts ends : List Nat) (T : List (List UInt8)) (PT : List Nat)
    (T' : List (List UInt8)) (PT' : List Nat) : Prop where
  st : ∀ x, x ∈ starts ↔ isEntry k T PT x ∨ isEntry k T' PT' x
  en : ∀ x, x ∈ ends ↔ isExit k T PT x ∨ isExit k T' PT' x
  snd : starts.Nodup

theorem Ext.swap {k : Nat} {starts ends : List Nat} {T T' : List (List UInt8)} {PT PT' : List Nat}
    (e : Ext k starts ends T PT T' PT') : Ext k starts ends T' PT' T PT :=
  ⟨fun x => (e.st x).trans or_comm, fun x => (e.en x).trans or_comm, e.snd⟩

theorem Ext.entry_mem {k : Nat} {starts ends : List Nat} {T T' : List (List UInt8)} {PT PT' : List Nat}
    (ex : Ext k starts ends T PT T' PT') {t : List UInt8} (ht : t ∈ T) {p : Nat} (hp : p ∈ PT) :
    fN k t (p - k + 1) ∈ starts :=
  (ex.st _).mpr (Or.inl ⟨p, hp, t, ht, rfl⟩)

theorem Ext.exit_mem {k : Nat} {starts ends : List Nat} {T T' : List (List UInt8)} {PT PT' : List Nat}
    (ex : Ext k starts ends T PT T' PT') {t : List UInt8} (ht : t ∈ T) {p : Nat} (hp : p ∈ PT) :
    fN k t (p + 1) ∈ ends :=
  (ex.en _).mpr (Or.inl ⟨p, hp, t, ht, rfl⟩)

theorem PFam.isEntry_mirror {k L : Nat} {S : List (List UInt8)} {P : List Nat} (pf : PFam k L S P) (hk : 1 ≤ k)
    {W : Nat} (hW : 2 * k ≤ W) (x : Nat) :
    isEntry k (rcFam S) (mirrorP L P) x ↔ ∃ p ∈ P, ∃ s ∈ S, x = rvN W k s (p + 1) := by
  refine (exists_mirror _).trans (exists_congr fun p => and_congr_right fun hp =>
    exists_congr fun s => and_congr_right fun hs => ?_)
  rw [pf.rvN_mirror hW hs (pf.mirror_ext hk hp).2]

theorem PFam.isExit_mirror {k L : Nat} {S : List (List UInt8)} {P : List Nat} (pf : PFam k L S P) (hk : 1 ≤ k)
    {W : Nat} (hW : 2 * k ≤ W) (x : Nat) :
    isExit k (rcFam S) (mirrorP L P) x ↔ ∃ p ∈ P, ∃ s ∈ S, x = rvN W k s (p - k + 1) := by
  refine (exists_mirror _).trans (exists_congr fun p => and_congr_right fun hp =>
    exists_congr fun s => and_congr_right fun hs => ?_)
  rw [pf.rvN_mirror hW hs (pf.mirror_ext hk hp).1]

theorem combine_fN {k W : Nat} (hk : 2 ≤ k) (hW : 2 * k ≤ W) {t : List UInt8} {j : Nat}
    (hj : j + k ≤ t.length) :
    combineKmers W (fN k t j) (fN k t (j + 1)) = packL (cds (win t j k)) := by
  have hk1 : 1 ≤ k := Nat.le_of_succ_le hk
  have e : k - 1 + 1 = k := Nat.sub_add_cancel hk1
  have := LORL.combine_pack W (k - 1) (Nat.le_sub_of_add_le hk) (cds (win t j k)) (cds_codes _)
    (by rw [cds_length, win_length hj, e]) (by rw [e]; exact hW)
  have he := e1_window (k := k) hk1 t j
  unfold e1 at he
  simp only [Prod.mk.injEq] at he
  rw [he.1, he.2] at this
  exact this

namespace Strand

variable {k L : Nat} {g : Graph} {T T' : List (List UInt8)} {PT PT' : List Nat}

theorem mem_at_iff (st : Strand k L g T PT T' PT') (c : Nat → Nat) (hc : ∀ p ∈ PT, c p + (k - 1) ≤ L)
    (hc' : ∀ p ∈ PT', c p + (k - 1) ≤ L) {t : List UInt8} (ht : t ∈ T) {j : Nat} (hj : j + (k - 1) ≤ L) :
    ((∃ p ∈ PT, ∃ t' ∈ T, fN k t j = fN k t' (c p)) ∨ (∃ p ∈ PT', ∃ t' ∈ T', fN k t j = fN k t' (c p))) ↔
      ∃ p ∈ PT, j = c p := by
  constructor
  · rintro (⟨p, hp, t', ht', e⟩ | ⟨p, hp, t', ht', e⟩)
    · exact ⟨p, hp, (st.node_level ht ht' hj (hc p hp) e).1⟩
    · exact absurd e (st.node_cross ht ht' hj (hc' p hp))
  · rintro ⟨p, hp, rfl⟩
    exact Or.inl ⟨p, hp, t, ht, rfl⟩

theorem mem_starts_iff (st : Strand k L g T PT T' PT') {starts ends : List Nat}
    (ex : Ext k starts ends T PT T' PT') {t : List UInt8} (ht : t ∈ T) {j : Nat} (hj : j + (k - 1) ≤ L) :
    fN k t j ∈ starts ↔ ∃ p ∈ PT, j + k = p + 1 := by
  refine ((ex.st _).trans (st.mem_at_iff (fun p => p - k + 1) (fun _ hp => add_pred_le (st.pf.entry_fit hp))
    (fun _ hp => add_pred_le (st.pf'.entry_fit hp)) ht hj)).trans (exists_congr fun p => and_congr_right fun hp => ?_)
  rw [← st.pf.entry_succ hp, Nat.add_right_cancel_iff]

theorem mem_ends_iff (st : Strand k L g T PT T' PT') {starts ends : List Nat}
    (ex : Ext k starts ends T PT T' PT') {t : List UInt8} (ht : t ∈ T) {j : Nat} (hj : j + (k - 1) ≤ L) :
    fN k t j ∈ ends ↔ ∃ p ∈ PT, j = p + 1 :=
  (ex.en _).trans (st.mem_at_iff (fun p => p + 1) (fun _ hp => add_pred_le (st.pf.exit_fit hp))
    (fun _ hp => add_pred_le (st.pf'.exit_fit hp)) ht hj)

theorem mem_ext_iff (st : Strand k L g T PT T' PT') {starts ends : List Nat}
    (ex : Ext k starts ends T PT T' PT') {t : List UInt8} (ht : t ∈ T) {j : Nat} (hj : j + (k - 1) ≤ L) :
    fN k t j ∈ starts ++ ends ↔ ∃ p ∈ PT, j + k = p + 1 ∨ j = p + 1 := by
  rw [List.mem_append, st.mem_starts_iff ex ht hj, st.mem_ends_iff ex ht hj, ← exists_or]
  exact exists_congr fun p => and_or_left.symm

theorem source_cases (st : Strand k L g T PT T' PT') {x y : Nat} (h : y ∈ succs g x) :
    (∃ t ∈ T, ∃ j, j + k ≤ L ∧ x = fN k t j) ∨ (∃ t ∈ T', ∃ j, j + k ≤ L ∧ x = fN k t j) := by
  have : Edge g x y := h
  rw [st.edge] at this
  rcases this with ⟨t, ht, j, hj, hx, _⟩ | ⟨t, ht, j, hj, hx, _⟩
  · exact Or.inl ⟨t, ht, j, hj, hx⟩
  · exact Or.inr ⟨t, ht, j, hj, hx⟩

theorem branch_strand (st : Strand k L g T PT T' PT') {col : Colours} (hc : ColOK k L col T) {W : Nat}
    (hW : 2 * k ≤ W) {t : List UInt8} (ht : t ∈ T) {j : Nat} (hj : j + k ≤ L) {a b : Nat} {rest : List Nat}
    (hs : succs g (fN k t j) = a :: b :: rest) :
    ∃ s1 s2, Assoc.lookup col (combineKmers W (fN k t j) a) = some s1 ∧
      Assoc.lookup col (combineKmers W (fN k t j) b) = some s2 ∧ s1 ≠ s2 := by
  have ha : a ∈ succs g (fN k t j) := by rw [hs]; exact List.mem_cons_self ..
  have hb : b ∈ succs g (fN k t j) := by rw [hs]; exact List.mem_cons_of_mem _ (List.mem_cons_self ..)
  have hab : a ≠ b := by
    have := st.nd (fN k t j)
    rw [hs, List.nodup_cons] at this
    exact fun e => this.1 (e ▸ List.mem_cons_self ..)
  obtain ⟨_, ta, hta, hwa, rfl⟩ := (st.mem_succs ht (add_pred_le hj) a).mp ha
  obtain ⟨_, tb, htb, hwb, rfl⟩ := (st.mem_succs ht (add_pred_le hj) b).mp hb
  obtain ⟨Ca, hla, _, hma⟩ := hc ta hta j hj
  obtain ⟨Cb, hlb, _, hmb⟩ := hc tb htb j hj
  refine ⟨Ca, Cb, ?_, ?_, ?_⟩
  · rw [← fN_congr hwa, combine_fN st.k2 hW (st.pf.le_len hta hj)]
    exact hla
  · rw [← fN_congr hwb, combine_fN st.k2 hW (st.pf.le_len htb hj)]
    exact hlb
  · -- `ta` is in its own colour set; if the sets were equal it would have the `k`-window of `tb`
    intro e
    obtain ⟨ia, hia, rfl⟩ := List.getElem_of_mem hta
    have h1 : ia ∈ Ca := (hma ia).mpr ⟨T[ia], List.getElem?_eq_getElem hia, rfl⟩
    rw [e] at h1
    obtain ⟨t', ht', hw⟩ := (hmb ia).mp h1
    obtain rfl := Option.some.inj ((List.getElem?_eq_getElem hia).symm.trans ht')
    apply hab
    apply fN_congr
    simpa only [win_drop] using congrArg (fun w => w.drop 1) hw

theorem branch (st : Strand k L g T PT T' PT') {col : Colours} (hc : ColOK k L col T)
    (hc' : ColOK k L col T') {W : Nat} (hW : 2 * k ≤ W) {x a b : Nat} {rest : List Nat}
    (hs : succs g x = a :: b :: rest) :
    ∃ s1 s2, Assoc.lookup col (combineKmers W x a) = some s1 ∧
      Assoc.lookup col (combineKmers W x b) = some s2 ∧ s1 ≠ s2 := by
  rcases st.source_cases (y := a) (by rw [hs]; exact List.mem_cons_self ..) with
    ⟨t, ht, j, hj, rfl⟩ | ⟨t, ht, j, hj, rfl⟩
  · exact st.branch_strand hc hW ht hj hs
  · exact st.swap.branch_strand hc' hW ht hj hs

theorem entry_of_two_succs (st : Strand k L g T PT T' PT') {t : List UInt8} (ht : t ∈ T) {j : Nat}
    (hj : j + k ≤ L) (h2 : 2 ≤ (succs g (fN k t j)).length) : isEntry k T PT (fN k t j) := by
  have hp := (st.succs_fN ht hj).1.mp h2
  exact ⟨j + k - 1, hp, t, ht, by rw [st.pf.entry_at st.k1 hp]⟩

theorem two_succs_iff (st : Strand k L g T PT T' PT') (x : Nat) :
    2 ≤ (succs g x).length ↔ isEntry k T PT x ∨ isEntry k T' PT' x := by
  constructor
  · intro h2
    obtain ⟨y, hy⟩ := List.exists_mem_of_length_pos (show 0 < (succs g x).length by omega)
    rcases st.source_cases hy with ⟨t, ht, j, hj, rfl⟩ | ⟨t, ht, j, hj, rfl⟩
    · exact Or.inl (st.entry_of_two_succs ht hj h2)
    · exact Or.inr (st.swap.entry_of_two_succs ht hj h2)
  · rintro (⟨p, hp, t, ht, rfl⟩ | ⟨p, hp, t, ht, rfl⟩)
    · exact st.succs_site_two ht hp
    · exact st.swap.succs_site_two ht hp

theorem revComp_fN (st : Strand k L g T PT T' PT') {W : Nat} (hw : W = 64 ∨ W = 128) (hW : 2 * k ≤ W)
    {t : List UInt8} (ht : t ∈ T) {j j' : Nat} (hj : L = j' + (k - 1) + j) :
    revComp W (fN k t j) (k - 1) = fN k (rcSeq t) j' :=
  -- `fN k` is `kmerAt (k - 1)` and `rN k` is `rcKmerAt (k - 1)`, by definition
  (revComp_kmerAt (k := k - 1) (Nat.le_trans (Nat.mul_le_mul_left 2 (Nat.sub_le k 1)) hW) hw
    (by rw [st.pf.len ht]; omega)).trans
    (rN_eq_fN_add (st.pf.base ht) ((st.pf.len ht).trans hj))

theorem revComp_entry (st : Strand k L g T PT T' PT') {W : Nat} (hw : W = 64 ∨ W = 128) (hW : 2 * k ≤ W)
    {e : Nat} (he : isEntry k T PT e) : isExit k T' PT' (revComp W e (k - 1)) := by
  obtain ⟨p, hp, t, ht, rfl⟩ := he
  exact ⟨L - 1 - p, st.mirP p hp, rcSeq t, st.rcT t ht,
    st.revComp_fN hw hW ht (st.pf.mirror_ext st.k1 hp).1⟩

theorem exit_revComp (st : Strand k L g T PT T' PT') {W : Nat} (hw : W = 64 ∨ W = 128) (hW : 2 * k ≤ W)
    {x : Nat} (hx : isExit k T PT x) : ∃ e, isEntry k T' PT' e ∧ revComp W e (k - 1) = x := by
  obtain ⟨p, hp, t, ht, rfl⟩ := hx
  refine ⟨_, ⟨L - 1 - p, st.mirP p hp, rcSeq t, st.rcT t ht, rfl⟩, ?_⟩
  -- seen from the other strand, `p` is the mirror image of the site `L - 1 - p`
  rw [st.swap.revComp_fN hw hW (st.rcT t ht) (st.pf'.mirror_ext st.k1 (st.mirP p hp)).1,
    st.pf.mirror_mirror hp, rcSeq_rcSeq (st.pf.base ht)]

theorem identify (st : Strand k L g T PT T' PT') {col : Colours} (hc : ColOK k L col T)
    (hc' : ColOK k L col T') {W : Nat} (hw : W = 64 ∨ W = 128) (hW : 2 * k ≤ W) :
    ∃ starts ends, identifyGoodKmers W (k - 1) g col = some (starts, ends) ∧ Ext k starts ends T PT T' PT' := by
  obtain ⟨starts, hid, hnd, hst⟩ := identify_branch st.knd st.lk (k - 1) (col := col) (W := W)
    (fun x a b rest hs => st.branch hc hc' hW hs)
  have hst' : ∀ x, x ∈ starts ↔ isEntry k T PT x ∨ isEntry k T' PT' x := fun x => (hst x).trans (st.two_succs_iff x)
  refine ⟨_, _, hid, hst', fun x => ?_, hnd⟩
  rw [List.mem_map]
  constructor
  · rintro ⟨e, he, rfl⟩
    rcases (hst' e).mp he with he | he
    · exact Or.inr (st.revComp_entry hw hW he)
    · exact Or.inl (st.swap.revComp_entry hw hW he)
  · rintro (hx | hx)
    · obtain ⟨e, he, rfl⟩ := st.exit_revComp hw hW hx
      exact ⟨e, (hst' e).mpr (Or.inr he), rfl⟩
    · obtain ⟨e, he, rfl⟩ := st.swap.exit_revComp hw hW hx
      exact ⟨e, (hst' e).mpr (Or.inl he), rfl⟩

end Strand

theorem identify_fam {a : Arr} {k L : Nat} {names : List String} {S : List (List UInt8)} {P : List Nat}
    (ha : IsArrOf a k names S) (pf : PFam k L S P) (hk : ValidK k) {W : Nat} (hw : WidthOk W k) :
    ∃ starts ends, identifyGoodKmers W (k - 1) (buildGraph W a).1 (buildGraph W a).2 = some (starts, ends) ∧
      Ext k starts ends S P (rcFam S) (mirrorP L P) :=
  (strand_of_fam ha pf hk hw).identify (colOK_fam ha pf hk hw) (colOK_rc ha pf hk hw) (widthOk_cases hw)
    (validK_bounds hk hw).2.2

theorem ext_of_identify {a : Arr} {k L : Nat} {names : List String} {S : List (List UInt8)} {P : List Nat}
    (ha : IsArrOf a k names S) (pf : PFam k L S P) (hk : ValidK k) {W : Nat} (hw : WidthOk W k)
    {starts ends : List Nat}
    (hid : identifyGoodKmers W (k - 1) (buildGraph W a).1 (buildGraph W a).2 = some (starts, ends)) :
    Ext k starts ends S P (rcFam S) (mirrorP L P) := by
  obtain ⟨starts', ends', hid', ex⟩ := identify_fam ha pf hk hw
  rw [hid] at hid'
  cases hid'
  exact ex

end SkaModel.LOC
