/-
`ska lo` graph stage: from the found paths to the variant groups, on any graph.  `pathsFrom` holds, for every exit node
found, all the paths found with it, in order (`mem_pathsFrom`); `groupsFrom` is a filter and a map of that container
(`groupsFrom_eq`, `mem_groupsFrom`); `buildVariantGroups` is two filters of the list of all groups built
(`buildVariantGroups_eq`, `clsSnp`, `clsIndel`), no two of which have the same key.  Read off these, every reported group
is real (`groupsFrom_real`): a path of a group is a path that `explore` reports, hence a walk of the original graph; and
in a group that is reported neither the entry nor the exit node starts a segment, so the path runs from the one to the
other.  Also `mostCommonLength` of paths of one length, and the positions `buildVariant` marks.
-/
import SkaModel.Lemmas.LOPathExplore

namespace SkaModel.LOP

open SkaModel SkaModel.Skalo

def clsIndel (kGraph : Nat) (vs : List Variant) : Bool :=
  !decide (vs.length < 2) &&
    ((vs.length == 2 && (vs.getD 0 ([], [])).1.length != (vs.getD 1 ([], [])).1.length) &&
      vs.any (fun v => decide (v.1.length ≤ 2 * kGraph)))

def clsSnp (vs : List Variant) : Bool :=
  !decide (vs.length < 2) &&
    !(vs.length == 2 && (vs.getD 0 ([], [])).1.length != (vs.getD 1 ([], [])).1.length)

def builtGroups (W kGraph : Nat) (g0 : Graph) (starts ends : List Nat) (maxDepth : Nat) :
    List ((Nat × Nat) × List Variant) :=
  starts.flatMap (groupsFrom W kGraph (compactGraph g0 starts ends).1 (compactGraph g0 starts ends).2
    starts ends maxDepth)

theorem classify_step (kGraph : Nat) (acc : List ((Nat × Nat) × List Variant) × List ((Nat × Nat) × List Variant))
    (kv : (Nat × Nat) × List Variant) :
    (if kv.2.length < 2 then acc
      else if kv.2.length == 2 && (kv.2.getD 0 ([], [])).1.length != (kv.2.getD 1 ([], [])).1.length then
        if kv.2.any (fun v => v.1.length ≤ 2 * kGraph) then (acc.1, acc.2 ++ [kv]) else acc
      else (acc.1 ++ [kv], acc.2)) =
    (acc.1 ++ [kv].filter (fun kv => clsSnp kv.2), acc.2 ++ [kv].filter (fun kv => clsIndel kGraph kv.2)) := by
  simp only [List.filter_cons, List.filter_nil, clsSnp, clsIndel]
  by_cases h1 : kv.2.length < 2
  · simp [h1]
  · generalize (kv.2.length == 2 && (kv.2.getD 0 ([], [])).1.length != (kv.2.getD 1 ([], [])).1.length) = b2
    generalize kv.2.any (fun v => decide (v.1.length ≤ 2 * kGraph)) = b3
    cases b2 <;> cases b3 <;> simp [h1]

theorem buildVariantGroups_eq (W kGraph : Nat) (g0 : Graph) (starts ends : List Nat) (maxDepth : Nat) :
    buildVariantGroups W kGraph g0 starts ends maxDepth =
      { snpGroups := (builtGroups W kGraph g0 starts ends maxDepth).filter (fun kv => clsSnp kv.2),
        indelGroups := (builtGroups W kGraph g0 starts ends maxDepth).filter (fun kv => clsIndel kGraph kv.2) } := by
  unfold buildVariantGroups builtGroups
  simp only []
  rw [LO.foldl_filter_pair _ _ _ (classify_step kGraph)]
  rfl

theorem clsIndel_spec (kGraph : Nat) (vs : List Variant) (h : clsIndel kGraph vs = true) :
    ∃ v0 v1, vs = [v0, v1] ∧ v0.1.length ≠ v1.1.length ∧
      (v0.1.length ≤ 2 * kGraph ∨ v1.1.length ≤ 2 * kGraph) := by
  unfold clsIndel at h
  simp only [Bool.and_eq_true, beq_iff_eq, bne_iff_ne] at h
  obtain ⟨_, ⟨hl, hne⟩, hany⟩ := h
  match vs, hl with
  | [v0, v1], _ =>
    refine ⟨v0, v1, rfl, by simpa using hne, ?_⟩
    simpa using hany

theorem clsSnp_spec (vs : List Variant) (h : clsSnp vs = true) : 2 ≤ vs.length := by
  unfold clsSnp at h
  simp only [Bool.and_eq_true, Bool.not_eq_true', decide_eq_false_iff_not] at h
  exact Nat.le_of_not_lt h.1

theorem cls_disjoint (kGraph : Nat) (vs : List Variant) (h : clsSnp vs = true) :
    clsIndel kGraph vs = false := by
  unfold clsSnp at h
  unfold clsIndel
  simp only [Bool.and_eq_true, Bool.not_eq_true'] at h
  rw [h.2]
  simp

theorem pathsFrom_keys_nodup (g : Graph) (comp : List (Nat × List Nat)) (ends : List Nat)
    (maxDepth kmer : Nat) : ((pathsFrom g comp ends maxDepth kmer).map (·.1)).Nodup := by
  unfold pathsFrom
  simp only []
  exact LO.foldl_inv (fun (acc : List (Nat × List (List Nat))) => (Assoc.keys acc).Nodup) _ _
    (fun acc _ _ h => Assoc.nodup_keys_upsert acc _ _ _ h) [] List.nodup_nil

theorem groupsFrom_eq (W kGraph : Nat) (g : Graph) (comp : List (Nat × List Nat)) (starts ends : List Nat)
    (maxDepth kmer : Nat) :
    groupsFrom W kGraph g comp starts ends maxDepth kmer =
      if (pathsFrom g comp ends maxDepth kmer).any (fun ep => ep.2.length > 1) then
        ((pathsFrom g comp ends maxDepth kmer).filter (fun ep =>
          (ep.2.map (fun v => v.getD 1 0)).eraseDups.length > 1 &&
            (ep.2.map (fun v => v.getD (v.length - 2) 0)).eraseDups.length > 1)).map fun ep =>
          ((kmer, ep.1), (if ep.2.length == 2 then ep.2
            else ep.2.filter (fun v => v.length == mostCommonLength ep.2)).map
              (buildVariant W kGraph starts ends kmer))
      else [] := by
  unfold groupsFrom
  simp only []
  split
  · rw [← List.foldl_filter, Assoc.foldl_push, List.nil_append]
  · rfl

theorem groupsFrom_keys (W kGraph : Nat) (g : Graph) (comp : List (Nat × List Nat)) (starts ends : List Nat)
    (maxDepth kmer : Nat) :
    ((groupsFrom W kGraph g comp starts ends maxDepth kmer).map (·.1)).Nodup ∧
    ∀ kv ∈ groupsFrom W kGraph g comp starts ends maxDepth kmer, kv.1.1 = kmer := by
  rw [groupsFrom_eq]
  split
  · constructor
    · rw [List.map_map]
      show (((pathsFrom g comp ends maxDepth kmer).filter _).map ((fun x => (kmer, x)) ∘ (·.1))).Nodup
      rw [← List.map_map]
      refine List.Pairwise.map (R := (· ≠ ·)) (fun x => (kmer, x)) (fun a b hab h => hab (Prod.mk.inj h).2) ?_
      exact (List.filter_sublist.map _).nodup (pathsFrom_keys_nodup g comp ends maxDepth kmer)
    · intro kv hkv
      obtain ⟨ep, _, he⟩ := List.mem_map.mp hkv
      rw [← he]
  · exact ⟨List.nodup_nil, fun _ h => absurd h List.not_mem_nil⟩

theorem built_key_unique (W kGraph : Nat) (g0 : Graph) (starts ends : List Nat) (maxDepth : Nat)
    (kv kv' : (Nat × Nat) × List Variant)
    (h : kv ∈ builtGroups W kGraph g0 starts ends maxDepth)
    (h' : kv' ∈ builtGroups W kGraph g0 starts ends maxDepth) (hk : kv.1 = kv'.1) : kv = kv' := by
  unfold builtGroups at h h'
  obtain ⟨k1, _, h1⟩ := List.mem_flatMap.mp h
  obtain ⟨k2, _, h2⟩ := List.mem_flatMap.mp h'
  have e1 := (groupsFrom_keys _ _ _ _ _ _ _ _).2 kv h1
  have e2 := (groupsFrom_keys _ _ _ _ _ _ _ _).2 kv' h2
  have : k1 = k2 := by rw [← e1, ← e2, hk]
  subst this
  exact eq_of_nodup_map (·.1) (groupsFrom_keys _ _ _ _ _ _ _ _).1 h1 h2 hk

theorem built_keys_nodup (W kGraph : Nat) (g0 : Graph) (starts ends : List Nat) (maxDepth : Nat)
    (hs : starts.Nodup) : ((builtGroups W kGraph g0 starts ends maxDepth).map (·.1)).Nodup := by
  unfold builtGroups
  rw [List.map_flatMap]
  unfold List.Nodup
  rw [List.pairwise_flatMap]
  constructor
  · intro a _
    exact (groupsFrom_keys _ _ _ _ _ _ _ _).1
  · refine List.Pairwise.imp ?_ hs
    intro a b hab x hx y hy hxy
    obtain ⟨kv, hkv, rfl⟩ := List.mem_map.mp hx
    obtain ⟨kv', hkv', rfl⟩ := List.mem_map.mp hy
    have e1 := (groupsFrom_keys _ _ _ _ _ _ _ _).2 kv hkv
    have e2 := (groupsFrom_keys _ _ _ _ _ _ _ _).2 kv' hkv'
    exact hab (by rw [← e1, ← e2, hxy])

theorem groups_keys_nodup (W kGraph : Nat) (g0 : Graph) (starts ends : List Nat) (maxDepth : Nat)
    (hs : starts.Nodup) :
    (((buildVariantGroups W kGraph g0 starts ends maxDepth).snpGroups).map (·.1)).Nodup ∧
    (((buildVariantGroups W kGraph g0 starts ends maxDepth).indelGroups).map (·.1)).Nodup := by
  rw [buildVariantGroups_eq]
  exact ⟨LO.filter_keys_nodup _ _ _ (built_keys_nodup W kGraph g0 starts ends maxDepth hs),
    LO.filter_keys_nodup _ _ _ (built_keys_nodup W kGraph g0 starts ends maxDepth hs)⟩

end SkaModel.LOP

namespace SkaModel.LOC

open SkaModel SkaModel.Skalo SkaModel.Props.C17G SkaModel.LOG

/-- the fold is the last line of `pathsFrom`, the grouping by exit node -/
theorem lookup_grouped (found : List (Nat × List Nat)) (e : Nat) :
    Assoc.lookup (found.foldl (fun (acc : List (Nat × List (List Nat))) ep =>
      Assoc.upsert acc ep.1 [ep.2] (fun l => l ++ [ep.2])) []) e =
      if found.filter (fun ep => ep.1 == e) = [] then none
      else some ((found.filter (fun ep => ep.1 == e)).map (·.2)) := by
  rw [Assoc.lookup_foldl_upsert (β := Nat × List Nat) (·.1) (fun ep => [ep.2]) (fun ep l => l ++ [ep.2]),
    Assoc.foldl_hit_default (β := Nat × List Nat) [] (fun ep => [ep.2]) (fun ep l => l ++ [ep.2]) (fun _ => rfl),
    Assoc.foldl_push (β := Nat × List Nat) (·.2)]
  rfl

theorem mem_pathsFrom (g' : Graph) (comp : List (Nat × List Nat)) (ends : List Nat) (maxDepth kmer : Nat)
    (e : Nat) (ps : List (List Nat)) :
    (e, ps) ∈ pathsFrom g' comp ends maxDepth kmer ↔
      ps ≠ [] ∧ ps = (((succs g' kmer).flatMap (fun s =>
        explore g' comp ends maxDepth (edgeCount g' + 2) s [kmer, s]
          ([kmer, s] ++ (Assoc.lookup comp s).getD []) 0)).filter (fun ep => ep.1 == e)).map (·.2) := by
  rw [Assoc.mem_iff_lookup _ (LOP.pathsFrom_keys_nodup g' comp ends maxDepth kmer)]
  unfold pathsFrom
  simp only
  rw [lookup_grouped]
  split
  · rename_i hf
    rw [hf]
    exact ⟨fun h => (nomatch h), fun h => absurd h.2 h.1⟩
  · rename_i hf
    exact ⟨fun h => Option.some.inj h ▸ ⟨fun e' => hf (List.map_eq_nil_iff.mp e'), rfl⟩, fun h => by rw [h.2]⟩

theorem mem_pathsFrom_paths {g' : Graph} {comp : List (Nat × List Nat)} {ends : List Nat} {maxDepth kmer : Nat}
    {e : Nat} {ps : List (List Nat)} (h : (e, ps) ∈ pathsFrom g' comp ends maxDepth kmer) (p : List Nat) :
    p ∈ ps ↔ (e, p) ∈ (succs g' kmer).flatMap (fun s =>
        explore g' comp ends maxDepth (edgeCount g' + 2) s [kmer, s]
          ([kmer, s] ++ (Assoc.lookup comp s).getD []) 0) := by
  obtain ⟨_, rfl⟩ := (mem_pathsFrom g' comp ends maxDepth kmer e ps).mp h
  exact mem_targets _ e p

theorem pathsFrom_of_found {g' : Graph} {comp : List (Nat × List Nat)} {ends : List Nat} {maxDepth kmer : Nat}
    {e : Nat} {p : List Nat} (h : (e, p) ∈ (succs g' kmer).flatMap (fun s =>
        explore g' comp ends maxDepth (edgeCount g' + 2) s [kmer, s]
          ([kmer, s] ++ (Assoc.lookup comp s).getD []) 0)) :
    ∃ ps, (e, ps) ∈ pathsFrom g' comp ends maxDepth kmer ∧ p ∈ ps :=
  have hp := (mem_targets _ e p).2 h
  ⟨_, (mem_pathsFrom g' comp ends maxDepth kmer e _).mpr ⟨List.ne_nil_of_mem hp, rfl⟩, hp⟩

theorem mostCommonLength_const {paths : List (List Nat)} {n : Nat} (hne : paths ≠ [])
    (h : ∀ p ∈ paths, p.length = n) : mostCommonLength paths = n := by
  unfold mostCommonLength
  have hl : (paths.map List.length).eraseDups = [n] := by
    apply LO.eraseDups_const
    · simpa using hne
    · intro x hx
      obtain ⟨p, hp, rfl⟩ := List.mem_map.mp hx
      exact h p hp
  simp only [hl, List.map_cons, List.map_nil, List.foldl_cons, List.foldl_nil, List.filter_cons, List.filter_nil]
  have hmax : max 0 (paths.filter (fun p => p.length == n)).length = (paths.filter (fun p => p.length == n)).length :=
    Nat.max_eq_right (Nat.zero_le _)
  rw [hmax]
  simp

theorem filtered_all {paths : List (List Nat)} {n : Nat} (hne : paths ≠ []) (h : ∀ p ∈ paths, p.length = n) :
    (if paths.length == 2 then paths else paths.filter (fun v => v.length == mostCommonLength paths)) = paths := by
  split
  · rfl
  · rw [mostCommonLength_const hne h, List.filter_eq_self]
    intro p hp
    simpa using h p hp

theorem mem_groupsFrom (W kGraph : Nat) (g' : Graph) (comp : List (Nat × List Nat)) (starts ends : List Nat)
    (maxDepth kmer : Nat) (grp : (Nat × Nat) × List Variant) :
    grp ∈ groupsFrom W kGraph g' comp starts ends maxDepth kmer ↔
      (pathsFrom g' comp ends maxDepth kmer).any (fun ep => ep.2.length > 1) = true ∧
      ∃ e paths, (e, paths) ∈ pathsFrom g' comp ends maxDepth kmer ∧
        (paths.map (fun v => v.getD 1 0)).eraseDups.length > 1 ∧
        (paths.map (fun v => v.getD (v.length - 2) 0)).eraseDups.length > 1 ∧
        grp = ((kmer, e), (if paths.length == 2 then paths
          else paths.filter (fun v => v.length == mostCommonLength paths)).map
            (buildVariant W kGraph starts ends kmer)) := by
  rw [LOP.groupsFrom_eq]
  split
  · rename_i hany
    simp only [hany, true_and, List.mem_map, List.mem_filter, Bool.and_eq_true, decide_eq_true_eq]
    constructor
    · rintro ⟨ep, ⟨hm, h1, h2⟩, rfl⟩
      exact ⟨ep.1, ep.2, hm, h1, h2, rfl⟩
    · rintro ⟨e, paths, hm, h1, h2, rfl⟩
      exact ⟨(e, paths), ⟨hm, h1, h2⟩, rfl⟩
  · rename_i hany
    simp [hany]

/-- the positions `buildVariant` marks at node `ni.1`, the `ni.2`-th of a path of `len` nodes -/
def marksAt (kGraph : Nat) (starts ends : List Nat) (len : Nat) (ni : Nat × Nat) : List Nat :=
  if starts.contains ni.1 && (len < kGraph || ni.2 ≤ len - kGraph) then [ni.2 + kGraph]
  else if ends.contains ni.1 then [ni.2 - 1]
  else []

theorem buildVariant_marks (W kGraph : Nat) (starts ends : List Nat) (kmer : Nat) (path : List Nat) :
    (buildVariant W kGraph starts ends kmer path).2 =
      path.zipIdx.flatMap (marksAt kGraph starts ends path.length) := by
  rw [List.flatMap_eq_foldl]
  show path.zipIdx.foldl _ [] = _
  congr 1
  funext acc ni
  unfold marksAt
  split
  · rfl
  · split
    · rfl
    · exact (List.append_nil acc).symm

theorem mark_of_start (W kGraph : Nat) (starts ends : List Nat) (kmer : Nat) (path : List Nat) (idx x : Nat)
    (hx : path[idx]? = some x) (hs : x ∈ starts) (hc : path.length < kGraph ∨ idx ≤ path.length - kGraph) :
    idx + kGraph ∈ (buildVariant W kGraph starts ends kmer path).2 := by
  rw [buildVariant_marks]
  refine List.mem_flatMap.2 ⟨(x, idx), List.mem_zipIdx_iff_getElem?.2 (by simpa using hx), ?_⟩
  unfold marksAt
  rw [if_pos (by simpa [hs] using hc)]
  exact List.mem_singleton.2 rfl

end SkaModel.LOC

namespace SkaModel.LOG

open SkaModel SkaModel.Skalo SkaModel.Props.C17G SkaModel.LOC

theorem pathsFrom_shape {g' : Graph} {comp : List (Nat × List Nat)} {ends : List Nat} {maxDepth kmer : Nat}
    {e : Nat} {ps : List (List Nat)} (h : (e, ps) ∈ pathsFrom g' comp ends maxDepth kmer) :
    ∀ p ∈ ps, e ∈ ends ∧ ∃ s q, Edge g' kmer s ∧
      p = kmer :: s :: interior comp s ++ q ++ e :: interior comp e := by
  intro p hp
  obtain ⟨s, hs, hm⟩ := List.mem_flatMap.mp ((mem_pathsFrom_paths h p).mp hp)
  obtain ⟨h1, q, h2⟩ := explore_shape _ _ _ _ _ _ _ _ _ _ hm
  exact ⟨h1, s, q, hs, by simpa [interior] using h2⟩

theorem pathsFrom_walk {g g' : Graph} {comp : List (Nat × List Nat)} (hs : Sound g g' comp)
    {ends : List Nat} {maxDepth kmer : Nat} (hk : Assoc.lookup comp kmer = none)
    {e : Nat} {ps : List (List Nat)} (h : (e, ps) ∈ pathsFrom g' comp ends maxDepth kmer) :
    ∀ p ∈ ps, Walk g p := by
  intro p hp
  obtain ⟨s, hedge, hm⟩ := List.mem_flatMap.mp ((mem_pathsFrom_paths h p).mp hp)
  refine explore_walk_aux hs ends maxDepth _ s _ [kmer] 0 (e, p) ?_ hm
  have := hs.step kmer s hedge
  unfold expand interior at this
  rw [hk] at this
  exact this

theorem buildVariantGroups_mem {W kGraph : Nat} {g : Graph} {starts ends : List Nat} {maxDepth : Nat}
    {grp : (Nat × Nat) × List Variant}
    (h : grp ∈ (buildVariantGroups W kGraph g starts ends maxDepth).snpGroups ++
      (buildVariantGroups W kGraph g starts ends maxDepth).indelGroups) :
    ∃ kmer ∈ starts, grp ∈ groupsFrom W kGraph (compactGraph g starts ends).1
      (compactGraph g starts ends).2 starts ends maxDepth kmer := by
  rw [LOP.buildVariantGroups_eq] at h
  exact List.mem_flatMap.1 ((List.mem_append.1 h).elim (fun h => (List.mem_filter.1 h).1)
    (fun h => (List.mem_filter.1 h).1))

theorem getD_append_len_sub_two (x y : List Nat) (hy : 2 ≤ y.length) :
    (x ++ y).getD ((x ++ y).length - 2) 0 = y.getD (y.length - 2) 0 := by
  rw [List.length_append, Nat.add_sub_assoc hy, List.getD_eq_getElem?_getD, List.getD_eq_getElem?_getD,
    List.getElem?_append_right (Nat.le_add_right _ _), Nat.add_sub_cancel_left]

theorem groupsFrom_real {W kGraph : Nat} {g g' : Graph} {comp : List (Nat × List Nat)}
    (hs : Sound g g' comp) {starts ends : List Nat} {maxDepth kmer : Nat}
    {grp : (Nat × Nat) × List Variant}
    (h : grp ∈ groupsFrom W kGraph g' comp starts ends maxDepth kmer) :
    grp.1.1 = kmer ∧ grp.1.2 ∈ ends ∧
      Assoc.lookup comp kmer = none ∧ Assoc.lookup comp grp.1.2 = none ∧
      ∀ var ∈ grp.2, ∃ path, var = buildVariant W kGraph starts ends kmer path ∧
        Walk g path ∧ path.head? = some kmer ∧ path.getLast? = some grp.1.2 ∧ 3 ≤ path.length := by
  obtain ⟨_, e, paths, hmem, hsec, hlast, rfl⟩ := (mem_groupsFrom ..).mp h
  have hshape := pathsFrom_shape hmem
  obtain ⟨p0, hp0⟩ : ∃ p0, p0 ∈ paths := by
    cases paths with
    | nil => simp at hsec
    | cons p0 t => exact ⟨p0, List.mem_cons_self ..⟩
  obtain ⟨hend, s0, _, hes0, _⟩ := hshape p0 hp0
  -- the entry node starts no segment: else every second node is its one successor
  have hk : Assoc.lookup comp kmer = none := by
    cases hl : Assoc.lookup comp kmer with
    | none => rfl
    | some I =>
      refine absurd hsec (Nat.not_lt.2 (Dedup.eraseDups_map_length_le_one _ paths s0 fun p hp => ?_))
      obtain ⟨_, s, q, hes, hp'⟩ := hshape p hp
      rw [hp']
      exact hs.single kmer (by rw [hl]; simp) s s0 hes hes0
  -- the exit node starts no segment: else every second-last node is the second-last of `e :: I`
  have he : Assoc.lookup comp e = none := by
    cases hl : Assoc.lookup comp e with
    | none => rfl
    | some I =>
      refine absurd hlast (Nat.not_lt.2 (Dedup.eraseDups_map_length_le_one _ paths
        ((e :: I).getD ((e :: I).length - 2) 0) fun p hp => ?_))
      obtain ⟨_, s, q, _, hp'⟩ := hshape p hp
      have hI : interior comp e = I := by unfold interior; rw [hl]; rfl
      rw [hp', hI]
      refine getD_append_len_sub_two _ (e :: I) ?_
      cases I with
      | nil => exact absurd rfl (hs.nonempty e [] hl)
      | cons a t => exact Nat.le_add_left 2 t.length
  refine ⟨rfl, hend, hk, he, ?_⟩
  intro var hvar
  obtain ⟨p, hp, rfl⟩ := List.mem_map.1 hvar
  have hp : p ∈ paths := by
    split at hp
    · exact hp
    · exact (List.mem_filter.1 hp).1
  refine ⟨p, rfl, pathsFrom_walk hs hk hmem p hp, ?_⟩
  obtain ⟨_, s, q, _, hp'⟩ := hshape p hp
  have hI : interior comp e = [] := by unfold interior; rw [he]; rfl
  rw [hp', hI]
  refine ⟨rfl, List.getLast?_concat .., ?_⟩
  simp only [List.length_append, List.length_cons, List.length_nil]
  omega

end SkaModel.LOG
