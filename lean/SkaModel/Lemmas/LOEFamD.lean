/-
C18 completeness — the columns of the samples of a deletion family (`DFam`: the hypotheses of the theorem as a
structure).  Blocks have `1 .. k-1` columns and lie `4k` columns from each other and from both ends, so a window
(`cwin`, `IsWin`) of at most `k` consecutive columns of a sample is contiguous in `F` or jumps over exactly one deleted
block (`win_class`).
-/
import SkaModel.Lemmas.LOEDel
import SkaModel.Lemmas.LOCStr

namespace SkaModel.LOE

open SkaModel SkaModel.Skalo SkaModel.Spec SkaModel.LOC

def cwin (K : List Nat) (j m : Nat) : List Nat := (K.drop j).take m

theorem cwin_length {K : List Nat} {j m : Nat} (h : j + m ≤ K.length) : (cwin K j m).length = m := by
  unfold cwin
  rw [List.length_take, List.length_drop]
  omega

theorem cwin_getElem? (K : List Nat) (j m i : Nat) (h : i < m) : (cwin K j m)[i]? = K[j + i]? := by
  unfold cwin
  rw [List.getElem?_take_of_lt h, List.getElem?_drop]

theorem cwin_succ {K : List Nat} {j m y : Nat} (h : K[j + m]? = some y) :
    cwin K j (m + 1) = cwin K j m ++ [y] := by
  unfold cwin
  rw [List.take_add_one, List.getElem?_drop, h]
  rfl

theorem cwin_take (K : List Nat) (j m n : Nat) (h : n ≤ m) : (cwin K j m).take n = cwin K j n := by
  unfold cwin
  rw [List.take_take, Nat.min_eq_left h]

theorem cwin_drop (K : List Nat) (j m n : Nat) : (cwin K j m).drop n = cwin K (j + n) (m - n) := by
  unfold cwin
  rw [List.drop_take, List.drop_drop]

theorem cwin_range' {x n j m : Nat} (h : j + m ≤ n) : cwin (List.range' x n) j m = List.range' (x + j) m := by
  unfold cwin
  rw [List.drop_range', List.take_range'_of_length_ge (by omega), Nat.mul_one]

theorem cwin_gap {x a e r j m : Nat} (hj : j ≤ a) (h : a ≤ j + m) (hr : j + m ≤ a + r) :
    cwin (List.range' x a ++ List.range' e r) j m = List.range' (x + j) (a - j) ++ List.range' e (m - (a - j)) := by
  unfold cwin
  rw [List.drop_append_of_le_length (by rw [List.length_range']; exact hj), List.drop_range', List.take_append,
    List.length_range', List.take_of_length_le (by rw [List.length_range']; omega),
    List.take_range'_of_length_ge (by omega), Nat.mul_one]

theorem win_map (F : List UInt8) (K : List Nat) (j m : Nat) :
    win (K.map (getF F)) j m = (cwin K j m).map (getF F) := by
  unfold win cwin
  rw [List.map_take, List.map_drop]

theorem cwin_of_infix {w K : List Nat} (h : w <:+: K) : ∃ j, j + w.length ≤ K.length ∧ cwin K j w.length = w := by
  obtain ⟨s, t, e⟩ := h
  refine ⟨s.length, ?_, ?_⟩
  · rw [← e]
    simp only [List.length_append]
    omega
  · unfold cwin
    rw [← e, List.append_assoc, List.drop_left, List.take_left]

def IsWin (m N : Nat) (B : List (Nat × Nat)) (c : List Bool) (u : List Nat) : Prop :=
  ∃ j, j + m ≤ (keepCols N B c).length ∧ cwin (keepCols N B c) j m = u

/-- start and end of block number `t` -/
def bS (B : List (Nat × Nat)) (t : Nat) : Nat := (B.getD t (0, 0)).1
def bE (B : List (Nat × Nat)) (t : Nat) : Nat := (B.getD t (0, 0)).1 + (B.getD t (0, 0)).2

theorem keepB_iff (B : List (Nat × Nat)) (c : List Bool) (x : Nat) :
    keepB B c x = true ↔ ∀ t, t < B.length → c.getD t false = false → ¬ (bS B t ≤ x ∧ x < bE B t) := by
  unfold keepB bS bE
  simp only [List.all_eq_true, List.mem_range]
  refine forall_congr' fun t => imp_congr_right fun _ => ?_
  cases c.getD t false
  · simp
    omega
  · simp

theorem keepB_false_iff (B : List (Nat × Nat)) (c : List Bool) (x : Nat) :
    keepB B c x = false ↔ ∃ t, t < B.length ∧ c.getD t false = false ∧ bS B t ≤ x ∧ x < bE B t := by
  rw [← Bool.not_eq_true, keepB_iff]
  simp only [Classical.not_forall, Classical.not_not, exists_prop]

theorem mem_keepCols (N : Nat) (B : List (Nat × Nat)) (c : List Bool) (x : Nat) :
    x ∈ keepCols N B c ↔ x < N ∧ keepB B c x = true := by
  unfold keepCols
  rw [List.mem_filter, List.mem_range]

theorem keepCols_sorted (N : Nat) (B : List (Nat × Nat)) (c : List Bool) :
    (keepCols N B c).Pairwise (· < ·) :=
  List.Pairwise.filter _ List.pairwise_lt_range

theorem next_kept {N : Nat} {B : List (Nat × Nat)} {c : List Bool} {j x y : Nat}
    (hx : (keepCols N B c)[j]? = some x) (hy : (keepCols N B c)[j + 1]? = some y) :
    x < y ∧ y < N ∧ keepB B c x = true ∧ keepB B c y = true ∧ ∀ z, x < z → z < y → keepB B c z = false := by
  have hs := keepCols_sorted N B c
  have hxy := (sorted_lt hs hx hy).mp (by omega)
  have hxm := (mem_keepCols N B c x).mp (List.mem_of_getElem? hx)
  have hym := (mem_keepCols N B c y).mp (List.mem_of_getElem? hy)
  refine ⟨hxy, hym.1, hxm.2, hym.2, ?_⟩
  intro z hz1 hz2
  apply Classical.byContradiction
  intro hk
  have hzm : z ∈ keepCols N B c := (mem_keepCols N B c z).mpr ⟨by omega, by simpa using hk⟩
  obtain ⟨i, hi, hiz⟩ := List.getElem_of_mem hzm
  have hz : (keepCols N B c)[i]? = some z := by rw [List.getElem?_eq_getElem hi, hiz]
  have h1 := (sorted_lt hs hx hz).mpr hz1
  have h2 := (sorted_lt hs hz hy).mpr hz2
  omega

theorem shiftR_le (F : List UInt8) : ∀ (fuel b e : Nat), shiftR F b e fuel ≤ fuel
  | 0, _, _ => Nat.le_refl _
  | fuel + 1, b, e => by
    rw [shiftR]
    split
    · exact Nat.succ_le_succ (shiftR_le F fuel (b + 1) (e + 1))
    · omega

theorem shiftR_eq (F : List UInt8) : ∀ (fuel b e i : Nat), i < shiftR F b e fuel → getF F (b + i) = getF F (e + i)
  | 0, _, _, _, h => by simp [shiftR] at h
  | fuel + 1, b, e, i, h => by
    rw [shiftR] at h
    split at h
    · rename_i heq
      cases i with
      | zero => simpa using heq
      | succ i =>
        have := shiftR_eq F fuel (b + 1) (e + 1) i (Nat.lt_of_succ_lt_succ h)
        rwa [Nat.succ_add_eq_add_succ, Nat.succ_add_eq_add_succ] at this
    · omega

theorem shiftR_ne (F : List UInt8) : ∀ (fuel b e : Nat), shiftR F b e fuel < fuel →
    getF F (b + shiftR F b e fuel) ≠ getF F (e + shiftR F b e fuel)
  | 0, _, _, h => by omega
  | fuel + 1, b, e, h => by
    rw [shiftR] at h ⊢
    split
    · rename_i heq
      rw [if_pos heq] at h
      have := shiftR_ne F fuel (b + 1) (e + 1) (Nat.lt_of_succ_lt_succ h)
      rwa [Nat.succ_add_eq_add_succ, Nat.succ_add_eq_add_succ] at this
    · rename_i hne
      simpa using hne

def shf (k : Nat) (F : List UInt8) (B : List (Nat × Nat)) (t : Nat) : Nat := shOf k F (B.getD t (0, 0))

theorem sh_eq {k : Nat} {F : List UInt8} {B : List (Nat × Nat)} {t i : Nat} (hi : i < shf k F B t) :
    getF F (bS B t + i) = getF F (bE B t + i) :=
  shiftR_eq F k _ _ i hi

/-- the hypotheses of the theorem (`DPlanted`, the Boolean `dplantedB`) as propositions -/
structure DFam (k : Nat) (F : List UInt8) (B : List (Nat × Nat)) (C : List (List Bool)) : Prop where
  k5 : 5 ≤ k
  kodd : k % 2 = 1
  base : AllBase F
  nS : 2 ≤ C.length
  clen : ∀ c ∈ C, c.length = B.length
  kept : ∀ t, t < B.length → ∃ c ∈ C, c.getD t false = true
  del : ∀ t, t < B.length → ∃ c ∈ C, c.getD t false = false
  blk : ∀ b ∈ B, 1 ≤ b.2 ∧ b.2 < k ∧ 4 * k ≤ b.1 ∧ b.1 + b.2 + 4 * k ≤ F.length ∧ shOf k F b + 3 ≤ k
  sep : B.Pairwise (fun b b' => b.1 + b.2 + 4 * k ≤ b'.1)
  uniq : ∀ a ∈ colWindows (k - 1) F.length B C, ∀ b ∈ colWindows (k - 1) F.length B C,
    (a.map (getF F) = b.map (getF F) → canonW F a = canonW F b) ∧ a.map (getF F) ≠ rcSeq (b.map (getF F))

theorem dfam_of_planted {k : Nat} {F : List UInt8} {B : List (Nat × Nat)} {C : List (List Bool)}
    (h : DPlanted k F B C) : DFam k F B C := by
  unfold DPlanted dplantedB dplantedSB at h
  simp only [Bool.and_eq_true, decide_eq_true_eq, List.all_eq_true, List.mem_range, List.any_eq_true,
    Bool.not_eq_true'] at h
  obtain ⟨⟨⟨⟨⟨⟨⟨⟨h5, hodd⟩, hbase⟩, htwo⟩, hclen⟩, hkd⟩, hblk⟩, hsep⟩, huniq⟩ := h
  refine ⟨h5, hodd, fun b hb => hbase b hb, htwo, hclen, fun t ht => (hkd t ht).1, fun t ht => (hkd t ht).2,
    ?_, ?_, ?_⟩
  · intro b hb
    obtain ⟨⟨⟨⟨h1, h2⟩, h3⟩, h4⟩, h5'⟩ := hblk b hb
    exact ⟨h1, h2, h3, h4, by omega⟩
  · simpa using hsep
  · unfold dalignedSB at huniq
    simp only [List.all_eq_true, Bool.and_eq_true, Bool.or_eq_true, bne_iff_ne, ne_eq, beq_iff_eq] at huniq
    intro a ha b hb
    have := huniq a ha b hb
    refine ⟨fun e => ?_, this.2⟩
    rcases this.1 with h1 | h1
    · exact absurd e h1
    · exact h1

def Shape (B : List (Nat × Nat)) (c : List Bool) (w : List Nat) (x n : Nat) : Prop :=
  w = List.range' x n ∨
  ∃ t, t < B.length ∧ c.getD t false = false ∧ x < bS B t ∧ bS B t < x + n ∧
    w = List.range' x (bS B t - x) ++ List.range' (bE B t) (n - (bS B t - x))

namespace DFam

variable {k : Nat} {F : List UInt8} {B : List (Nat × Nat)} {C : List (List Bool)}

theorem k2 (h : DFam k F B C) : 2 ≤ k := Nat.le_trans (by decide) h.k5

theorem bt (h : DFam k F B C) {t : Nat} (ht : t < B.length) :
    bS B t < bE B t ∧ bE B t < bS B t + k ∧ 4 * k ≤ bS B t ∧ bE B t + 4 * k ≤ F.length ∧ shf k F B t + 3 ≤ k := by
  have := h.blk _ (getD_mem (d := (0, 0)) ht)
  unfold bS bE shf
  omega

theorem sh_ne (h : DFam k F B C) {t : Nat} (ht : t < B.length) :
    getF F (bS B t + shf k F B t) ≠ getF F (bE B t + shf k F B t) := by
  exact shiftR_ne F k (bS B t) (bE B t)
    (Nat.lt_of_lt_of_le (Nat.lt_add_of_pos_right (Nat.succ_pos 2)) (h.bt ht).2.2.2.2)

theorem sep_lt (h : DFam k F B C) {t t' : Nat} (h1 : t < t') (h2 : t' < B.length) : bE B t + 4 * k ≤ bS B t' := by
  have := List.pairwise_iff_getElem.mp h.sep t t' (by omega) h2 h1
  unfold bS bE
  rw [List.getD_eq_getElem?_getD, List.getElem?_eq_getElem (by omega), List.getD_eq_getElem?_getD,
    List.getElem?_eq_getElem h2]
  exact this

theorem sep_ne (h : DFam k F B C) {t t' : Nat} (ht : t < B.length) (ht' : t' < B.length) (hne : t ≠ t') :
    bE B t + 4 * k ≤ bS B t' ∨ bE B t' + 4 * k ≤ bS B t := by
  rcases Nat.lt_or_gt_of_ne hne with h1 | h1
  · exact Or.inl (h.sep_lt h1 ht')
  · exact Or.inr (h.sep_lt h1 ht)

theorem near_eq (h : DFam k F B C) {t t' : Nat} (ht : t < B.length) (ht' : t' < B.length)
    (h1 : bS B t' < bE B t + 4 * k) (h2 : bS B t < bE B t' + 4 * k) : t = t' := by
  apply Classical.byContradiction
  intro hne
  have := h.sep_ne ht ht' hne
  omega

theorem keep_near (h : DFam k F B C) (c : List Bool) {t : Nat} (ht : t < B.length) {x : Nat}
    (h1 : bS B t < x + 4 * k) (h2 : x < bE B t + 4 * k) (hout : ¬ (bS B t ≤ x ∧ x < bE B t)) :
    keepB B c x = true := by
  rw [keepB_iff]
  intro t' ht' _ hin
  by_cases e : t' = t
  · subst e
    exact hout hin
  · have := h.near_eq ht ht' (by omega) (by omega)
    exact e this.symm

theorem keep_blk (h : DFam k F B C) (c : List Bool) {t : Nat} (ht : t < B.length) {x : Nat}
    (h1 : bS B t ≤ x) (h2 : x < bE B t) : keepB B c x = c.getD t false := by
  cases hc : c.getD t false with
  | false =>
    rw [keepB_false_iff]
    exact ⟨t, ht, hc, h1, h2⟩
  | true =>
    rw [keepB_iff]
    intro t' ht' hc' hin'
    have := h.near_eq ht ht' (by omega) (by omega)
    subst this
    rw [hc] at hc'
    exact Bool.noConfusion hc'

theorem keep_before (h : DFam k F B C) (c : List Bool) {t : Nat} (ht : t < B.length) {x : Nat}
    (h1 : bS B t < x + 4 * k) (h2 : x < bS B t) : keepB B c x = true :=
  h.keep_near c ht h1 (by have := (h.bt ht).1; omega) (fun hin => Nat.lt_irrefl _ (Nat.lt_of_lt_of_le h2 hin.1))

theorem keep_after (h : DFam k F B C) (c : List Bool) {t : Nat} (ht : t < B.length) {x : Nat}
    (h1 : bE B t ≤ x) (h2 : x < bE B t + 4 * k) : keepB B c x = true :=
  h.keep_near c ht (by have := (h.bt ht).1; omega) h2 (fun hin => Nat.lt_irrefl _ (Nat.lt_of_lt_of_le hin.2 h1))

theorem keep_run (h : DFam k F B C) {t : Nat} (ht : t < B.length) {c : List Bool} (hf : c.getD t false = true)
    {y : Nat} (h1 : bS B t < y + 4 * k) (h2 : y < bE B t + 4 * k) : keepB B c y = true := by
  by_cases hin : bS B t ≤ y ∧ y < bE B t
  · rw [h.keep_blk c ht hin.1 hin.2, hf]
  · exact h.keep_near c ht h1 h2 hin

theorem next_col (h : DFam k F B C) {c : List Bool} {j z y : Nat}
    (hz : (keepCols F.length B c)[j]? = some z) (hy : (keepCols F.length B c)[j + 1]? = some y) :
    y = z + 1 ∨ ∃ t, t < B.length ∧ c.getD t false = false ∧ z + 1 = bS B t ∧ y = bE B t := by
  obtain ⟨hzy, hyN, hkz, hky, hbetween⟩ := next_kept hz hy
  have hnot : ∀ w, z < w → w < y → keepB B c w = true → False := fun w h1 h2 hk =>
    Bool.noConfusion ((hbetween w h1 h2).symm.trans hk)
  by_cases hk1 : keepB B c (z + 1) = true
  · exact Or.inl (Classical.byContradiction fun hne => hnot (z + 1) (Nat.lt_succ_self z) (by omega) hk1)
  · obtain ⟨t, ht, hc, hin⟩ := (keepB_false_iff B c (z + 1)).mp (by simpa using hk1)
    have hzout := (keepB_iff B c z).mp hkz t ht hc
    have hyout := (keepB_iff B c y).mp hky t ht hc
    have hb := h.bt ht
    have hbz : z + 1 = bS B t := by omega
    refine Or.inr ⟨t, ht, hc, hbz, Classical.byContradiction fun hne => ?_⟩
    exact hnot (bE B t) (by omega) (by omega) (h.keep_after c ht (Nat.le_refl _) (by omega))

/-- `win_class` together with the last column `z` of the window, from which the induction on `m` steps (`next_col`) -/
theorem win_class_aux (h : DFam k F B C) (c : List Bool) :
    ∀ m, m + 1 ≤ k → ∀ j, j + (m + 1) ≤ (keepCols F.length B c).length →
      ∃ x z, (keepCols F.length B c)[j]? = some x ∧ (keepCols F.length B c)[j + m]? = some z ∧
        ((z = x + m ∧ cwin (keepCols F.length B c) j (m + 1) = List.range' x (m + 1)) ∨
         ∃ t a r, t < B.length ∧ c.getD t false = false ∧ x + (a + 1) = bS B t ∧ a + 1 + (r + 1) = m + 1 ∧
           z = bE B t + r ∧
           cwin (keepCols F.length B c) j (m + 1) = List.range' x (a + 1) ++ List.range' (bE B t) (r + 1)) := by
  intro m
  induction m with
  | zero =>
    intro _ j hj
    have hx : (keepCols F.length B c)[j]? = some (keepCols F.length B c)[j] := List.getElem?_eq_getElem hj
    refine ⟨_, _, hx, hx, Or.inl ⟨rfl, ?_⟩⟩
    rw [cwin_succ hx]
    rfl
  | succ m ih =>
    intro hnk j hj
    obtain ⟨x, z, hx, hz, hsh⟩ := ih (Nat.le_of_succ_le hnk) j (Nat.le_of_succ_le hj)
    have hy : (keepCols F.length B c)[j + (m + 1)]? = some (keepCols F.length B c)[j + (m + 1)] :=
      List.getElem?_eq_getElem hj
    have hstep := h.next_col hz hy
    refine ⟨x, _, hx, hy, ?_⟩
    rw [cwin_succ hy]
    rcases hsh with ⟨hzx, hc⟩ | ⟨t, a, r, ht, hct, hxa, har, hzr, hc⟩
    · rw [hc]
      rcases hstep with e | ⟨t', ht', hct', hb, e⟩
      · rw [e, hzx]
        exact Or.inl ⟨rfl, (range'_snoc x (m + 1)).symm⟩
      · rw [e]
        exact Or.inr ⟨t', m, 0, ht', hct', by rw [hzx] at hb; exact hb, rfl, rfl, rfl⟩
    · rw [hc]
      rcases hstep with e | ⟨t', ht', _, hb', _⟩
      · rw [e, hzr, List.append_assoc]
        exact Or.inr ⟨t, a, r + 1, ht, hct, hxa, congrArg (· + 1) har, rfl, by rw [range'_snoc (bE B t) (r + 1)]; rfl⟩
      · -- behind block `t` the window does not reach the next block
        exfalso
        have hb := (h.bt ht).1
        have hbt' := (h.bt ht').1
        have := h.near_eq ht ht' (by omega) (by omega)
        subst this
        omega

theorem win_class (h : DFam k F B C) (c : List Bool) {n : Nat} (hn1 : 1 ≤ n) (hnk : n ≤ k) {j : Nat}
    (hj : j + n ≤ (keepCols F.length B c).length) :
    ∃ x, (keepCols F.length B c)[j]? = some x ∧ Shape B c (cwin (keepCols F.length B c) j n) x n := by
  obtain ⟨m, rfl⟩ := Nat.exists_eq_add_one_of_ne_zero (Nat.ne_of_gt hn1)
  obtain ⟨x, _, hx, _, hsh⟩ := h.win_class_aux c m hnk j hj
  refine ⟨x, hx, ?_⟩
  rcases hsh with ⟨_, hc⟩ | ⟨t, a, r, ht, hct, hxa, har, _, hc⟩
  · exact Or.inl hc
  · refine Or.inr ⟨t, ht, hct, by omega, by omega, ?_⟩
    rw [hc, ← hxa, Nat.add_sub_cancel_left, ← har, Nat.add_sub_cancel_left]

end DFam

end SkaModel.LOE
