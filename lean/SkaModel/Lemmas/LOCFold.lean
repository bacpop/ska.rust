/-
From the table to the maps of `build_graph`: the fold over the rows is a fold over the entries of all rows
(`foldl_rows`), the graph one fold of `addEdgeOnce` over all edges (`allEdges`), the colour map one fold of
`addColour` (for `buildGraphU`: `addColourU`) over all coloured k-mers (`colourEntries`).  The lookup equation for
folds of `upsert` (`AssocFold.lean`) then says what is stored: the successors of a node are the targets of its
edges, every one listed once, a node is a key of the graph iff it has an outgoing edge, and no key occurs twice; the
colour set of a k-mer is that of the first entry with its key, for `buildGraphU` the union of the sets of all entries
with its key.
-/
import SkaModel.Lemmas.AssocFold
import SkaModel.Lemmas.LOUSorted
import SkaModel.Props.C17PathsDefs

namespace SkaModel.LOG

open SkaModel SkaModel.Skalo

theorem foldl_rows (W k : Nat) (step : Colours → Nat × List Nat → Colours) (rows : List (Nat × List UInt8))
    (g : Graph) (c : Colours) :
    rows.foldl (fun (acc : Graph × Colours) kv =>
      let (es, cs) := rowGraph W k kv.1 kv.2
      (es.foldl (fun g e => addEdgeOnce g e.1 e.2) acc.1, cs.foldl step acc.2)) (g, c) =
    ((rows.flatMap (fun kv => (rowGraph W k kv.1 kv.2).1)).foldl (fun g e => addEdgeOnce g e.1 e.2) g,
      (rows.flatMap (fun kv => (rowGraph W k kv.1 kv.2).2)).foldl step c) := by
  induction rows generalizing g c with
  | nil => rfl
  | cons kv rest ih =>
    rw [List.foldl_cons, List.flatMap_cons, List.flatMap_cons, List.foldl_append, List.foldl_append]
    exact ih _ _

end SkaModel.LOG

namespace SkaModel.LOC

open SkaModel SkaModel.Skalo SkaModel.Props.C17G

def allEdges (W : Nat) (a : Arr) : List (Nat × Nat) :=
  (a.kmers.zip a.variants).flatMap (fun kv => (rowGraph W a.k kv.1 kv.2).1)

theorem buildGraph_fst (W : Nat) (a : Arr) :
    (buildGraph W a).1 = (allEdges W a).foldl (fun g e => addEdgeOnce g e.1 e.2) [] :=
  congrArg Prod.fst (LOG.foldl_rows W a.k (fun c e => addColour c e.1 e.2) (a.kmers.zip a.variants) [] [])

theorem lookup_addEdgeOnce (g : Graph) (a b x : Nat) :
    Assoc.lookup (addEdgeOnce g a b) x =
      if a = x then some (if (succs g a).contains b then succs g a else succs g a ++ [b])
      else Assoc.lookup g x := by
  unfold addEdgeOnce succs
  rw [Assoc.lookup_upsert]
  by_cases h : a = x
  · subst h
    simp only [beq_self_eq_true, if_true]
    cases Assoc.lookup g a <;> simp
  · simp [h]

theorem lookup_foldl_addEdgeOnce (es : List (Nat × Nat)) (g : Graph) (x : Nat) :
    Assoc.lookup (es.foldl (fun g e => addEdgeOnce g e.1 e.2) g) x =
      if Assoc.entriesAt (·.1) es x = [] then Assoc.lookup g x
      else some ((Assoc.entriesAt (·.1) es x).foldl (fun s e => if s.contains e.2 then s else s ++ [e.2])
        (succs g x)) :=
  (Assoc.lookup_foldl_upsert (β := Nat × Nat) (·.1) (fun e => [e.2])
    (fun e l => if l.contains e.2 then l else l ++ [e.2]) es g x).trans
    (Assoc.foldl_hit_default (β := Nat × Nat) [] _ (fun e l => if l.contains e.2 then l else l ++ [e.2])
      (fun _ => rfl) _ _)

theorem mem_targets {β : Type} (es : List (Nat × β)) (x : Nat) (y : β) :
    y ∈ (Assoc.entriesAt (·.1) es x).map (·.2) ↔ (x, y) ∈ es := by
  simp only [List.mem_map, List.mem_filter, beq_iff_eq]
  exact ⟨fun ⟨e, ⟨h1, h2⟩, h3⟩ => by rw [← h2, ← h3]; exact h1, fun h => ⟨(x, y), ⟨h, rfl⟩, rfl⟩⟩

theorem graph_of_edges (es : List (Nat × Nat)) (g : Graph)
    (hg : g = es.foldl (fun g e => addEdgeOnce g e.1 e.2) []) (x : Nat) :
    (Assoc.lookup g x = if succs g x = [] then none else some (succs g x)) ∧ (succs g x).Nodup ∧
      ∀ y, y ∈ succs g x ↔ (x, y) ∈ es := by
  subst hg
  obtain ⟨h1, h2⟩ := Assoc.foldl_pushOnce (β := Nat × Nat) (·.2) (Assoc.entriesAt (·.1) es x) [] List.nodup_nil
  unfold succs
  rw [lookup_foldl_addEdgeOnce, show succs ([] : Graph) x = [] from rfl]
  by_cases he : Assoc.entriesAt (·.1) es x = []
  · rw [if_pos he]
    refine ⟨rfl, List.nodup_nil, fun y => ⟨fun h => (nomatch h), fun h => ?_⟩⟩
    have := (mem_targets es x y).2 h
    rw [he] at this
    exact this
  · rw [if_neg he]
    obtain ⟨e, l, hel⟩ := List.exists_cons_of_ne_nil he
    have hne : (Assoc.entriesAt (·.1) es x).foldl (fun s e => if s.contains e.2 then s else s ++ [e.2]) [] ≠ [] :=
      List.ne_nil_of_mem ((h2 e.2).2 (Or.inr (by rw [hel]; exact List.mem_map_of_mem List.mem_cons_self)))
    refine ⟨by rw [Option.getD_some, if_neg hne], h1, fun y => ?_⟩
    rw [Option.getD_some, ← mem_targets]
    exact (h2 y).trans (or_iff_right List.not_mem_nil)

theorem edge_iff_mem_allEdges (W : Nat) (a : Arr) (x y : Nat) :
    Edge (buildGraph W a).1 x y ↔ (x, y) ∈ allEdges W a :=
  (graph_of_edges _ _ (buildGraph_fst W a) x).2.2 y

theorem succs_nodup (W : Nat) (a : Arr) (x : Nat) : (succs (buildGraph W a).1 x).Nodup :=
  (graph_of_edges _ _ (buildGraph_fst W a) x).2.1

theorem lookup_buildGraph (W : Nat) (a : Arr) (x : Nat) :
    Assoc.lookup (buildGraph W a).1 x =
      if succs (buildGraph W a).1 x = [] then none else some (succs (buildGraph W a).1 x) :=
  (graph_of_edges _ _ (buildGraph_fst W a) x).1

theorem lookup_some_iff_of_lk {g : Graph}
    (hl : ∀ x, Assoc.lookup g x = if succs g x = [] then none else some (succs g x)) (x : Nat) (l : List Nat) :
    Assoc.lookup g x = some l ↔ succs g x = l ∧ l ≠ [] := by
  rw [hl]
  by_cases h : succs g x = []
  · rw [if_pos h]
    constructor
    · intro e; exact absurd e (by simp)
    · rintro ⟨e, hne⟩; rw [h] at e; exact absurd e.symm hne
  · rw [if_neg h]
    constructor
    · intro e
      have := Option.some.inj e
      exact ⟨this, by rw [← this]; exact h⟩
    · rintro ⟨e, _⟩; rw [e]

theorem mem_graph_succs {g : Graph} (hk : (g.map (·.1)).Nodup)
    (hl : ∀ x, Assoc.lookup g x = if succs g x = [] then none else some (succs g x))
    (kn : Nat × List Nat) (h : kn ∈ g) : kn.2 = succs g kn.1 ∧ kn.2 ≠ [] :=
  ((lookup_some_iff_of_lk hl kn.1 kn.2).1 (Assoc.lookup_of_mem_nodup hk h)).imp_left Eq.symm

end SkaModel.LOC

namespace SkaModel.LOP

open SkaModel SkaModel.Skalo

theorem buildGraph_keys_nodup (W : Nat) (a : Arr) : ((buildGraph W a).1.map (·.1)).Nodup := by
  rw [LOC.buildGraph_fst]
  exact Assoc.nodup_keys_foldl_upsert (β := Nat × Nat) (·.1) (fun e => [e.2])
    (fun e l => if l.contains e.2 then l else l ++ [e.2]) _ [] List.nodup_nil

end SkaModel.LOP

namespace SkaModel.LORL

open SkaModel SkaModel.Skalo

theorem lookup_foldl_addColour (cs : List (Nat × List Nat)) (c : Colours) (f : Nat) :
    Assoc.lookup (cs.foldl (fun c e => addColour c e.1 e.2) c) f =
      (Assoc.lookup c f).or (Assoc.lookup cs f) :=
  (Assoc.lookup_foldl_upsert (β := Nat × List Nat) (·.1) (·.2) (fun _ v => v) cs c f).trans
    ((Assoc.foldl_hit_keep _ _ _).trans (by rw [Assoc.lookup_eq_find cs, ← List.head?_filter]))

def colourEntries (W : Nat) (a : Arr) : List (Nat × List Nat) :=
  (a.kmers.zip a.variants).flatMap (fun kv => (rowGraph W a.k kv.1 kv.2).2)

theorem buildGraph_snd (W : Nat) (a : Arr) :
    (buildGraph W a).2 = (colourEntries W a).foldl (fun c e => addColour c e.1 e.2) [] :=
  congrArg Prod.snd (LOG.foldl_rows W a.k (fun c e => addColour c e.1 e.2) _ [] [])

theorem buildGraph_lookup (W : Nat) (a : Arr) (f : Nat) :
    Assoc.lookup (buildGraph W a).2 f = Assoc.lookup (colourEntries W a) f := by
  rw [buildGraph_snd, lookup_foldl_addColour]
  rfl

end SkaModel.LORL

namespace SkaModel.LOU

open SkaModel SkaModel.Skalo SkaModel.LORL

theorem buildGraphU_fst (W : Nat) (a : Arr) :
    (buildGraphU W a).1 = (LOC.allEdges W a).foldl (fun g e => addEdgeOnce g e.1 e.2) [] :=
  congrArg Prod.fst (LOG.foldl_rows W a.k (fun c e => addColourU c e.1 e.2) _ [] [])

theorem buildGraphU_snd (W : Nat) (a : Arr) :
    (buildGraphU W a).2 = (colourEntries W a).foldl (fun c e => addColourU c e.1 e.2) [] :=
  congrArg Prod.snd (LOG.foldl_rows W a.k (fun c e => addColourU c e.1 e.2) _ [] [])

theorem lookup_buildGraphU (W : Nat) (a : Arr) (f : Nat) :
    Assoc.lookup (buildGraphU W a).2 f =
      if Assoc.entriesAt (·.1) (colourEntries W a) f = [] then none
      else some ((Assoc.entriesAt (·.1) (colourEntries W a) f).foldl (fun S e => unionSorted S e.2) []) := by
  rw [buildGraphU_snd]
  exact (Assoc.lookup_foldl_upsert (β := Nat × List Nat) (·.1) (·.2) (fun e old => unionSorted old e.2) _ [] f).trans
    (Assoc.foldl_hit_default [] _ _ (fun e => (unionSorted_nil_left e.2).symm) _ _)

end SkaModel.LOU
