/-
C18 completeness — the k-mers at the entry of a bubble and the record of the bubble.  The k-mer of an edge is the
packed window of `k` columns that covers its two nodes.  The two edges out of the entry node of the bubble of
block `t` are the windows `enK` (through the block) and `enD` (over it), those out of the entry node of its twin
`twK` and `twD`; the same windows are the first k-mers of the sequences of the two paths.  Their colour sets are
the samples that keep the block and those that delete it: so `identify_good_kmers` finds the entry nodes (`hcol`)
and `process_indels` computes the record `recFw` for the bubble and `recRv` for its twin.
-/
import SkaModel.Lemmas.LOECol
import SkaModel.Lemmas.LOERec
import SkaModel.Lemmas.LOEBubGroups

namespace SkaModel.LOE

open SkaModel.Spec SkaModel.Skalo SkaModel.LOC

theorem cds_lets_take (F : List UInt8) (u : List Nat) (n : Nat) : (cds (lets F u)).take n = cds (lets F (u.take n)) := by
  unfold cds lets
  rw [← List.map_take, ← List.map_take]

theorem cds_lets_drop (F : List UInt8) (u : List Nat) (n : Nat) : (cds (lets F u)).drop n = cds (lets F (u.drop n)) := by
  unfold cds lets
  rw [← List.map_drop, ← List.map_drop]

theorem combine_fwd {W n : Nat} (hn : 1 ≤ n) (hW : 2 * (n + 1) ≤ W) (F : List UInt8) (u : List Nat)
    (hu : u.length = n + 1) :
    combineKmers W (nuF F (u.take n)) (nuF F (u.drop 1)) = packL (cds (lets F u)) := by
  have := LORL.combine_pack W n hn (cds (lets F u)) (cds_codes _) (by rw [cds_length, lets_length, hu]) hW
  rwa [cds_lets_take, cds_lets_drop] at this

theorem combine_rev {W n : Nat} (hn : 1 ≤ n) (hW : 2 * (n + 1) ≤ W) (F : List UInt8) (u : List Nat)
    (hu : u.length = n + 1) :
    combineKmers W (nuR F (u.drop 1)) (nuR F (u.take n)) = packL (rcCodes (cds (lets F u))) := by
  have hl : (cds (lets F u)).length = n + 1 := by rw [cds_length, lets_length, hu]
  have := LORL.combine_pack W n hn (rcCodes (cds (lets F u))) (rcCodes_codes (cds_codes _))
    (by rw [rcCodes_length, hl]) hW
  rwa [rcCodes_take, rcCodes_drop, hl, Nat.add_sub_cancel_left, Nat.add_sub_cancel, cds_lets_drop,
    cds_lets_take] at this

def recFw (k : Nat) (F : List UInt8) (B : List (Nat × Nat)) (C : List (List Bool)) (t : Nat) : IndelRec :=
  indelRec C.length (lE k F B t) (lI k F B t) (lX k F B t) (keepIdx C t) (delIdx C t)
def recRv (k : Nat) (F : List UInt8) (B : List (Nat × Nat)) (C : List (List Bool)) (t : Nat) : IndelRec :=
  indelRec C.length (rcSeq (lX2 k F B t)) (rcSeq (lI2 F B t)) (rcSeq (lE2 k F B t)) (keepIdx C t) (delIdx C t)

namespace DFam

variable {k : Nat} {F : List UInt8} {B : List (Nat × Nat)} {C : List (List Bool)}

theorem idx_ne (h : DFam k F B C) {t : Nat} (ht : t < B.length) : keepIdx C t ≠ delIdx C t := by
  obtain ⟨i0, hi0, hm0⟩ := h.exists_keeper ht
  intro e
  exact (idx_part C t i0 hi0).mp (e ▸ hm0) hm0

theorem getF_gt (h : DFam k F B C) {x : Nat} (hx : x < F.length) : 45 < getF F x ∧ 45 < compl (getF F x) := by
  have := getF_base h.base hx
  rcases isBase_cases this with e | e | e | e <;> rw [e] <;> decide

/-- the inserts start with a letter, not with `-` -/
theorem ins_fw (h : DFam k F B C) {t : Nat} (ht : t < B.length) :
    ∃ b t', lI k F B t = b :: t' ∧ 45 < b := by
  have hb := h.bt ht
  exact ⟨_, _, lI_cons hb.1, (h.getF_gt (by omega)).1⟩

theorem ins_rv (h : DFam k F B C) {t : Nat} (ht : t < B.length) :
    ∃ b t', rcSeq (lI2 F B t) = b :: t' ∧ 45 < b := by
  have hb := h.bt ht
  rw [lI2_snoc hb.1, rcSeq_snoc]
  exact ⟨_, _, rfl, (h.getF_gt (by omega)).2⟩

theorem recOf_bub (h : DFam k F B C) {W : Nat} {col : Colours} (mNum mDen : Nat) (starts ends : List Nat) {t : Nat}
    (ht : t < B.length) (β : Bub) (E I X : List UInt8) {s1 s2 : List UInt8} (h1 : E ++ I ++ X = s1) (h2 : E ++ X = s2)
    (hpa : (buildVariant W (k - 1) starts ends β.en β.pa).1 = s1)
    (hpb : (buildVariant W (k - 1) starts ends β.en β.pb).1 = s2)
    (hE : E.length = k - 1) (hX : X.length ≤ k - 1) (hI : ∃ b t, I = b :: t ∧ 45 < b)
    (hK : Assoc.lookup col (encodeKmer W (s1.take (k - 1 + 1))) = some (keepIdx C t))
    (hD : Assoc.lookup col (encodeKmer W (s2.take (k - 1 + 1))) = some (delIdx C t))
    (o : Bool) :
    LOP.recOf W (k - 1) C.length mNum mDen col (bubVs W (k - 1) starts ends β o) =
      some (some (indelRec C.length E I X (keepIdx C t) (delIdx C t))) := by
  subst h1 h2
  have hrec := recOf_indel W (k - 1) C.length mNum mDen col E I X
    (buildVariant W (k - 1) starts ends β.en β.pa).2 (buildVariant W (k - 1) starts ends β.en β.pb).2
    hE hX hI (keepIdx C t) (delIdx C t) hK hD
    ((keepIdx_sorted C t).imp (fun h => Nat.ne_of_lt h)) ((delIdx_sorted C t).imp (fun h => Nat.ne_of_lt h))
    (fun i hi => idx_part C t i hi) (h.exists_keeper ht) (h.exists_deleter ht)
  rw [← hpa, ← hpb] at hrec
  cases o
  · exact hrec.1
  · exact hrec.2

end DFam

namespace Ctx

variable {W k : Nat} {F : List UInt8} {B : List (Nat × Nat)} {C : List (List Bool)} {a : Arr} {names : List String}

theorem colour_en (cx : Ctx W k F B C a names) {t : Nat} (ht : t < B.length) :
    Assoc.lookup (buildGraph W a).2 (packL (cds (lets F (enK k F B t)))) = some (keepIdx C t) ∧
    Assoc.lookup (buildGraph W a).2 (packL (cds (lets F (enD k F B t)))) = some (delIdx C t) ∧
    Assoc.lookup (buildGraph W a).2 (packL (rcCodes (cds (lets F (twK k B t))))) = some (keepIdx C t) ∧
    Assoc.lookup (buildGraph W a).2 (packL (rcCodes (cds (lets F (twD k B t))))) = some (delIdx C t) := by
  obtain ⟨cK, hcK, hfK⟩ := cx.h.kept t ht
  obtain ⟨cD, hcD, hfD⟩ := cx.h.del t ht
  obtain ⟨wK, _, wK', _⟩ := cx.h.isWin_en ht cK
  obtain ⟨_, wD, _, wD'⟩ := cx.h.isWin_en ht cD
  exact ⟨cx.colour_of_spell hcK (wK.mpr hfK) (fun c hc => (cx.h.spell_en ht hc).1) (keepIdx_sorted C t)
      (mem_keepIdx C t) _ (Or.inl rfl),
    cx.colour_of_spell hcD (wD.mpr hfD) (fun c hc => (cx.h.spell_en ht hc).2.1) (delIdx_sorted C t)
      (mem_delIdx C t) _ (Or.inl rfl),
    cx.colour_of_spell hcK (wK'.mpr hfK) (fun c hc => (cx.h.spell_en ht hc).2.2.1) (keepIdx_sorted C t)
      (mem_keepIdx C t) _ (Or.inr rfl),
    cx.colour_of_spell hcD (wD'.mpr hfD) (fun c hc => (cx.h.spell_en ht hc).2.2.2) (delIdx_sorted C t)
      (mem_delIdx C t) _ (Or.inr rfl)⟩

theorem edge_en (cx : Ctx W k F B C a names) {t : Nat} (ht : t < B.length) :
    combineKmers W (fwdBub k F B t).en (fwdBub k F B t).ha = packL (cds (lets F (enK k F B t))) ∧
    combineKmers W (fwdBub k F B t).en (fwdBub k F B t).hb = packL (cds (lets F (enD k F B t))) ∧
    combineKmers W (revBub k F B t).en (revBub k F B t).ha = packL (rcCodes (cds (lets F (twK k B t)))) ∧
    combineKmers W (revBub k F B t).en (revBub k F B t).hb = packL (rcCodes (cds (lets F (twD k B t)))) := by
  have hk2 := cx.h.k2
  have hk : k - 1 + 1 = k := Nat.sub_add_cancel (Nat.le_of_succ_le hk2)
  have hn : 1 ≤ k - 1 := Nat.le_sub_one_of_lt hk2
  have hW : 2 * (k - 1 + 1) ≤ W := hk.symm ▸ cx.kW
  have a1 := (cx.h.ex_lt ht).1
  have a3 := cx.h.eX_near ht
  obtain ⟨d1, d2, -⟩ := pred_window (cx.h.bS_pred ht) (Nat.le_refl _) (cx.h.sh_lt ht)
  have d4 := cx.h.bS_back ht
  obtain ⟨l1, l2, l3, l4⟩ := cx.h.win_length ht
  obtain ⟨h1, h2, _⟩ := cx.h.heads_fwd ht
  obtain ⟨h3, h4, _⟩ := cx.h.heads_rev ht
  rw [h1, h2, h3, h4]
  refine ⟨?_, ?_, ?_, ?_⟩
  · have hc := combine_fwd hn hW F (enK k F B t) (l1.trans hk.symm)
    rw [enK, List.take_range'_of_length_ge (Nat.sub_le k 1), List.drop_range'] at hc
    exact hc
  · have hc := combine_fwd hn hW F (enD k F B t) (l2.trans hk.symm)
    rw [enD, gap_take (Nat.lt_of_succ_lt a1) a3, gap_drop (Nat.lt_of_succ_lt a1) a3,
      nuF_congr (w := List.range' _ _ ++ List.range' _ _) (cx.h.en_gap ht)] at hc
    exact hc
  · have hc := combine_rev hn hW F (twK k B t) (l3.trans hk.symm)
    rw [twK, List.take_range'_of_length_ge (Nat.sub_le k 1), List.drop_range', Nat.mul_one, cx.h.bE_pred ht] at hc
    exact hc
  · have hc := combine_rev hn hW F (twD k B t) (l4.trans hk.symm)
    have hg := gap_take (e := bE B t) d1 d2
    rw [d4] at hg
    rw [twD, hg] at hc
    show combineKmers W _ (nuR F (List.range' (bS B t - 1) (bS B t - (bS B t - 1)) ++
      List.range' (bE B t) (k - 1 - (bS B t - (bS B t - 1))))) = _
    rw [d4]
    exact hc

theorem hcol (cx : Ctx W k F B C a names) : ∀ β ∈ allBubs k F B, ∃ s1 s2,
    Assoc.lookup (buildGraph W a).2 (combineKmers W β.en β.ha) = some s1 ∧
    Assoc.lookup (buildGraph W a).2 (combineKmers W β.en β.hb) = some s2 ∧ s1 ≠ s2 := by
  intro β hβ
  obtain ⟨t, ht, rfl | rfl⟩ := (mem_allBubs k F B β).mp hβ
  · obtain ⟨e1, e2, _, _⟩ := cx.edge_en ht
    obtain ⟨c1, c2, _, _⟩ := cx.colour_en ht
    exact ⟨_, _, by rw [e1]; exact c1, by rw [e2]; exact c2, cx.h.idx_ne ht⟩
  · obtain ⟨_, _, e3, e4⟩ := cx.edge_en ht
    obtain ⟨_, _, c3, c4⟩ := cx.colour_en ht
    exact ⟨_, _, by rw [e3]; exact c3, by rw [e4]; exact c4, cx.h.idx_ne ht⟩

theorem look (cx : Ctx W k F B C a names) {t : Nat} (ht : t < B.length) :
    Assoc.lookup (buildGraph W a).2 (encodeKmer W ((w1 k F B t).take (k - 1 + 1))) = some (keepIdx C t) ∧
    Assoc.lookup (buildGraph W a).2 (encodeKmer W ((w2 k F B t).take (k - 1 + 1))) = some (delIdx C t) ∧
    Assoc.lookup (buildGraph W a).2 (encodeKmer W ((rcSeq (w1 k F B t)).take (k - 1 + 1))) = some (keepIdx C t) ∧
    Assoc.lookup (buildGraph W a).2 (encodeKmer W ((rcSeq (w2 k F B t)).take (k - 1 + 1))) = some (delIdx C t) := by
  obtain ⟨u1, u2, u3, u4⟩ := cx.h.run_ends ht
  obtain ⟨l1, l2⟩ := cx.h.run_length ht
  obtain ⟨b1, b2⟩ := cx.h.w_base ht
  obtain ⟨c1, c2, c3, c4⟩ := cx.colour_en ht
  have hk : k - 1 + 1 = k := Nat.sub_add_cancel (Nat.le_trans (by decide) cx.h.k5)
  -- the first k-mer of a sequence is its `k`-mer at `0`; that of the reverse complement is the last `k`-mer, reverse
  -- complemented
  have e1 := (enc_kmerAt cx.kW (w1 k F B t) 0).trans (kmerAt_lets F (U1 k F B t) k 0).1
  have e2 := (enc_kmerAt cx.kW (w2 k F B t) 0).trans (kmerAt_lets F (U2 k F B t) k 0).1
  have e3 := ((enc_kmerAt cx.kW (rcSeq (w1 k F B t)) 0).trans (kmerAt_rc b1 l1).1).trans
    (kmerAt_lets F (U1 k F B t) k _).2
  have e4 := ((enc_kmerAt cx.kW (rcSeq (w2 k F B t)) 0).trans (kmerAt_rc b2 l2).1).trans
    (kmerAt_lets F (U2 k F B t) k _).2
  rw [u1] at e1
  rw [u2] at e2
  rw [u3] at e3
  rw [u4] at e4
  rw [hk]
  exact ⟨e1 ▸ c1, e2 ▸ c2, e3 ▸ c3, e4 ▸ c4⟩

theorem recOf_fwd (cx : Ctx W k F B C a names) (mNum mDen : Nat) (starts ends : List Nat) {t : Nat}
    (ht : t < B.length) (o : Bool) :
    LOP.recOf W (k - 1) C.length mNum mDen (buildGraph W a).2 (bubVs W (k - 1) starts ends (fwdBub k F B t) o) =
      some (some (recFw k F B C t)) :=
  cx.h.recOf_bub mNum mDen starts ends ht _ _ _ _ (cx.h.w1_eq ht).1 (cx.h.w2_eq ht).1 (cx.spell starts ends ht).1
    (cx.spell starts ends ht).2.1 (lE_len k F B t) (by rw [lX_len]; exact Nat.sub_le _ _) (cx.h.ins_fw ht)
    (cx.look ht).1 (cx.look ht).2.1 o

theorem recOf_rev (cx : Ctx W k F B C a names) (mNum mDen : Nat) (starts ends : List Nat) {t : Nat}
    (ht : t < B.length) (o : Bool) :
    LOP.recOf W (k - 1) C.length mNum mDen (buildGraph W a).2 (bubVs W (k - 1) starts ends (revBub k F B t) o) =
      some (some (recRv k F B C t)) :=
  cx.h.recOf_bub mNum mDen starts ends ht _ _ _ _ (cx.h.rc_eq ht).1 (cx.h.rc_eq ht).2 (cx.spell starts ends ht).2.2.1
    (cx.spell starts ends ht).2.2.2 (by rw [rcSeq_length, lX2_len]) (by
      rw [rcSeq_length, lE2_len]
      exact Nat.sub_le_iff_le_add'.mpr (cx.h.eX_bounds ht).2.2) (cx.h.ins_rv ht) (cx.look ht).2.2.1 (cx.look ht).2.2.2 o

end Ctx

end SkaModel.LOE
