/-
`ska lo` graph stage: the bounded path enumeration `explore` on any graph.  The reported pairs are exactly the walks
(`Reach`) that avoid the visited nodes, end at an exit node and stay within the depth budget, where the depth grows
at every node with at least two unvisited successors (`explore_iff`); the reported path is the walk with the recorded
interiors spliced in (`pathOf`).  A `Reach` is a walk of the explored graph, and over a compacted graph that is `Sound`
the reported path of such a walk is a walk of the original graph: `explore` only reports real walks.  In a graph whose
edges climb (a level that grows along every edge) no successor is ever visited already, and `Reach` is `ReachF`,
without the visited list.
-/
import SkaModel.Lemmas.LOPathCompact

namespace SkaModel.LOC

open SkaModel SkaModel.Skalo SkaModel.Props.C17G SkaModel.LOG

/-- `w` is a walk from `cur` (not included) through unvisited nodes to an exit node, explored within
the depth budget -/
def Reach (g : Graph) (ends : List Nat) (maxDepth : Nat) : List Nat → Nat → List Nat → Nat → Prop
  | [], _, _, _ => False
  | [n], cur, visited, depth => depth ≤ maxDepth ∧ n ∈ succs g cur ∧ n ∉ visited ∧ n ∈ ends
  | n :: m :: rest, cur, visited, depth =>
      depth ≤ maxDepth ∧ n ∈ succs g cur ∧ n ∉ visited ∧
      Reach g ends maxDepth (m :: rest) n (visited ++ [n])
        (if 2 ≤ ((succs g cur).filter (fun x => !visited.contains x)).length then depth + 1 else depth)

def pathOf (comp : List (Nat × List Nat)) (vec w : List Nat) : List Nat :=
  vec ++ w.flatMap (fun n => n :: interior comp n)

theorem reach_cons {g : Graph} {ends : List Nat} {maxDepth : Nat} (n : Nat) (w' : List Nat) (cur : Nat)
    (visited : List Nat) (depth : Nat) :
    Reach g ends maxDepth (n :: w') cur visited depth ↔
      depth ≤ maxDepth ∧ n ∈ succs g cur ∧ n ∉ visited ∧
      ((w' = [] ∧ n ∈ ends) ∨ Reach g ends maxDepth w' n (visited ++ [n])
        (if 2 ≤ ((succs g cur).filter (fun x => !visited.contains x)).length then depth + 1 else depth)) := by
  cases w' with
  | nil => simp [Reach]
  | cons m rest => simp [Reach]

theorem explore_iff (g : Graph) (comp : List (Nat × List Nat)) (ends : List Nat) (maxDepth : Nat) :
    ∀ (fuel cur : Nat) (visited vec : List Nat) (depth : Nat) (ep : Nat × List Nat),
      ep ∈ explore g comp ends maxDepth fuel cur visited vec depth ↔
        ∃ w, w.length ≤ fuel ∧ Reach g ends maxDepth w cur visited depth ∧
          ep = (w.getLastD 0, pathOf comp vec w) := by
  intro fuel
  induction fuel with
  | zero =>
    intro cur visited vec depth ep
    simp only [explore, List.not_mem_nil, false_iff]
    rintro ⟨w, hw, hr, _⟩
    cases w with
    | nil => exact hr
    | cons _ _ => simp at hw
  | succ fuel ih =>
    intro cur visited vec depth ep
    -- one step, for any depth `d'` of the successor: used with `depth` and with `depth + 1`
    have step : ∀ next d',
        (ep ∈ (if ends.contains next = true then [(next, vec ++ [next] ++ (Assoc.lookup comp next).getD [])] else []) ++
          explore g comp ends maxDepth fuel next (visited ++ [next])
            (vec ++ [next] ++ (Assoc.lookup comp next).getD []) d') ↔
        ∃ w', w'.length ≤ fuel ∧
          ((w' = [] ∧ next ∈ ends) ∨ Reach g ends maxDepth w' next (visited ++ [next]) d') ∧
          ep = ((next :: w').getLastD 0, pathOf comp vec (next :: w')) := by
      intro next d'
      have e : vec ++ [next] ++ (Assoc.lookup comp next).getD [] = vec ++ next :: interior comp next := by
        unfold interior; simp
      rw [e, List.mem_append, ih]
      constructor
      · rintro (h | ⟨w', hl, hr, he⟩)
        · by_cases hc : ends.contains next = true
          · rw [if_pos hc] at h
            refine ⟨[], by simp, Or.inl ⟨rfl, by simpa using hc⟩, ?_⟩
            rw [List.mem_singleton] at h
            rw [h]
            simp [pathOf]
          · rw [if_neg hc] at h
            simp at h
        · refine ⟨w', hl, Or.inr hr, ?_⟩
          rw [he]
          cases w' with
          | nil => exact hr.elim
          | cons m rest => simp [pathOf]
      · rintro ⟨w', hl, (⟨rfl, hn⟩ | hr), he⟩
        · left
          rw [if_pos (by simpa using hn), he]
          simp [pathOf]
        · right
          refine ⟨w', hl, hr, ?_⟩
          rw [he]
          cases w' with
          | nil => exact hr.elim
          | cons m rest => simp [pathOf]
    have rhs : (∃ w, w.length ≤ fuel + 1 ∧ Reach g ends maxDepth w cur visited depth ∧
          ep = (w.getLastD 0, pathOf comp vec w)) ↔
        depth ≤ maxDepth ∧ ∃ next ∈ (succs g cur).filter (fun n => !visited.contains n),
          ∃ w', w'.length ≤ fuel ∧
          ((w' = [] ∧ next ∈ ends) ∨ Reach g ends maxDepth w' next (visited ++ [next])
            (if 2 ≤ ((succs g cur).filter (fun x => !visited.contains x)).length then depth + 1 else depth)) ∧
          ep = ((next :: w').getLastD 0, pathOf comp vec (next :: w')) := by
      constructor
      · rintro ⟨w, hl, hr, he⟩
        cases w with
        | nil => exact absurd hr (by simp [Reach])
        | cons n w' =>
          rw [reach_cons] at hr
          obtain ⟨h1, h2, h3, h4⟩ := hr
          exact ⟨h1, n, List.mem_filter.mpr ⟨h2, by simpa using h3⟩, w', by simpa using hl, h4, he⟩
      · rintro ⟨h1, n, hn, w', hl, h4, he⟩
        rw [List.mem_filter] at hn
        exact ⟨n :: w', by simpa using hl, (reach_cons n w' cur visited depth).mpr
          ⟨h1, hn.1, by simpa using hn.2, h4⟩, he⟩
    rw [rhs, explore]
    by_cases hd : depth > maxDepth
    · rw [if_pos hd]
      simp only [List.not_mem_nil, false_iff]
      rintro ⟨h1, _⟩
      exact Nat.not_le_of_gt hd h1
    · rw [if_neg hd]
      simp only
      have hd' : depth ≤ maxDepth := Nat.le_of_not_gt hd
      split
      · rename_i hg
        rw [hg]
        simp
      · rename_i next hg
        rw [hg, step]
        simp only [List.mem_singleton, exists_eq_left, List.length_singleton]
        rw [if_neg (Nat.not_succ_le_self 1)]
        exact ⟨fun h => ⟨hd', h⟩, fun h => h.2⟩
      · rename_i hn0 hn1
        rw [List.mem_flatMap]
        have h2 : 2 ≤ ((succs g cur).filter (fun n => !visited.contains n)).length := by
          match hgood : (succs g cur).filter (fun n => !visited.contains n) with
          | [] => exact absurd hgood hn0
          | [x] => exact absurd hgood (hn1 x)
          | _ :: _ :: _ => simp
        rw [if_pos h2]
        constructor
        · rintro ⟨next, hn, hm⟩
          exact ⟨hd', next, hn, (step next (depth + 1)).mp hm⟩
        · rintro ⟨_, next, hn, hm⟩
          exact ⟨next, hn, (step next (depth + 1)).mpr hm⟩

theorem reach_fresh {g : Graph} {ends : List Nat} {maxDepth : Nat} :
    ∀ (w : List Nat) (cur : Nat) (V : List Nat) (d : Nat), Reach g ends maxDepth w cur V d →
      w.Nodup ∧ (∀ x ∈ w, x ∉ V) ∧ (∀ x ∈ w.dropLast, succs g x ≠ []) ∧ succs g cur ≠ [] := by
  intro w
  induction w with
  | nil => intro cur V d h; exact h.elim
  | cons n w' ih =>
    intro cur V d h
    rw [reach_cons] at h
    obtain ⟨_, h2, h3, h4⟩ := h
    have hcur : succs g cur ≠ [] := List.ne_nil_of_mem h2
    rcases h4 with ⟨rfl, _⟩ | hr
    · refine ⟨by simp, ?_, by simp, hcur⟩
      intro x hx
      rw [List.mem_singleton] at hx
      rw [hx]; exact h3
    · obtain ⟨i1, i2, i3, i4⟩ := ih n _ _ hr
      have hne : w' ≠ [] := by
        intro e; rw [e] at hr; exact hr
      refine ⟨?_, ?_, ?_, hcur⟩
      · rw [List.nodup_cons]
        refine ⟨fun hm => ?_, i1⟩
        exact i2 n hm (by simp)
      · intro x hx
        rcases List.mem_cons.mp hx with e | hx'
        · rw [e]; exact h3
        · intro hxV
          exact i2 x hx' (List.mem_append_left _ hxV)
      · intro x hx
        rw [List.dropLast_cons_of_ne_nil hne] at hx
        rcases List.mem_cons.mp hx with e | hx'
        · rw [e]; exact i4
        · exact i3 x hx'

theorem reach_length {g : Graph} {ends : List Nat} {maxDepth : Nat} {w : List Nat} {cur : Nat} {V : List Nat}
    {d : Nat} (h : Reach g ends maxDepth w cur V d) : w.length ≤ edgeCount g + 1 := by
  obtain ⟨h1, _, h3, _⟩ := reach_fresh w cur V d h
  exact length_le_fuel g w h1 h3

/-- `found` of `pathsFrom`, the fuel discharged by `reach_length` -/
theorem mem_found (g' : Graph) (comp : List (Nat × List Nat)) (ends : List Nat) (maxDepth kmer : Nat)
    (ep : Nat × List Nat) :
    ep ∈ (succs g' kmer).flatMap (fun s =>
        explore g' comp ends maxDepth (edgeCount g' + 2) s [kmer, s] ([kmer, s] ++ (Assoc.lookup comp s).getD []) 0) ↔
      ∃ s ∈ succs g' kmer, ∃ w, Reach g' ends maxDepth w s [kmer, s] 0 ∧
        ep = (w.getLastD 0, pathOf comp ([kmer, s] ++ interior comp s) w) := by
  rw [List.mem_flatMap]
  constructor
  · rintro ⟨s, hs, h⟩
    rw [explore_iff] at h
    obtain ⟨w, _, hr, he⟩ := h
    exact ⟨s, hs, w, hr, he⟩
  · rintro ⟨s, hs, w, hr, he⟩
    refine ⟨s, hs, ?_⟩
    rw [explore_iff]
    exact ⟨w, Nat.le_succ_of_le (reach_length hr), hr, he⟩

theorem Reach.chain {g : Graph} {ends : List Nat} {maxDepth : Nat} :
    ∀ (w : List Nat) (cur : Nat) (V : List Nat) (d : Nat), Reach g ends maxDepth w cur V d →
      ChainR (Edge g) (cur :: w) ∧ w ≠ [] ∧ w.getLastD 0 ∈ ends
  | [], _, _, _, h => h.elim
  | n :: w', cur, V, d, h => by
    obtain ⟨_, h2, _, ⟨rfl, h4⟩ | h4⟩ := (reach_cons n w' cur V d).mp h
    · exact ⟨⟨h2, trivial⟩, by simp, h4⟩
    · obtain ⟨i1, i2, i3⟩ := Reach.chain w' n _ _ h4
      refine ⟨⟨h2, i1⟩, by simp, ?_⟩
      cases w' with
      | nil => exact absurd rfl i2
      | cons m r => exact i3

theorem walk_pathOf {g g' : Graph} {comp : List (Nat × List Nat)} (hs : Sound g g' comp) :
    ∀ (w : List Nat) (cur : Nat) (pre : List Nat), Walk g (pre ++ [cur]) → ChainR (Edge g') (cur :: w) →
      Walk g (pathOf comp (pre ++ cur :: interior comp cur) w)
  | [], cur, pre, hpre, _ => by
    simpa [pathOf] using walk_glue cur (interior comp cur) pre hpre (hs.inner cur)
  | n :: w', cur, pre, hpre, hc => by
    have hW : Walk g ((pre ++ cur :: interior comp cur) ++ [n]) := by
      simpa using walk_glue cur (interior comp cur ++ [n]) pre hpre (hs.step cur n hc.1)
    simpa [pathOf] using walk_pathOf hs w' n _ hW hc.2

theorem pathOf_last (comp : List (Nat × List Nat)) (vec w : List Nat) (hw : w ≠ []) :
    ∃ q, pathOf comp vec w = vec ++ q ++ w.getLastD 0 :: interior comp (w.getLastD 0) := by
  refine ⟨w.dropLast.flatMap (fun n => n :: interior comp n), ?_⟩
  conv => lhs; rw [← dropLast_append_getLastD 0 w hw]
  simp [pathOf, List.flatMap_append]

def ReachF (g : Graph) (ends : List Nat) (maxDepth : Nat) : List Nat → Nat → Nat → Prop
  | [], _, _ => False
  | [n], cur, depth => depth ≤ maxDepth ∧ n ∈ succs g cur ∧ n ∈ ends
  | n :: m :: rest, cur, depth =>
      depth ≤ maxDepth ∧ n ∈ succs g cur ∧
      ReachF g ends maxDepth (m :: rest) n (if 2 ≤ (succs g cur).length then depth + 1 else depth)

theorem reachF_cons {g : Graph} {ends : List Nat} {maxDepth : Nat} (n : Nat) (w' : List Nat) (cur depth : Nat) :
    ReachF g ends maxDepth (n :: w') cur depth ↔
      depth ≤ maxDepth ∧ n ∈ succs g cur ∧
      ((w' = [] ∧ n ∈ ends) ∨
        ReachF g ends maxDepth w' n (if 2 ≤ (succs g cur).length then depth + 1 else depth)) := by
  cases w' with
  | nil => simp [ReachF]
  | cons m rest => simp [ReachF]

/-- the invariant: from a node of level `j`, with only nodes of level at most `j` visited, no successor is visited -/
theorem reach_iff_reachF {g : Graph} {ends : List Nat} {maxDepth : Nat} (Lv : Nat → Nat → Prop)
    (hfun : ∀ x j j', Lv x j → Lv x j' → j = j')
    (hclimb : ∀ x j y, Lv x j → y ∈ succs g x → ∃ j', j < j' ∧ Lv y j') :
    ∀ (w : List Nat) (cur : Nat) (V : List Nat) (d j : Nat), Lv cur j → (∀ v ∈ V, ∃ j', j' ≤ j ∧ Lv v j') →
      (Reach g ends maxDepth w cur V d ↔ ReachF g ends maxDepth w cur d) := by
  intro w
  induction w with
  | nil => intro _ _ _ _ _ _; exact Iff.rfl
  | cons n w' ih =>
    intro cur V d j hcur hV
    have hnew : ∀ y ∈ succs g cur, y ∉ V := by
      intro y hy hyV
      obtain ⟨j', hlt, hl⟩ := hclimb cur j y hcur hy
      obtain ⟨j'', hle, hl'⟩ := hV y hyV
      exact Nat.lt_irrefl j (Nat.lt_of_lt_of_le (hfun y j' j'' hl hl' ▸ hlt) hle)
    have hf : (succs g cur).filter (fun x => !V.contains x) = succs g cur :=
      List.filter_eq_self.mpr fun y hy => by simpa using hnew y hy
    have hnext : n ∈ succs g cur → ∀ d', (Reach g ends maxDepth w' n (V ++ [n]) d' ↔ ReachF g ends maxDepth w' n d') := by
      intro hn d'
      obtain ⟨j', hlt, hl⟩ := hclimb cur j n hcur hn
      refine ih n (V ++ [n]) d' j' hl fun v hv => ?_
      rcases List.mem_append.mp hv with h | h
      · obtain ⟨j'', hle, hl'⟩ := hV v h
        exact ⟨j'', Nat.le_trans hle (Nat.le_of_lt hlt), hl'⟩
      · rw [List.mem_singleton.mp h]
        exact ⟨j', Nat.le_refl _, hl⟩
    rw [reach_cons, reachF_cons, hf]
    constructor
    · rintro ⟨h1, h2, _, h4⟩
      exact ⟨h1, h2, h4.imp_right (hnext h2 _).mp⟩
    · rintro ⟨h1, h2, h4⟩
      exact ⟨h1, h2, hnew n h2, h4.imp_right (hnext h2 _).mpr⟩

theorem ReachF.depth_le {g : Graph} {ends : List Nat} {maxDepth : Nat} {w : List Nat} {cur d : Nat}
    (h : ReachF g ends maxDepth w cur d) : d ≤ maxDepth := by
  cases w with
  | nil => exact h.elim
  | cons n w' => exact ((reachF_cons ..).mp h).1

theorem reachF_single {g : Graph} {ends : List Nat} {maxDepth : Nat} {cur x : Nat} (hs : succs g cur = [x])
    (w : List Nat) (d : Nat) :
    ReachF g ends maxDepth w cur d ↔
      d ≤ maxDepth ∧ ((w = [x] ∧ x ∈ ends) ∨ ∃ w', w = x :: w' ∧ ReachF g ends maxDepth w' x d) := by
  cases w with
  | nil => simp [ReachF]
  | cons n w' =>
    rw [reachF_cons, hs, if_neg (show ¬ 2 ≤ [x].length from Nat.not_succ_le_self 1), List.mem_singleton]
    constructor
    · rintro ⟨h1, rfl, ⟨rfl, h4⟩ | h4⟩
      · exact ⟨h1, Or.inl ⟨rfl, h4⟩⟩
      · exact ⟨h1, Or.inr ⟨w', rfl, h4⟩⟩
    · rintro ⟨h1, ⟨e, h4⟩ | ⟨w'', e, h4⟩⟩
      · obtain ⟨rfl, rfl⟩ := List.cons.inj e
        exact ⟨h1, rfl, Or.inl ⟨rfl, h4⟩⟩
      · obtain ⟨rfl, rfl⟩ := List.cons.inj e
        exact ⟨h1, rfl, Or.inr h4⟩

theorem reachF_pass {g : Graph} {ends : List Nat} {maxDepth : Nat} {cur x : Nat} (hs : succs g cur = [x])
    (hx : x ∉ ends) (w : List Nat) (d : Nat) :
    ReachF g ends maxDepth w cur d ↔ ∃ w', w = x :: w' ∧ ReachF g ends maxDepth w' x d := by
  rw [reachF_single hs]
  constructor
  · rintro ⟨_, ⟨_, h⟩ | h⟩
    · exact absurd h hx
    · exact h
  · rintro ⟨w', e, h⟩
    exact ⟨h.depth_le, Or.inr ⟨w', e, h⟩⟩

theorem reachF_branch {g : Graph} {ends : List Nat} {maxDepth : Nat} {cur : Nat}
    (h2 : 2 ≤ (succs g cur).length) (hne : ∀ y ∈ succs g cur, y ∉ ends) (w : List Nat) (d : Nat) :
    ReachF g ends maxDepth w cur d ↔
      d ≤ maxDepth ∧ ∃ n ∈ succs g cur, ∃ w', w = n :: w' ∧ ReachF g ends maxDepth w' n (d + 1) := by
  cases w with
  | nil => simp [ReachF]
  | cons n w' =>
    rw [reachF_cons, if_pos h2]
    constructor
    · rintro ⟨h1, h3, ⟨_, h5⟩ | h5⟩
      · exact absurd h5 (hne n h3)
      · exact ⟨h1, n, h3, w', rfl, h5⟩
    · rintro ⟨h1, m, h3, w'', e, h5⟩
      obtain ⟨rfl, rfl⟩ := List.cons.inj e
      exact ⟨h1, h3, Or.inr h5⟩

end SkaModel.LOC

namespace SkaModel.LOG

open SkaModel SkaModel.Skalo SkaModel.Props.C17G SkaModel.LOC

theorem explore_shape (g : Graph) (comp : List (Nat × List Nat)) (ends : List Nat) (maxDepth : Nat)
    (fuel cur : Nat) (visited vec : List Nat) (depth : Nat) (ep : Nat × List Nat)
    (h : ep ∈ explore g comp ends maxDepth fuel cur visited vec depth) :
    ep.1 ∈ ends ∧ ∃ q, ep.2 = vec ++ q ++ ep.1 :: interior comp ep.1 := by
  obtain ⟨w, _, hr, rfl⟩ := (explore_iff ..).mp h
  obtain ⟨_, hne, he⟩ := Reach.chain _ _ _ _ hr
  exact ⟨he, pathOf_last comp vec w hne⟩

theorem explore_walk_aux {g g' : Graph} {comp : List (Nat × List Nat)} (hs : Sound g g' comp)
    (ends : List Nat) (maxDepth : Nat) (fuel cur : Nat) (visited pre : List Nat) (depth : Nat)
    (ep : Nat × List Nat) (hpre : Walk g (pre ++ [cur]))
    (h : ep ∈ explore g' comp ends maxDepth fuel cur visited (pre ++ cur :: interior comp cur) depth) :
    Walk g ep.2 := by
  obtain ⟨w, _, hr, rfl⟩ := (explore_iff ..).mp h
  exact walk_pathOf hs w cur pre hpre (Reach.chain _ _ _ _ hr).1

end SkaModel.LOG
