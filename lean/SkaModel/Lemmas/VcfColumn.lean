/-
Per-column analysis of the VCF writer model (`RefSka.vcfRecords`): the genotype
strings are the decimal rendering of allele indices, and decoding them through
REF/ALT gives back the class of every sample's aligned character.
-/
import SkaModel.Impl.RefSka
import SkaModel.Spec.MapSpec
import SkaModel.Lemmas.Bytes
import SkaModel.Lemmas.ListLemmas
import Std.Data.String.ToNat

namespace SkaModel.VCF

open SkaModel SkaModel.Spec

/-- the loop body of `write_vcf` over one alignment column (as in `RefSka.vcfRecords`) -/
def gtStep (refBase : UInt8) (acc : List UInt8 × List String × Bool) (b : UInt8) :
    List UInt8 × List String × Bool :=
  let (alts, gts, v) := acc
  if b == refBase then (alts, gts ++ ["0"], v)
  else if b == GAP then (alts, gts ++ ["."], true)
  else
    let a := u8ToBase b
    let alts := if alts.contains a then alts else alts ++ [a]
    (alts, gts ++ [toString ((alts.idxOf a) + 1)], true)

def render : Option Nat → String
  | none => "."
  | some n => toString n

/-- the body of the `filterMap` in `RefSka.vcfRecords` -/
def vcfColumn (r : RefSka) (aln : List (Array UInt8)) (i chrom pos : Nat) : Option RefSka.VcfRecord :=
  let refBase := (r.seq.getD chrom #[]).getD pos 0
  let col := aln.map (fun s => s.getD i GAP)
  let (alts, gts, variant) := col.foldl (gtStep refBase) ([], [], false)
  if variant then some { chrom := r.chromNames.getD chrom "", pos := pos + 1, ref := u8ToBase refBase, alts := alts, gts := gts }
  else none

theorem vcfRecords_eq (r : RefSka) (aln : List (Array UInt8)) :
    RefSka.vcfRecords r aln =
      ((List.range (aln.headD #[]).size).zip (RefSka.idxCheck r.seq)).filterMap
        (fun ic => vcfColumn r aln ic.1 ic.2.1 ic.2.2) := rfl

theorem render_zero : render (some 0) = "0" := by decide

theorem gtStep_ref (rb : UInt8) (alts : List UInt8) (gts : List String) (v : Bool) :
    gtStep rb (alts, gts, v) rb = (alts, gts ++ ["0"], v) := by
  simp [gtStep]

theorem gtStep_gap (rb : UInt8) (alts : List UInt8) (gts : List String) (v : Bool)
    (h : (45 : UInt8) ≠ rb) : gtStep rb (alts, gts, v) 45 = (alts, gts ++ ["."], true) := by
  simp [gtStep, GAP, h]

theorem gtStep_alt (rb : UInt8) (alts : List UInt8) (gts : List String) (v : Bool) (b : UInt8)
    (h1 : b ≠ rb) (h2 : b ≠ 45) :
    gtStep rb (alts, gts, v) b =
      ((if alts.contains (u8ToBase b) then alts else alts ++ [u8ToBase b]),
        gts ++ [toString ((if alts.contains (u8ToBase b) then alts else alts ++ [u8ToBase b]).idxOf
          (u8ToBase b) + 1)], true) := by
  simp [gtStep, GAP, h1, h2]

/-- the allele a genotype index points to: '.', REF, or the (i-1)-th ALT -/
def decodeIdx (ref : UInt8) (alts : List UInt8) : Option Nat → UInt8
  | none => 46
  | some 0 => ref
  | some (i + 1) => alts.getD i 0

/-- what a genotype decodes to: a character equal to the reference byte is reported as REF
(`u8ToBase` of the reference byte), anything else by its class -/
def gtClass (rb b : UInt8) : UInt8 := if b == rb then u8ToBase rb else vcfClass b

theorem gtClass_self (rb : UInt8) : gtClass rb rb = u8ToBase rb := if_pos (beq_self_eq_true rb)

theorem gtClass_of_ne {rb b : UInt8} (h : b ≠ rb) : gtClass rb b = vcfClass b :=
  if_neg fun e => h (beq_iff_eq.1 e)

theorem getD_idxOf_append (a : UInt8) (l ext : List UInt8) (h : a ∈ l) :
    (l ++ ext).getD (l.idxOf a) 0 = a := by
  have hlt : l.idxOf a < l.length := List.idxOf_lt_length_iff.mpr h
  rw [List.getD_eq_getElem?_getD, List.getElem?_append_left hlt, List.getElem?_eq_getElem hlt,
    List.getElem_idxOf hlt]
  rfl

theorem vcfClass_eq_u8ToBase (b : UInt8) (h : b ≠ 45) : vcfClass b = u8ToBase b := by
  unfold vcfClass
  rw [if_neg (by simpa using h)]
  rfl

structure ColInv (rb : UInt8) (acc : List UInt8 × List (Option Nat) × Bool) (seen : List UInt8) : Prop where
  nodup : acc.1.Nodup
  decode : ∀ ext, acc.2.1.map (decodeIdx (u8ToBase rb) (acc.1 ++ ext)) = seen.map (gtClass rb)
  flag : acc.2.2 = seen.any (· != rb)
  src : ∀ a ∈ acc.1, ∃ b ∈ seen, b ≠ rb ∧ b ≠ 45 ∧ a = u8ToBase b
  used : ∀ j, j < acc.1.length → some (j + 1) ∈ acc.2.1
  bound : ∀ j, some (j + 1) ∈ acc.2.1 → j < acc.1.length

theorem colInv_init (rb : UInt8) : ColInv rb ([], [], false) [] :=
  ⟨List.nodup_nil, fun _ => rfl, rfl, fun _ h => (nomatch h), fun _ h => absurd h (Nat.not_lt_zero _),
    fun _ h => (nomatch h)⟩

/-- One round of the loop in general form: sample `b` gets genotype `g`, the ALT list grows by `tail`
(empty unless `b` brings a new allele).  Every branch of `gtStep` is an instance. -/
theorem ColInv.push {rb : UInt8} {alts : List UInt8} {gis : List (Option Nat)} {v : Bool}
    {seen : List UInt8} (h : ColInv rb (alts, gis, v) seen) (b : UInt8) (tail : List UInt8)
    (g : Option Nat) (v' : Bool) (hnd : (alts ++ tail).Nodup)
    (hdec : ∀ ext, decodeIdx (u8ToBase rb) (alts ++ tail ++ ext) g = gtClass rb b)
    (hflag : v' = (v || b != rb))
    (hsrc : ∀ a ∈ tail, b ≠ rb ∧ b ≠ 45 ∧ a = u8ToBase b)
    (hused : ∀ j, alts.length ≤ j → j < (alts ++ tail).length → g = some (j + 1))
    (hbound : ∀ j, g = some (j + 1) → j < (alts ++ tail).length) :
    ColInv rb (alts ++ tail, gis ++ [g], v') (seen ++ [b]) := by
  have hdec0 : ∀ ext, gis.map (decodeIdx (u8ToBase rb) (alts ++ ext)) = seen.map (gtClass rb) := h.decode
  have hflag0 : v = seen.any (· != rb) := h.flag
  refine ⟨hnd, fun ext => ?_, ?_, fun a ha => ?_, fun j hj => ?_, fun j hj => ?_⟩
  · show (gis ++ [g]).map (decodeIdx (u8ToBase rb) (alts ++ tail ++ ext)) = (seen ++ [b]).map (gtClass rb)
    rw [List.map_append, List.map_append, List.map_singleton, List.map_singleton, hdec ext,
      List.append_assoc, hdec0]
  · show v' = (seen ++ [b]).any (· != rb)
    rw [hflag, hflag0, List.any_append, List.any_cons, List.any_nil, Bool.or_false]
  · rcases List.mem_append.1 ha with ha | ha
    · obtain ⟨b', hb', h'⟩ := h.src a ha
      exact ⟨b', List.mem_append_left _ hb', h'⟩
    · exact ⟨b, List.mem_concat_self, hsrc a ha⟩
  · by_cases hjl : j < alts.length
    · exact List.mem_append_left _ (h.used j hjl)
    · exact List.mem_append_right _ (List.mem_singleton.2 (hused j (Nat.le_of_not_lt hjl) hj).symm)
  · rcases List.mem_append.1 hj with hj | hj
    · exact Nat.lt_of_lt_of_le (h.bound j hj) (by rw [List.length_append]; exact Nat.le_add_right _ _)
    · exact hbound j (List.mem_singleton.1 hj).symm

theorem ColInv.push_same {rb : UInt8} {alts : List UInt8} {gis : List (Option Nat)} {v : Bool}
    {seen : List UInt8} (h : ColInv rb (alts, gis, v) seen) (b : UInt8) (g : Option Nat) (v' : Bool)
    (hdec : ∀ ext, decodeIdx (u8ToBase rb) (alts ++ ext) g = gtClass rb b)
    (hflag : v' = (v || b != rb)) (hbound : ∀ j, g = some (j + 1) → j < alts.length) :
    ColInv rb (alts, gis ++ [g], v') (seen ++ [b]) := by
  have := h.push b [] g v' (by rw [List.append_nil]; exact h.nodup)
    (fun ext => by rw [List.append_nil]; exact hdec ext) hflag (fun _ ha => (nomatch ha))
    (fun j h1 h2 => by rw [List.append_nil] at h2; omega)
    (fun j hj => by rw [List.append_nil]; exact hbound j hj)
  rwa [List.append_nil] at this

def ColOK (rb : UInt8) (acc : List UInt8 × List String × Bool) (seen : List UInt8) : Prop :=
  ∃ gis, acc.2.1 = gis.map render ∧ ColInv rb (acc.1, gis, acc.2.2) seen

theorem ColOK.snoc {rb : UInt8} {alts' : List UInt8} {gis : List (Option Nat)} {v' : Bool}
    {seen : List UInt8} {b : UInt8} (g : Option Nat) (s : String) (hs : s = render g)
    (h : ColInv rb (alts', gis ++ [g], v') (seen ++ [b])) :
    ColOK rb (alts', gis.map render ++ [s], v') (seen ++ [b]) :=
  ⟨gis ++ [g], by rw [List.map_append, List.map_singleton, hs], h⟩

theorem colOK_step (rb : UInt8) (acc : List UInt8 × List String × Bool) (seen : List UInt8)
    (b : UInt8) (h : ColOK rb acc seen) : ColOK rb (gtStep rb acc b) (seen ++ [b]) := by
  obtain ⟨alts, gts, v⟩ := acc
  obtain ⟨gis, rfl, h⟩ := h
  have h : ColInv rb (alts, gis, v) seen := h
  by_cases h1 : b = rb
  · subst h1
    rw [gtStep_ref]
    exact ColOK.snoc (some 0) _ render_zero.symm
      (h.push_same b (some 0) v (fun _ => (gtClass_self b).symm)
        (by rw [bne_self_eq_false, Bool.or_false]) (fun j hj => nomatch hj))
  · have hflag : true = (v || b != rb) := by rw [bne_iff_ne.2 h1, Bool.or_true]
    have hcls : gtClass rb b = vcfClass b := gtClass_of_ne h1
    by_cases h2 : b = 45
    · subst h2
      rw [gtStep_gap rb alts _ v h1]
      exact ColOK.snoc none _ rfl
        (h.push_same 45 none true (fun ext => by rw [hcls]; rfl) hflag (fun j hj => nomatch hj))
    · -- an ALT allele: old (`tail = []`) or new (`tail = [a]`)
      rw [vcfClass_eq_u8ToBase b h2] at hcls
      rw [gtStep_alt rb alts _ v b h1 h2]
      obtain ⟨a, ha⟩ : ∃ a, a = u8ToBase b := ⟨_, rfl⟩
      rw [← ha] at hcls ⊢
      by_cases hc : a ∈ alts
      · have hlt : alts.idxOf a < alts.length := List.idxOf_lt_length_iff.mpr hc
        rw [if_pos (by simpa using hc)]
        exact ColOK.snoc (some (alts.idxOf a + 1)) _ rfl
          (h.push_same b _ true (fun ext => by rw [hcls]; exact getD_idxOf_append a alts ext hc)
            hflag (fun j hj => by injection hj with hj; omega))
      · have hidx : (alts ++ [a]).idxOf a = alts.length := by
          rw [List.idxOf_append, if_neg hc, List.idxOf_cons_self, Nat.zero_add]
        rw [if_neg (by simpa using hc), hidx]
        refine ColOK.snoc (some (alts.length + 1)) _ rfl
          (h.push b [a] _ true ?_ (fun ext => ?_) hflag
            (fun x hx => ⟨h1, h2, ?_⟩) (fun j hj1 hj2 => ?_) (fun j hj => ?_))
        · exact nodup_snoc hc h.nodup
        · rw [hcls, ← hidx]
          exact getD_idxOf_append a (alts ++ [a]) ext (List.mem_concat_self)
        · exact (List.mem_singleton.1 hx).trans ha
        · rw [List.length_append, List.length_singleton] at hj2
          rw [show j = alts.length by omega]
        · injection hj with hj
          rw [List.length_append, List.length_singleton]
          omega

theorem vcfColumn_char (r : RefSka) (aln : List (Array UInt8)) (i c p : Nat) :
    ∃ alts gis, ColInv ((r.seq.getD c #[]).getD p 0)
        (alts, gis, (aln.map (fun s => s.getD i GAP)).any (· != (r.seq.getD c #[]).getD p 0))
        (aln.map (fun s => s.getD i GAP)) ∧
      vcfColumn r aln i c p =
        if (aln.map (fun s => s.getD i GAP)).any (· != (r.seq.getD c #[]).getD p 0) then
          some { chrom := r.chromNames.getD c "", pos := p + 1,
                 ref := u8ToBase ((r.seq.getD c #[]).getD p 0), alts := alts, gts := gis.map render }
        else none := by
  obtain ⟨gis, hg, inv⟩ := foldl_inv_full (gtStep ((r.seq.getD c #[]).getD p 0))
    (fun seen acc => ColOK ((r.seq.getD c #[]).getD p 0) acc seen) (aln.map (fun s => s.getD i GAP))
    (fun pre b _ acc _ h => colOK_step _ acc pre b h) (init := ([], [], false))
    ⟨[], rfl, colInv_init _⟩
  refine ⟨_, gis, by rw [← inv.flag]; exact inv, ?_⟩
  simp only [vcfColumn]
  rw [← inv.flag, ← hg]

theorem vcfColumn_isSome (r : RefSka) (aln : List (Array UInt8)) (i chrom pos : Nat) :
    (vcfColumn r aln i chrom pos).isSome =
      (aln.map (fun s => s.getD i GAP)).any (· != (r.seq.getD chrom #[]).getD pos 0) := by
  obtain ⟨alts, gis, -, h⟩ := vcfColumn_char r aln i chrom pos
  rw [h]
  generalize List.any _ _ = t
  cases t
  · rfl
  · rfl

/-- the allele character a genotype string stands for: '.' for ".", REF for "0",
the (i-1)-th ALT for the decimal string of `i ≥ 1` (0 for anything unparsable) -/
def decodeGt (rec : RefSka.VcfRecord) (g : String) : UInt8 :=
  if g = "." then 46 else
  match g.toNat? with
  | some 0 => rec.ref
  | some (i + 1) => rec.alts.getD i 0
  | none => 0

theorem repr_ne_dot (n : Nat) : Nat.repr n ≠ "." := by
  intro h
  have h1 : (Nat.repr n).toList = ".".toList := by rw [h]
  rw [Nat.toList_repr] at h1
  have h2 : '.' ∈ Nat.toDigits 10 n := by rw [h1]; simp
  have := Nat.isDigit_of_mem_toDigits (by decide) (by decide) h2
  exact absurd this (by decide)

theorem decodeGt_render (rec : RefSka.VcfRecord) (gi : Option Nat) :
    decodeGt rec (render gi) = decodeIdx rec.ref rec.alts gi := by
  cases gi with
  | none => simp [decodeGt, render, decodeIdx]
  | some n =>
    have h1 : render (some n) = Nat.repr n := rfl
    rw [h1]
    unfold decodeGt
    rw [if_neg (repr_ne_dot n), Nat.toNat?_repr]
    cases n <;> rfl

theorem ColInv.decode_render {rb : UInt8} {alts : List UInt8} {gis : List (Option Nat)} {v : Bool}
    {col : List UInt8} (inv : ColInv rb (alts, gis, v) col) (chrom : String) (pos : Nat) (gts : List String) :
    (gis.map render).map (decodeGt { chrom := chrom, pos := pos, ref := u8ToBase rb, alts := alts, gts := gts })
      = col.map (gtClass rb) := by
  have h := inv.decode []
  rw [List.append_nil] at h
  rw [List.map_map, ← h]
  exact List.map_congr_left fun gi _ => decodeGt_render _ gi

end SkaModel.VCF
