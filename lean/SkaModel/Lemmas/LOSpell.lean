/-
`ska lo`: the sequence of a path, at the level of letters.  On every graph window `i` of the sequence encodes node `i`
(`buildVariant_spells`); so where node `i` is the `kG`-mer of a string over A/C/G/T, window `i` of the sequence IS
that `kG`-mer (`spelled_win`), and the path that consists of all `kG`-mers of a string `s` spells `s`
(`spell_windows`: strings that agree on all short windows agree on the long ones, `win_extend`).  The path of the other
strand (the reverse complemented `kG`-mers, backwards) is the path of `rcSeq s`.
-/
import SkaModel.Lemmas.LOCGraph
import SkaModel.Props.C17Paths

namespace SkaModel.LOC

open SkaModel SkaModel.Spec SkaModel.Skalo SkaModel.Props.C16 SkaModel.Props.C17G SkaModel.LOG

theorem spelled_win {W kG : Nat} (hW : 2 * (kG + 1) ≤ W) (starts ends : List Nat) {kmer : Nat} {path : List Nat}
    (hhead : path.head? = some kmer) (hlt : ∀ n ∈ path, n < 4 ^ kG)
    (hov : ∀ (i a b : Nat), path[i]? = some a → path[i + 1]? = some b → Overlap kG a b) :
    (buildVariant W kG starts ends kmer path).1.length = path.length + kG - 1 ∧
    AllBase (buildVariant W kG starts ends kmer path).1 ∧
    ∀ i (t : List UInt8) j, AllBase t → j + kG ≤ t.length → path[i]? = some (kmerAt kG t j) →
      win (buildVariant W kG starts ends kmer path).1 i kG = win t j kG := by
  obtain ⟨h1, h2⟩ := buildVariant_spells W kG starts ends kmer path hW hhead hlt hov
  have hW' : 2 * kG < W := Nat.le_of_succ_le hW
  have hbase : AllBase (buildVariant W kG starts ends kmer path).1 := by
    cases path with
    | nil => simp at hhead
    | cons a rest =>
      simp only [List.head?_cons, Option.some.injEq] at hhead
      subst hhead
      exact buildVariant_base W kG starts ends _ rest (hlt _ (List.mem_cons_self ..)) hW'
  refine ⟨h1, hbase, fun i t j hb hj hx => ?_⟩
  have hs : i + kG ≤ (buildVariant W kG starts ends kmer path).1.length :=
    h1 ▸ Nat.le_sub_one_of_lt (Nat.add_lt_add_right (List.getElem?_eq_some_iff.mp hx).1 kG)
  exact packL_cds_inj (hbase.win _ _) (hb.win _ _) (by rw [win_length hs, win_length hj])
    ((enc_win W _ i kG (Nat.le_of_lt hW')).symm.trans (h2 i _ hx))

theorem spell_windows {W kG : Nat} (hk : 1 ≤ kG) (hW : 2 * (kG + 1) ≤ W) (starts ends : List Nat) {s : List UInt8}
    {n : Nat} (hb : AllBase s) (hl : s.length = kG + n) {kmer : Nat} {path : List Nat} (hhead : path.head? = some kmer)
    (hp : path = (List.range (n + 1)).map (kmerAt kG s)) : (buildVariant W kG starts ends kmer path).1 = s := by
  have hle : ∀ {i}, i < n + 1 → i + kG ≤ s.length := fun hi => by
    rw [hl, Nat.add_comm]
    exact Nat.add_le_add_left (Nat.le_of_lt_succ hi) kG
  have hget : ∀ {i x}, path[i]? = some x → i < n + 1 ∧ x = kmerAt kG s i := by
    intro i x hx
    obtain ⟨hi, rfl⟩ := List.getElem?_eq_some_iff.mp hx
    subst hp
    rw [List.length_map, List.length_range] at hi
    exact ⟨hi, by rw [List.getElem_map, List.getElem_range]⟩
  -- `kmerAt kG` is the node `fN (kG + 1)`
  obtain ⟨h1, -, h3⟩ := spelled_win hW starts ends hhead
    (fun x hx => by
      rw [hp] at hx
      obtain ⟨i, hi, rfl⟩ := List.mem_map.mp hx
      exact fN_lt (k := kG + 1) s (hle (List.mem_range.mp hi)))
    (fun i a b ha hb' => by
      obtain ⟨_, rfl⟩ := hget ha
      obtain ⟨hi, rfl⟩ := hget hb'
      exact fN_overlap (k := kG + 1) (Nat.succ_le_succ hk) (Nat.add_right_comm i 1 kG ▸ hle hi))
  have hlen : path.length = n + 1 := by rw [hp, List.length_map, List.length_range]
  rw [hlen, Nat.add_right_comm, Nat.add_sub_cancel, Nat.add_comm] at h1
  -- all windows of `kG` letters agree, hence the one window of all `kG + n` letters
  have := win_extend hk (fun i hi => h3 i s i hb (hle (Nat.lt_succ_of_le hi))
    (by rw [hp, List.getElem?_map, List.getElem?_range (Nat.lt_succ_of_le hi)]; rfl)) n 0 (Nat.le_of_eq (Nat.zero_add n))
  rwa [win_zero_length h1, win_zero_length hl] at this

theorem spell_windows_rc {W kG : Nat} (hk : 1 ≤ kG) (hW : 2 * (kG + 1) ≤ W) (starts ends : List Nat) {s : List UInt8}
    {n : Nat} (hb : AllBase s) (hl : s.length = kG + n) {kmer : Nat} {path : List Nat} (hhead : path.head? = some kmer)
    (hp : path = (List.range (n + 1)).reverse.map (rcKmerAt kG s)) :
    (buildVariant W kG starts ends kmer path).1 = rcSeq s := by
  refine spell_windows hk hW starts ends hb.rcSeq ((rcSeq_length s).trans hl) hhead (hp.trans ?_)
  rw [List.range_eq_range', List.reverse_range', List.map_map, ← List.range_eq_range']
  apply List.map_congr_left
  intro i hi
  obtain ⟨j, rfl⟩ := Nat.exists_eq_add_of_le (Nat.le_of_lt_succ (List.mem_range.mp hi))
  rw [(kmerAt_rc hb (a := i) (b := j) (by rw [hl, Nat.add_right_comm, Nat.add_comm])).1]
  show rcKmerAt kG s (0 + (i + j + 1) - 1 - i) = _
  rw [Nat.zero_add, Nat.add_sub_cancel, Nat.add_sub_cancel_left]
end SkaModel.LOC
