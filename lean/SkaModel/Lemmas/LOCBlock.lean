/-
C17 completeness — the k-mers that block a site: they are different for different sites, and the same
for a site and its mirror image on the other strand.
-/
import SkaModel.Lemmas.LOCSite

namespace SkaModel.LOC

open SkaModel SkaModel.Spec SkaModel.Props.C16 SkaModel.Skalo SkaModel.Props.C17G SkaModel.LOG

variable {k L : Nat} {S : List (List UInt8)} {P : List Nat}

theorem kmer_coord (pf : PFam k L S P) (hk : 1 ≤ k) {s s2 : List UInt8} (hs : s ∈ S) (hs2 : s2 ∈ S) {a b : Nat}
    (ha : a + k ≤ L) (hb : b + k ≤ L) (h : kmerAt k s a = kmerAt k s2 b) : a = b := by
  unfold kmerAt at h
  exact (pf.uniq_k hk hs hs2 ha hb).1
    (packL_cds_inj ((pf.base hs).win _ _) ((pf.base hs2).win _ _)
      (by rw [win_length (pf.le_len hs ha), win_length (pf.le_len hs2 hb)]) h)

theorem rckmer_coord (pf : PFam k L S P) (hk : 1 ≤ k) {s s2 : List UInt8} (hs : s ∈ S) (hs2 : s2 ∈ S) {a b : Nat}
    (ha : a + k ≤ L) (hb : b + k ≤ L) (h : rcKmerAt k s a = rcKmerAt k s2 b) : a = b := by
  apply kmer_coord pf hk hs hs2 ha hb
  unfold rcKmerAt at h
  unfold kmerAt
  have := packL_inj (rcCodes_codes (cds_codes _)) (rcCodes_codes (cds_codes _)) (by
    rw [rcCodes_length, rcCodes_length, cds_length, cds_length, win_length (pf.le_len hs ha),
      win_length (pf.le_len hs2 hb)]) h
  rw [← rcCodes_rcCodes (cds (win s a k)), this, rcCodes_rcCodes]

theorem kmer_ne_rc (pf : PFam k L S P) (hk : 1 ≤ k) {s s2 : List UInt8} (hs : s ∈ S) (hs2 : s2 ∈ S) {a b : Nat}
    (ha : a + k ≤ L) (hb : b + k ≤ L) : kmerAt k s a ≠ rcKmerAt k s2 b := by
  intro h
  unfold kmerAt rcKmerAt at h
  rw [← cds_rcSeq ((pf.base hs2).win _ _)] at h
  exact (pf.uniq_k hk hs hs2 ha hb).2
    (packL_cds_inj ((pf.base hs).win _ _) ((pf.base hs2).win _ _).rcSeq
      (by rw [rcSeq_length, win_length (pf.le_len hs ha), win_length (pf.le_len hs2 hb)]) h)

theorem Blk.coord (pf : PFam k L S P) (hk : 1 ≤ k) {q x : Nat} (hq : q ∈ P) (h : Blk k S q x) :
    ∃ t ∈ S, ∃ a, a ≤ q ∧ q < a + k ∧ a + k ≤ L ∧ (x = kmerAt k t a ∨ x = rcKmerAt k t a) := by
  obtain ⟨h1, h2⟩ := pf.entry_mem hk hq
  have h3 := pf.entry_fit hq
  have h4 : q < q + k := Nat.lt_add_of_pos_right hk
  obtain ⟨t, ht, h | h | h | h⟩ := h
  · exact ⟨t, ht, _, h1, h2, h3, Or.inl h⟩
  · exact ⟨t, ht, _, h1, h2, h3, Or.inr h⟩
  · exact ⟨t, ht, _, Nat.le_refl q, h4, pf.site_fit hq, Or.inl h⟩
  · exact ⟨t, ht, _, Nat.le_refl q, h4, pf.site_fit hq, Or.inr h⟩

/-- a common blocking k-mer would sit at the same coordinate of both samples, less than `k` below both sites -/
theorem blk_site (pf : PFam k L S P) (hk5 : 5 ≤ k) {q q2 : Nat} (hq : q ∈ P) (hq2 : q2 ∈ P) {x : Nat}
    (h : Blk k S q x) (h2 : Blk k S q2 x) : q = q2 := by
  have hk1 : 1 ≤ k := Nat.le_trans (by decide) hk5
  obtain ⟨s, hs, a, ha1, ha2, hak, hx⟩ := h.coord pf hk1 hq
  obtain ⟨s2, hs2, b, hb1, hb2, hbk, hx2⟩ := h2.coord pf hk1 hq2
  obtain rfl : a = b := by
    rcases hx with rfl | rfl <;> rcases hx2 with e | e
    · exact kmer_coord pf hk1 hs hs2 hak hbk e
    · exact absurd e (kmer_ne_rc pf hk1 hs hs2 hak hbk)
    · exact absurd e.symm (kmer_ne_rc pf hk1 hs2 hs hbk hak)
    · exact rckmer_coord pf hk1 hs hs2 hak hbk e
  have near : ∀ {u w : Nat}, a ≤ w → u < a + k → u < w + 2 * k := fun h1 h2 =>
    Nat.lt_of_lt_of_le h2 (Nat.le_trans (Nat.add_le_add_right h1 k)
      (Nat.add_le_add_left (Nat.le_mul_of_pos_left k (by decide)) _))
  exact pf.site_eq hq hq2 (near hb1 ha2) (near ha1 hb2)

/-- seen from the other strand at the mirrored site `q'`, the k-mer ending at the site and the reverse complement of
the one starting at it change roles -/
theorem mirror_kmers (pf : PFam k L S P) {q q' : Nat} (hq : q ∈ P) (hq' : q' ∈ mirrorP L P) (h : q + q' + 1 = L)
    {s : List UInt8} (hs : s ∈ S) :
    (kmerAt k (rcSeq s) (q' - k + 1) = rcKmerAt k s q ∧ rcKmerAt k (rcSeq s) (q' - k + 1) = kmerAt k s q) ∧
    (kmerAt k (rcSeq s) q' = rcKmerAt k s (q - k + 1) ∧ rcKmerAt k (rcSeq s) q' = kmerAt k s (q - k + 1)) := by
  refine ⟨kmerAt_rc (pf.base hs) ?_, kmerAt_rc (pf.base hs) ?_⟩
  · rw [pf.mirror.entry_succ hq', pf.len hs, ← h, Nat.add_right_comm, Nat.add_comm q']
  · rw [Nat.add_assoc, Nat.add_comm k, pf.entry_succ hq, pf.len hs, ← h, ← Nat.add_assoc, Nat.add_comm q']

theorem or4_reverse {a b c d : Prop} : a ∨ b ∨ c ∨ d → d ∨ c ∨ b ∨ a
  | .inl h => .inr (.inr (.inr h))
  | .inr (.inl h) => .inr (.inr (.inl h))
  | .inr (.inr (.inl h)) => .inr (.inl h)
  | .inr (.inr (.inr h)) => .inl h

/-- the same four k-mers, in the opposite order -/
theorem blk_mirror (pf : PFam k L S P) {q q' : Nat} (hq : q ∈ P) (hq' : q' ∈ mirrorP L P) (h : q + q' + 1 = L)
    (x : Nat) :
    Blk k (rcFam S) q' x ↔ Blk k S q x := by
  constructor
  · rintro ⟨t', ht', hx⟩
    obtain ⟨s, hs, rfl⟩ := List.mem_map.mp ht'
    obtain ⟨⟨e1, e2⟩, e3, e4⟩ := mirror_kmers pf hq hq' h hs
    rw [e1, e2, e3, e4] at hx
    exact ⟨s, hs, or4_reverse hx⟩
  · rintro ⟨s, hs, hx⟩
    obtain ⟨⟨e1, e2⟩, e3, e4⟩ := mirror_kmers pf hq hq' h hs
    refine ⟨rcSeq s, List.mem_map.mpr ⟨s, hs, rfl⟩, ?_⟩
    rw [e1, e2, e3, e4]
    exact or4_reverse hx

end SkaModel.LOC
