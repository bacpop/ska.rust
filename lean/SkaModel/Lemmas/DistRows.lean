/-
`distance` at the level of rows. `FV`: what `Arr.updateCounts` / `Arr.filter` do to the `variants`
container alone (all that `distance` reads besides `names`). `DR`: constant rows and the site tests
on unambiguous rows. `DM`: the three filter passes of `Modes.distance`, their simplification on
unambiguous tables whose rows are all present, and the bookkeeping that relates the rows kept for
the distance computation (`V2`) plus the constant-site count (`cstOf`) to the rows the specification
`Table.pairDist` ranges over (`V1`).
-/
import SkaModel.Impl.Modes
import SkaModel.Spec.Abs
import SkaModel.Lemmas.VariantDist
import SkaModel.Props.C06

namespace SkaModel.FV

open SkaModel SkaModel.ZipFilter SkaModel.Props

/-- rows that survive `update_counts` -/
def nonEmpty (famb : Bool) (vs : List (List UInt8)) : List (List UInt8) :=
  vs.filter (fun row => decide (Arr.cellCount famb row > 0))

/-- rows that survive `filter` (before masking) -/
def filtV (t : Nat) (famb : Bool) (ft : FilterType) (gaps : Bool) (vs : List (List UInt8)) :
    List (List UInt8) :=
  (nonEmpty famb vs).filter (fun row => decide (Arr.cellCount famb row ≥ t) && Arr.keepRow ft gaps row)

def maskV (mask : Bool) (vs : List (List UInt8)) : List (List UInt8) :=
  if mask then vs.map (fun row => row.map (fun v => if isAmbiguous v then 78 else v)) else vs

theorem updateCounts_variants (a : Arr) (famb : Bool) (h : a.variants.length ≤ a.kmers.length) :
    (a.updateCounts famb).variants = nonEmpty famb a.variants := by
  simp only [Arr.updateCounts, nonEmpty]
  exact map_fst_filter_zip (fun row => decide (Arr.cellCount famb row > 0)) a.variants a.kmers h

theorem updateCounts_names (a : Arr) (famb : Bool) : (a.updateCounts famb).names = a.names := rfl

theorem maskV_length (mask : Bool) (vs : List (List UInt8)) : (maskV mask vs).length = vs.length := by
  cases mask <;> simp [maskV]

theorem filtV_eq (t : Nat) (famb : Bool) (ft : FilterType) (gaps : Bool) (vs : List (List UInt8)) :
    filtV t famb ft gaps vs = vs.filter (C06.passesI t famb ft gaps) := by
  unfold filtV nonEmpty
  rw [List.filter_filter]
  exact List.filter_congr fun row _ => C06.pred_eq t famb ft gaps row

/-- what `filter … update_kmers=false` does to `variants`, the removed-row count, and the
(weakened) shape invariant that lets the next filter be analysed the same way -/
theorem filter_variants (a : Arr) (t : Nat) (famb : Bool) (ft : FilterType) (mask gaps : Bool)
    (h : a.variants.length ≤ a.kmers.length) :
    (a.filter t famb ft mask gaps false).1.variants = maskV mask (filtV t famb ft gaps a.variants)
    ∧ (a.filter t famb ft mask gaps false).2
        = (nonEmpty famb a.variants).length - (filtV t famb ft gaps a.variants).length
    ∧ (a.filter t famb ft mask gaps false).1.variants.length
        ≤ (a.filter t famb ft mask gaps false).1.kmers.length := by
  have hk : (C06.keptI a t famb ft gaps).map (·.1) = filtV t famb ft gaps a.variants := by
    rw [filtV_eq]
    exact map_fst_filter_zip _ a.variants a.kmers h
  have h0 : (C06.kept0 a famb).map (·.1) = nonEmpty famb a.variants := updateCounts_variants a famb h
  refine ⟨?_, ?_, ?_⟩
  · rw [C06.filter_variants, ← hk]
    cases mask
    · rfl
    · exact (List.map_map ..).symm
  · rw [C06.filter_removed, ← hk, ← h0, List.length_map, List.length_map]
  · rw [C06.filter_variants, C06.filter_kmers_noupd, List.length_map, List.length_map,
      C06.keptI_eq_filter_kept0]
    exact List.length_filter_le _ _

end SkaModel.FV

namespace SkaModel.DR

open SkaModel SkaModel.Spec SkaModel.VD SkaModel.FV SkaModel.ZipFilter SkaModel.Props

def RP (vs : List (List UInt8)) : Prop := ∀ row ∈ vs, ∃ b ∈ row, b ≠ GAP

theorem RP_filter {vs : List (List UInt8)} (h : RP vs) (p : List UInt8 → Bool) : RP (vs.filter p) :=
  fun row hr => h row (List.mem_filter.mp hr).1

theorem Unamb_filter {vs : List (List UInt8)} (h : Unambiguous vs) (p : List UInt8 → Bool) :
    Unambiguous (vs.filter p) :=
  fun row hr => h row (List.mem_filter.mp hr).1

theorem cellCount_unamb {row : List UInt8} (h : ∀ b ∈ row, Base5 b) :
    Arr.cellCount true row = Arr.cellCount false row := by
  simp only [Arr.cellCount]
  congr 1
  apply List.filter_congr
  intro b hb
  simp [isAmbiguous_base5 (h b hb)]

theorem nonEmpty_of_RP {vs : List (List UInt8)} (h : RP vs) : nonEmpty false vs = vs :=
  List.filter_eq_self.mpr fun row hr => decide_eq_true ((Arr.cellCount_pos_iff row).2 (h row hr))

theorem nonEmpty_true_of_RP {vs : List (List UInt8)} (h : RP vs) (hu : Unambiguous vs) :
    nonEmpty true vs = vs := by
  apply List.filter_eq_self.mpr
  intro row hr
  rw [cellCount_unamb (hu row hr)]
  exact decide_eq_true ((Arr.cellCount_pos_iff row).2 (h row hr))

theorem keepRow_noConst (row : List UInt8) :
    Arr.keepRow .noConst false row = decide (row.eraseDups.length > 1) := by
  simp [Arr.keepRow, Arr.distinct, filter_const_true]

theorem score_alphabet : ∀ b ∈ alphabet, C06.score false b = 1 := by decide +kernel

theorem keepRow_unamb {row : List UInt8} (h : ∀ b ∈ row, Base5 b) :
    Arr.keepRow .noAmbigOrConst false row = Arr.keepRow .noConst false row := by
  rw [C06.keepRow_noAmbigOrConst, keepRow_noConst, Arr.distinct,
    sum_map_indicator (C06.score false) (fun _ => true) row.eraseDups, filter_const_true]
  intro b hb
  exact score_alphabet b (base5_mem (h b (List.mem_eraseDups.mp hb)))

theorem maskV_unamb {vs : List (List UInt8)} (hu : Unambiguous vs) (mask : Bool) : maskV mask vs = vs := by
  cases mask
  · rfl
  · simp only [maskV, if_true]
    conv => rhs; rw [← List.map_id vs]
    apply List.map_congr_left
    intro row hr
    conv => rhs; rw [id, ← List.map_id row]
    apply List.map_congr_left
    intro b hb
    simp [isAmbiguous_base5 (hu row hr b hb)]

theorem const_row {row : List UInt8} (hk : Arr.keepRow .noConst false row = false)
    (hp : ∃ b ∈ row, b ≠ GAP) : ∃ b, b ≠ GAP ∧ ∀ i, i < row.length → row.getD i GAP = b := by
  rw [keepRow_noConst] at hk
  have hle : row.eraseDups.length ≤ 1 := by simpa using hk
  obtain ⟨b, hb, hne⟩ := hp
  refine ⟨b, hne, fun i hi => ?_⟩
  exact (Dedup.eraseDups_le_one_iff _).1 hle _ (getD_mem hi) _ hb

theorem distance_congr (a b : Arr) (c : Nat) (hn : a.names = b.names) (hv : a.variants = b.variants) :
    a.distance c = b.distance c := by
  simp only [Arr.distance, Arr.column, hn, hv]

theorem getD_base5 {row : List UInt8} (h : ∀ b ∈ row, Base5 b) (i : Nat) : Base5 (row.getD i GAP) :=
  getD_of_forall_mem h (Or.inr (Or.inr (Or.inr (Or.inr rfl)))) i

end SkaModel.DR

namespace SkaModel.DM

open SkaModel SkaModel.Spec SkaModel.VD SkaModel.FV SkaModel.ZipFilter SkaModel.DR SkaModel.Props

/-- rows after the three passes of `Modes.distance` -/
def V1 (t : Nat) (vs : List (List UInt8)) := filtV t false .noFilter false vs
def V2 (t : Nat) (vs : List (List UInt8)) := filtV t false .noConst false (V1 t vs)
def cstOf (t : Nat) (vs : List (List UInt8)) := (nonEmpty false (V1 t vs)).length - (V2 t vs).length
def V3 (t : Nat) (ge1 filt : Bool) (vs : List (List UInt8)) :=
  if filt || ge1 then
    if filt then maskV true (filtV t true .noAmbigOrConst false (V2 t vs))
    else filtV t false .noFilter false (V2 t vs)
  else V2 t vs

theorem modes_distance_struct (a : Arr) (h : a.variants.length ≤ a.kmers.length) (t : Nat) (ge1 filt : Bool) :
    ∃ a3 : Arr, a3.names = a.names ∧ a3.variants = V3 t ge1 filt a.variants ∧
      Modes.distance a t ge1 filt = (a.names, a3.distance (cstOf t a.variants)) := by
  obtain ⟨h1v, _, h1l⟩ := filter_variants a t false .noFilter false false h
  have h1n := C06.filter_names a t false .noFilter false false false
  unfold Modes.distance Modes.applyFilters
  simp only []
  -- `a1`, `p`: the results of the frequency pass and of the constant-site pass
  generalize (a.filter t false .noFilter false false false).1 = a1 at h1v h1l h1n ⊢
  obtain ⟨h2v, h2c, h2l⟩ := filter_variants a1 t false .noConst false false h1l
  have h2n := (C06.filter_names a1 t false .noConst false false false).trans h1n
  rw [h1v] at h2v h2c
  generalize a1.filter t false .noConst false false false = p at h2v h2c h2l h2n ⊢
  have hv : p.1.variants = V2 t a.variants := h2v
  have hc : p.2 = cstOf t a.variants := h2c
  rw [hc]
  cases filt
  · cases ge1
    · simp only [Bool.or_self, Bool.false_eq_true, if_false]
      exact ⟨p.1, h2n, hv, by rw [h2n]⟩
    · simp only [Bool.or_true, Bool.false_eq_true, if_false, if_true]
      obtain ⟨h3v, _, _⟩ := filter_variants p.1 t false .noFilter false false h2l
      exact ⟨_, (C06.filter_names ..).trans h2n, by rw [h3v, hv]; rfl, by rw [C06.filter_names, h2n]⟩
  · simp only [Bool.true_or, if_true]
    obtain ⟨h3v, _, _⟩ := filter_variants p.1 t true .noAmbigOrConst true false h2l
    exact ⟨_, (C06.filter_names ..).trans h2n, by rw [h3v, hv]; simp [V3], by rw [C06.filter_names, h2n]⟩

theorem V1_eq {vs : List (List UInt8)} (hp : RP vs) (t : Nat) :
    V1 t vs = vs.filter (fun row => decide (Arr.cellCount false row ≥ t)) := by
  simp only [V1, filtV, nonEmpty_of_RP hp, Arr.keepRow, Bool.and_true]

theorem filt_absorb (t : Nat) (famb : Bool) (k : List UInt8 → Bool) (vs : List (List UInt8))
    (h : ∀ row ∈ vs, Arr.cellCount famb row ≥ t) :
    vs.filter (fun row => decide (Arr.cellCount famb row ≥ t) && k row) = vs.filter k := by
  apply List.filter_congr
  intro row hr
  simp [h row hr]

theorem V1_count {vs : List (List UInt8)} (hp : RP vs) (t : Nat) :
    ∀ row ∈ V1 t vs, Arr.cellCount false row ≥ t := by
  intro row hr
  rw [V1_eq hp] at hr
  simpa using (List.mem_filter.mp hr).2

theorem V1_RP {vs : List (List UInt8)} (hp : RP vs) (t : Nat) : RP (V1 t vs) := by
  rw [V1_eq hp]; exact RP_filter hp _

theorem V2_eq {vs : List (List UInt8)} (hp : RP vs) (t : Nat) :
    V2 t vs = (V1 t vs).filter (Arr.keepRow .noConst false) := by
  simp only [V2, filtV, nonEmpty_of_RP (V1_RP hp t)]
  exact filt_absorb t false _ _ (V1_count hp t)

theorem V2_unamb {vs : List (List UInt8)} (hp : RP vs) (hu : Unambiguous vs) (t : Nat) :
    Unambiguous (V2 t vs) := by
  rw [V2_eq hp, V1_eq hp]; exact Unamb_filter (Unamb_filter hu _) _

theorem cstOf_eq {vs : List (List UInt8)} (hp : RP vs) (t : Nat) :
    cstOf t vs = ((V1 t vs).filter (fun row => !Arr.keepRow .noConst false row)).length := by
  simp only [cstOf, nonEmpty_of_RP (V1_RP hp t), V2_eq hp]
  exact length_sub_length_filter _ _

theorem V3_eq {vs : List (List UInt8)} (hp : RP vs) (hu : Unambiguous vs) (t : Nat) (ge1 filt : Bool) :
    V3 t ge1 filt vs = V2 t vs := by
  have hp2 : RP (V2 t vs) := by rw [V2_eq hp]; exact RP_filter (V1_RP hp t) _
  have hu2 := V2_unamb hp hu t
  have hc2 : ∀ row ∈ V2 t vs, Arr.cellCount false row ≥ t := by
    intro row hr; rw [V2_eq hp] at hr; exact V1_count hp t row (List.mem_filter.mp hr).1
  have hk2 : ∀ row ∈ V2 t vs, Arr.keepRow .noConst false row = true := by
    intro row hr; rw [V2_eq hp] at hr; exact (List.mem_filter.mp hr).2
  cases filt
  · cases ge1
    · rfl
    · simp only [V3, Bool.or_true, Bool.false_eq_true, if_true, if_false, filtV, nonEmpty_of_RP hp2]
      rw [filt_absorb t false _ _ hc2]
      exact List.filter_eq_self.mpr (fun _ _ => rfl)
  · simp only [V3, Bool.true_or, if_true, filtV, nonEmpty_true_of_RP hp2 hu2]
    have hc2' : ∀ row ∈ V2 t vs, Arr.cellCount true row ≥ t := by
      intro row hr; rw [cellCount_unamb (hu2 row hr)]; exact hc2 row hr
    rw [filt_absorb t true _ _ hc2']
    have : (V2 t vs).filter (Arr.keepRow .noAmbigOrConst false) = V2 t vs := by
      apply List.filter_eq_self.mpr
      intro row hr
      rw [keepRow_unamb (hu2 row hr)]; exact hk2 row hr
    rw [this]
    exact maskV_unamb hu2 true

/-- the three per-row tests for the sample pair (i, j) -/
def qd (i j : Nat) (r : List UInt8) : Bool :=
  r.getD i GAP != GAP && r.getD j GAP != GAP && r.getD i GAP != r.getD j GAP
def qo (i j : Nat) (r : List UInt8) : Bool := (r.getD i GAP == GAP) != (r.getD j GAP == GAP)
def qb (i j : Nat) (r : List UInt8) : Bool := r.getD i GAP != GAP && r.getD j GAP != GAP

theorem pairDist_eq (a : Arr) (h : a.variants.length ≤ a.kmers.length) (hp : RP a.variants) (t i j : Nat) :
    a.abs.pairDist t i j
      = (((V1 t a.variants).filter (qd i j)).length, ((V1 t a.variants).filter (qo i j)).length,
         ((V1 t a.variants).filter (qb i j)).length + ((V1 t a.variants).filter (qo i j)).length) := by
  have hrows : a.abs.rows.map (·.2) = a.variants := by
    simp only [Arr.abs]; exact List.map_snd_zip h
  have hV1 : (a.abs.rows.map (·.2)).filter (fun r => decide (Table.presentCount false r ≥ t)) = V1 t a.variants := by
    rw [hrows, V1_eq hp]; rfl
  simp only [Table.pairDist]
  rw [hV1]
  have ho : (V1 t a.variants).filter (fun r => Table.present (r.getD i gap) != Table.present (r.getD j gap))
      = (V1 t a.variants).filter (qo i j) := by
    apply List.filter_congr
    intro r _
    show ((r.getD i GAP != GAP) != (r.getD j GAP != GAP)) = ((r.getD i GAP == GAP) != (r.getD j GAP == GAP))
    have hnn : ∀ x y : Bool, ((!x) != (!y)) = (x != y) := by decide
    exact hnn _ _
  have hb : (V1 t a.variants).filter (fun r => Table.present (r.getD i gap) && Table.present (r.getD j gap))
      = (V1 t a.variants).filter (qb i j) := rfl
  rw [ho, hb, List.filter_filter]
  have hd : (V1 t a.variants).filter (fun r => (r.getD i gap != r.getD j gap) && qb i j r)
      = (V1 t a.variants).filter (qd i j) := by
    apply List.filter_congr
    intro r _
    show ((r.getD i GAP != r.getD j GAP) && qb i j r) = (qb i j r && (r.getD i GAP != r.getD j GAP))
    exact Bool.and_comm _ _
  rw [hd]

theorem removed_row {vs : List (List UInt8)} (hp : RP vs) (n : Nat) (hlen : ∀ row ∈ vs, row.length = n)
    (t i j : Nat) (hi : i < n) (hj : j < n) :
    ∀ r ∈ (V1 t vs).filter (fun row => !Arr.keepRow .noConst false row),
      qd i j r = false ∧ qo i j r = false ∧ qb i j r = true := by
  intro r hr
  obtain ⟨hr1, hk⟩ := List.mem_filter.mp hr
  rw [V1_eq hp] at hr1
  have hrv : r ∈ vs := (List.mem_filter.mp hr1).1
  have hk' : Arr.keepRow .noConst false r = false := by simpa using hk
  obtain ⟨b, hb, hall⟩ := const_row hk' (hp r hrv)
  have hl := hlen r hrv
  have ei := hall i (hl.symm ▸ hi)
  have ej := hall j (hl.symm ▸ hj)
  have hbne : (b != GAP) = true := by simpa using hb
  simp only [qd, qo, qb, ei, ej, hbne]
  simp

theorem split_counts {vs : List (List UInt8)} (hp : RP vs) (n : Nat) (hlen : ∀ row ∈ vs, row.length = n)
    (t i j : Nat) (hi : i < n) (hj : j < n) :
    ((V1 t vs).filter (qd i j)).length = ((V2 t vs).filter (qd i j)).length
    ∧ ((V1 t vs).filter (qo i j)).length = ((V2 t vs).filter (qo i j)).length
    ∧ ((V1 t vs).filter (qb i j)).length = ((V2 t vs).filter (qb i j)).length + cstOf t vs := by
  have hrem := removed_row hp n hlen t i j hi hj
  rw [V2_eq hp, cstOf_eq hp]
  refine ⟨?_, ?_, ?_⟩
  · rw [length_filter_split (Arr.keepRow .noConst false) (qd i j) (V1 t vs),
      filter_eq_nil_of_all_false _ _ (fun r hr => (hrem r hr).1)]
    simp
  · rw [length_filter_split (Arr.keepRow .noConst false) (qo i j) (V1 t vs),
      filter_eq_nil_of_all_false _ _ (fun r hr => (hrem r hr).2.1)]
    simp
  · rw [length_filter_split (Arr.keepRow .noConst false) (qb i j) (V1 t vs),
      List.filter_eq_self.mpr (fun r hr => (hrem r hr).2.2)]

end SkaModel.DM
