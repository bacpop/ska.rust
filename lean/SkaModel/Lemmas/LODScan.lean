/-
C17 (second sentence) — `scanVariants` on a good group (`GG`) of a planted family with a reference: a group of the
strand of the reference is anchored at the end of its first `(k-1)`-mer, forward; a group of the other strand at the
mirrored coordinate, reverse. Both are `group_votes`, for the variants resp. for their reverse complements.
Coordinates: a site of a group is given by the numbers `d`, `e` of letters of the variants before and after it
(`GG.split`); read from the other end of the family the group begins at `c`, where `c0 + len + c = L`, and `d`, `e`
change places (`mirror_geo`, `Along.mirror`).
-/
import SkaModel.Lemmas.LODVotes
import SkaModel.Lemmas.LOCGroups

namespace SkaModel.LOD

open SkaModel SkaModel.Spec SkaModel.Props.C16 SkaModel.Skalo SkaModel.LOC

theorem revComplStr_base {s : List UInt8} (h : AllBase s) : revComplStr s = some (rcSeq s) := by
  unfold revComplStr rcSeq
  apply LO.mapM_eq_map
  intro b hb
  rcases isBase_cases (h b (List.mem_reverse.mp hb)) with rfl | rfl | rfl | rfl <;> decide

theorem mapM_revCompl {vs : List Variant} (h : ∀ v ∈ vs, AllBase v.1) :
    vs.mapM (fun v => revComplStr v.1) = some (vs.map (fun v => rcSeq v.1)) :=
  LO.mapM_eq_map _ _ _ (fun v hv => revComplStr_base (h v hv))

theorem mfp_all (F : List Nat) (p : Nat) (hall : ∀ x ∈ F, x = p) (h10 : 10 ≤ F.length) :
    mostFrequentPosition F = (p, F.length) := by
  have hc : F.count p = F.length := List.count_eq_length.mpr (fun x hx => (hall x hx).symm)
  have := LOR.mfp_complete F p (by omega) (fun q hq hne => absurd (hall q hq) hne)
  rwa [hc] at this

theorem scanOf_fwd (F : List Nat) (p : Nat) (hall : ∀ x ∈ F, x = p) (h10 : 10 ≤ F.length) :
    LOR.scanOf F [] = (true, p, true) := by
  rw [LOR.scanOf_eq, mfp_all _ p hall h10, LOR.mfp_nil, if_neg (show ¬ _ = 0 by omega), if_pos rfl]

theorem scanOf_rev (Rv : List Nat) (p : Nat) (hall : ∀ x ∈ Rv, x = p) (h10 : 10 ≤ Rv.length) :
    LOR.scanOf [] Rv = (true, p, false) := by
  rw [LOR.scanOf_eq, mfp_all _ p hall h10, LOR.mfp_nil, if_pos rfl, if_neg (show ¬ _ = 0 by omega)]

variable {k L : Nat} {R : List UInt8} {T : List (List UInt8)} {PT : List Nat}

/-- a group that extends `2k` letters beyond its site on one side has `2k - 1` letters on that side of the site -/
theorem span_split {k c0 d e : Nat} (h : c0 + d + 2 * k ≤ c0 + (d + 1 + e) ∨ c0 + 2 * k - 1 ≤ c0 + d) :
    2 * k - 1 ≤ e ∨ 2 * k - 1 ≤ d := by
  omega

theorem mirror_geo {L c0 d e : Nat} (h : c0 + (d + 1 + e) ≤ L) :
    ∃ c, c0 + (d + 1 + e) + c = L ∧ L - c0 - (d + 1 + e) = c ∧ L - 1 - (c0 + d) = c + e ∧ d + 1 + e = e + 1 + d ∧
      L = c0 + d + 1 + (c + e) := by
  obtain ⟨c, rfl⟩ := Nat.exists_eq_add_of_le h
  exact ⟨c, rfl, by omega⟩

theorem scan_same (pf : PFam k L (R :: T) PT) (hk5 : 5 ≤ k) (hk : 2 * (k - 1) ≤ 128) (hLU : L < U32)
    {c0 len : Nat} {vs : List Variant} (hg : GG k L T PT c0 len vs) (h2 : 2 ≤ vs.length)
    {q : Nat} (hq : q ∈ PT) (h1 : c0 ≤ q) (h2q : q < c0 + len)
    (hten : (q + 2 * k ≤ c0 + len ∨ c0 + 2 * k - 1 ≤ q) ∨ SiteOK k R T q) :
    scanVariants 128 (k - 1) (genomicKmers 128 (k - 1) R) vs = some (true, c0 + (k - 1), true) := by
  obtain ⟨d, e, rfl, rfl, hd, he⟩ := GG.split hg hq h1 h2q
  obtain ⟨hall, hcount, hrev⟩ := group_votes pf hk5 hk hLU (ws := vs.map (·.1))
    (fun w hw => by
      obtain ⟨v, hv, rfl⟩ := List.mem_map.mp hw
      exact hg.along hv (Nat.sub_le k 1))
    (by rw [List.length_map]; exact h2) hq hd he
    (fun u hu => by
      obtain ⟨v, hv, ev⟩ := hg.cov _ hq h1 h2q u hu
      rw [Nat.add_sub_cancel_left] at ev
      exact ⟨v.1, List.mem_map.mpr ⟨v, hv, rfl⟩, ev⟩)
    (hten.imp_left fun h => (span_split h).symm)
  rw [List.flatMap_map] at hall hcount hrev
  rw [LOR.scan_eq, mapM_revCompl fun v hv => (hg.hv v hv).2.1, Option.bind_some, List.flatMap_map, hrev,
    scanOf_fwd _ _ hall hcount]

/-- `T'`: the reverse complements of the family.  The reverse complements of the variants lie along the family of the
reference, with the letters before and after the site exchanged -/
theorem scan_other (pf : PFam k L (R :: T) PT) (hk5 : 5 ≤ k) (hk : 2 * (k - 1) ≤ 128) (hLU : L < U32)
    {T' : List (List UInt8)} {PT' : List Nat} (hT' : ∀ t' ∈ T', t'.length = L ∧ rcSeq t' ∈ T)
    (hT : ∀ t ∈ T, rcSeq t ∈ T')
    {c0 len : Nat} {vs : List Variant} (hg : GG k L T' PT' c0 len vs) (h2 : 2 ≤ vs.length)
    {q' : Nat} (hq' : q' ∈ PT') (h1 : c0 ≤ q') (h2q : q' < c0 + len) (hmir : L - 1 - q' ∈ PT)
    (hten : (q' + 2 * k ≤ c0 + len ∨ c0 + 2 * k - 1 ≤ q') ∨ SiteOK k R T (L - 1 - q')) :
    scanVariants 128 (k - 1) (genomicKmers 128 (k - 1) R) vs = some (true, L - c0 - len + (k - 1), false) := by
  obtain ⟨d, e, rfl, rfl, hd, he⟩ := GG.split hg hq' h1 h2q
  obtain ⟨c, hc, estart, esite, elen, eL⟩ := mirror_geo hg.hL
  rw [esite] at hmir hten
  rw [estart]
  obtain ⟨hall, hcount, hrev⟩ := group_votes pf hk5 hk hLU (ws := vs.map (fun v => rcSeq v.1)) (d := e) (e := d)
    (fun w hw => by
      obtain ⟨v, hv, rfl⟩ := List.mem_map.mp hw
      exact elen ▸ (hg.along hv (Nat.sub_le k 1)).mirror hT' hc)
    (by rw [List.length_map]; exact h2) hmir he hd
    (fun u hu => by
      obtain ⟨v, hv, ev⟩ := hg.cov _ hq' h1 h2q (rcSeq u) (hT u hu)
      rw [Nat.add_sub_cancel_left] at ev
      refine ⟨rcSeq v.1, List.mem_map.mpr ⟨v, hv, rfl⟩, ?_⟩
      rw [rcSeq_getD_add (j := d) ((hg.hv v hv).1.trans elen), ev,
        rcSeq_getD_add (j := c + e) ((pf.len (List.mem_cons_of_mem _ hu)).trans eL), compl_compl])
    (hten.imp_left span_split)
  -- the variants themselves are the reverse complements of their reverse complements: no vote
  have hfwd : vs.flatMap (fun v => strandVotes 128 (k - 1) (genomicKmers 128 (k - 1) R) v.1) = [] := by
    rw [← hrev, List.flatMap_map]
    exact flatMap_congr' _ _ _ (fun v hv => by rw [rcSeq_rcSeq (hg.hv v hv).2.1])
  rw [LOR.scan_eq, mapM_revCompl fun v hv => (hg.hv v hv).2.1, Option.bind_some, hfwd, scanOf_rev _ _ hall hcount]

end SkaModel.LOD
