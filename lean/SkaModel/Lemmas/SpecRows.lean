/-
The rows of `Spec.specTable`: one per key of `Spec.allKeys`, the row of a key being one cell per
sample (`cellRow`). Every statement about what the joint-build table contains, or what `align`
emits from it, goes through this presentation.
-/
import SkaModel.Spec.BuildTable
import SkaModel.Lemmas.ListLemmas

namespace SkaModel.Spec

open SkaModel

def cellRow (k : Nat) (rc : Bool) (samples : List (List (Array UInt8))) (key : Nat) : List UInt8 :=
  samples.map (fun recs => cellFor k rc recs key)

theorem specTable_rows (k : Nat) (rc : Bool) (names : List String)
    (samples : List (List (Array UInt8))) :
    (specTable k rc names samples).rows
      = (allKeys k rc samples).map (fun key => (key, cellRow k rc samples key)) := by
  simp only [specTable, allKeys, cellRow, cellFor, List.flatMap_map, List.map_map, Function.comp_def]

theorem allKeys_nodup (k : Nat) (rc : Bool) (samples : List (List (Array UInt8))) :
    (allKeys k rc samples).Nodup := Dedup.eraseDups_nodup _

theorem cellRow_length (k : Nat) (rc : Bool) (samples : List (List (Array UInt8))) (key : Nat) :
    (cellRow k rc samples key).length = samples.length := List.length_map _

theorem mem_allKeys_obs (k : Nat) (rc : Bool) (samples : List (List (Array UInt8))) (key : Nat) :
    key ∈ allKeys k rc samples ↔ ∃ recs ∈ samples, ∃ o ∈ observations k rc recs, o.1 = key := by
  unfold allKeys
  rw [List.mem_eraseDups, List.mem_flatMap]
  simp only [List.mem_map]

theorem specTable_alignColumns (k : Nat) (rc : Bool) (names : List String)
    (samples : List (List (Array UInt8))) (t : Nat) (famb : Bool) (ft : Table.SiteFilter)
    (mask gaps : Bool) :
    (specTable k rc names samples).alignColumns t famb ft mask gaps
      = ((allKeys k rc samples).filter fun key =>
          Table.passes t famb ft gaps (cellRow k rc samples key)).map
            fun key => Table.maskRow mask (cellRow k rc samples key) := by
  unfold Table.alignColumns
  rw [specTable_rows]
  simp only [List.map_map, Function.comp_def, List.filter_map]

theorem alignColumns_perm_of_rows {k : Nat} {rc : Bool} {A T : List (List (Array UInt8))}
    (hkeys : ∀ key, key ∈ allKeys k rc T ↔ key ∈ allKeys k rc A)
    (hrow : ∀ key, cellRow k rc T key = cellRow k rc A key)
    (namesT namesA : List String) (t : Nat) (famb : Bool) (ft : Table.SiteFilter) (mask gaps : Bool) :
    ((specTable k rc namesT T).alignColumns t famb ft mask gaps).Perm
      ((specTable k rc namesA A).alignColumns t famb ft mask gaps) := by
  rw [specTable_alignColumns, specTable_alignColumns, funext hrow]
  exact (((List.perm_ext_iff_of_nodup (allKeys_nodup k rc T) (allKeys_nodup k rc A)).mpr hkeys).filter _).map _

end SkaModel.Spec
