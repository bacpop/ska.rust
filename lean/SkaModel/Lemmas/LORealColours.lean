/-
`ska lo`: the colour map of `build_graph` (`kmer_2_samples`): its lookups are the lookups in the
list of coloured k-mers of the rows in table order (`LORL.buildGraph_lookup` in `LOCFold.lean`); here: every
colour set is the sample set of a row and a shown base, every edge of the graph is a coloured k-mer
(`T17_colour_sound`, `T17_colour_complete`, `T17_edges_coloured` in `SkaModel/Props/C17Real.lean`); which row
colours a k-mer: `LOColourRow.lean`.
-/
import SkaModel.Lemmas.LOPathBuild
import SkaModel.Lemmas.Windows

namespace SkaModel.LORL

open SkaModel SkaModel.Skalo SkaModel.Spec SkaModel.Props.C16 SkaModel.Props.C17G SkaModel.LOG

theorem row_arms (W : Nat) (a : Arr) (hk : ValidK a.k) (hw : WidthOk W a.k)
    (hkeys : ∀ key ∈ a.kmers, key < 4 ^ (a.k - 1)) (kv : Nat × List UInt8)
    (hkv : kv ∈ a.kmers.zip a.variants) :
    ∃ u l, kv.1 = packL (u ++ l) ∧ u.length = halfK a.k ∧ l.length = halfK a.k ∧ Codes u ∧ Codes l := by
  obtain ⟨_, hkh, _⟩ := validK_bounds hk hw
  exact key_arms a.k kv.1 hkh (hkeys kv.1 (List.of_mem_zip hkv).1)

theorem mem_colourEntries (W : Nat) (a : Arr) (hk : ValidK a.k) (hw : WidthOk W a.k)
    (hkeys : ∀ key ∈ a.kmers, key < 4 ^ (a.k - 1)) (f : Nat) (S : List Nat) :
    (f, S) ∈ colourEntries W a ↔
      ∃ kv u l n, RowBase a kv u l n ∧
        (f = packL (u ++ [code n] ++ l) ∨ f = packL (rcCodes (u ++ [code n] ++ l))) ∧
        S = samplesOf kv.2 n := by
  unfold colourEntries
  rw [List.mem_flatMap]
  constructor
  · rintro ⟨kv, hkv, hmem⟩
    obtain ⟨u, l, e, hu, hl, hcu, hcl⟩ := row_arms W a hk hw hkeys kv hkv
    rw [e] at hmem
    obtain ⟨n, hn, h⟩ := (mem_rowGraph_colors W a.k hk hw u l hu hl hcu hcl kv.2 (f, S)).mp hmem
    exact ⟨kv, u, l, n, ⟨hkv, e, hu, hl, hcu, hcl, hn⟩,
      h.imp (fun h => (Prod.mk.inj h).1) (fun h => (Prod.mk.inj h).1),
      h.elim (fun h => (Prod.mk.inj h).2) (fun h => (Prod.mk.inj h).2)⟩
  · rintro ⟨kv, u, l, n, r, hf, rfl⟩
    refine ⟨kv, r.row, ?_⟩
    rw [r.key]
    exact (mem_rowGraph_colors W a.k hk hw u l r.lenU r.lenL r.codesU r.codesL kv.2 _).mpr
      ⟨n, r.shown, hf.imp (fun h => by rw [h]) (fun h => by rw [h])⟩

theorem samplesOf_ne_nil (cells : List UInt8) (n : UInt8) (hn : n ∈ shownBases cells) :
    samplesOf cells n ≠ [] := by
  obtain ⟨_, i, hi⟩ := (mem_shownBases cells n).mp hn
  intro h
  have := (mem_samplesOf cells n i).mpr hi
  rw [h] at this
  simp at this

theorem colour_row (W : Nat) (a : Arr) (hk : ValidK a.k) (hw : WidthOk W a.k)
    (hkeys : ∀ key ∈ a.kmers, key < 4 ^ (a.k - 1)) (f : Nat) (S : List Nat)
    (h : Assoc.lookup (buildGraph W a).2 f = some S) :
    ∃ kv u l n, RowBase a kv u l n ∧
      (f = packL (u ++ [code n] ++ l) ∨ f = packL (rcCodes (u ++ [code n] ++ l))) ∧
      S = samplesOf kv.2 n := by
  rw [buildGraph_lookup] at h
  exact (mem_colourEntries W a hk hw hkeys f S).mp (Assoc.mem_of_lookup h)

theorem colour_ne_nil (W : Nat) (a : Arr) (hk : ValidK a.k) (hw : WidthOk W a.k)
    (hkeys : ∀ key ∈ a.kmers, key < 4 ^ (a.k - 1)) (f : Nat) (S : List Nat)
    (h : Assoc.lookup (buildGraph W a).2 f = some S) : S ≠ [] := by
  obtain ⟨kv, _, _, n, r, _, rfl⟩ := colour_row W a hk hw hkeys f S h
  exact samplesOf_ne_nil _ _ r.shown

theorem colour_sound (W : Nat) (a : Arr) (hk : ValidK a.k) (hw : WidthOk W a.k)
    (hkeys : ∀ key ∈ a.kmers, key < 4 ^ (a.k - 1)) (f : Nat) (S : List Nat)
    (h : Assoc.lookup (buildGraph W a).2 f = some S) :
    ∃ kv ∈ a.kmers.zip a.variants, ∃ u l, kv.1 = packL (u ++ l) ∧ u.length = halfK a.k ∧
      l.length = halfK a.k ∧ Codes u ∧ Codes l ∧ ∃ n ∈ shownBases kv.2,
        (f = packL (u ++ [code n] ++ l) ∨ f = packL (rcCodes (u ++ [code n] ++ l))) ∧
        S = samplesOf kv.2 n ∧ S ≠ [] ∧
        ∀ i ∈ S, i < kv.2.length ∧ kv.2.getD i 45 ≠ 45 ∧ n ∈ degenerate (kv.2.getD i 45) := by
  obtain ⟨kv, u, l, n, r, hf, hS⟩ := colour_row W a hk hw hkeys f S h
  refine ⟨kv, r.row, u, l, r.key, r.lenU, r.lenL, r.codesU, r.codesL, n, r.shown, hf, hS,
    colour_ne_nil W a hk hw hkeys f S h, fun i hi => ?_⟩
  rw [hS] at hi
  exact (mem_samplesOf kv.2 n i).mp hi

theorem colour_complete (W : Nat) (a : Arr) (hk : ValidK a.k) (hw : WidthOk W a.k)
    (hkeys : ∀ key ∈ a.kmers, key < 4 ^ (a.k - 1)) (kv : Nat × List UInt8)
    (hkv : kv ∈ a.kmers.zip a.variants) (u l : List Nat) (e : kv.1 = packL (u ++ l))
    (hu : u.length = halfK a.k) (hl : l.length = halfK a.k) (hcu : Codes u) (hcl : Codes l)
    (n : UInt8) (hn : n ∈ shownBases kv.2) :
    (∃ S, Assoc.lookup (buildGraph W a).2 (packL (u ++ [code n] ++ l)) = some S) ∧
    (∃ S, Assoc.lookup (buildGraph W a).2 (packL (rcCodes (u ++ [code n] ++ l))) = some S) := by
  have key : ∀ f, (f = packL (u ++ [code n] ++ l) ∨ f = packL (rcCodes (u ++ [code n] ++ l))) →
      ∃ S, Assoc.lookup (buildGraph W a).2 f = some S := by
    intro f hf
    rw [buildGraph_lookup]
    apply Assoc.exists_lookup_of_mem_keys
    exact List.mem_map_of_mem (f := (·.1))
      ((mem_colourEntries W a hk hw hkeys f (samplesOf kv.2 n)).mpr
        ⟨kv, u, l, n, ⟨hkv, e, hu, hl, hcu, hcl, hn⟩, hf, rfl⟩)
  exact ⟨key _ (Or.inl rfl), key _ (Or.inr rfl)⟩

theorem combine_pack (W n : Nat) (hn : 1 ≤ n) (F : List Nat) (hF : Codes F) (hlen : F.length = n + 1)
    (hW : 2 * (n + 1) ≤ W) :
    combineKmers W (packL (F.take n)) (packL (F.drop 1)) = packL F := by
  have e : F = F.take n ++ F.drop n := (List.take_append_drop n F).symm
  have hd : (F.drop n).length = 1 := by rw [List.length_drop]; omega
  match hD : F.drop n, hd with
  | [c], _ =>
    rw [hD] at e
    have hA : (F.take n).length = n := by rw [List.length_take]; omega
    generalize F.take n = A at e hA
    subst e
    have hc : c < 4 := hF c (by simp)
    have hcA : Codes A := fun x hx => hF x (List.mem_append_left _ hx)
    cases A with
    | nil => simp at hA; omega
    | cons a0 A' =>
      rw [List.cons_append, List.drop_succ_cons, List.drop_zero, ← List.cons_append, packL_snoc, packL_snoc]
      unfold combineKmers
      have hlt : packL (a0 :: A') < 4 ^ n := by
        have := packL_lt hcA
        rwa [hA] at this
      rw [shl_two hlt hW, and_three, or_code (Nat.mod_lt _ (by omega))]
      omega

/-- `combine_kmers` of the ends of an edge packs the word of the edge, which is a k-mer of a row -/
theorem edge_coloured (W : Nat) (a : Arr) (hk : ValidK a.k) (hw : WidthOk W a.k)
    (hkeys : ∀ key ∈ a.kmers, key < 4 ^ (a.k - 1)) (x y : Nat) (h : Edge (buildGraph W a).1 x y) :
    ∃ S, Assoc.lookup (buildGraph W a).2 (combineKmers W x y) = some S ∧ S ≠ [] := by
  obtain ⟨hk1, hkW, _⟩ := kGraph_bounds hk hw
  obtain ⟨kv, u, l, n, r, F, hFor, hF, hlen, rfl, rfl⟩ := buildGraph_edge_word W a hk hw hkeys x y h
  obtain ⟨h1, h2⟩ :=
    colour_complete W a hk hw hkeys kv r.row u l r.key r.lenU r.lenL r.codesU r.codesL n r.shown
  rw [combine_pack W (a.k - 1) hk1 F hF hlen hkW]
  obtain ⟨S, hS⟩ : ∃ S, Assoc.lookup (buildGraph W a).2 (packL F) = some S := by
    rcases hFor with rfl | rfl
    · exact h1
    · exact h2
  exact ⟨S, hS, colour_ne_nil W a hk hw hkeys _ S hS⟩

theorem window_combine (W kGraph : Nat) (hk1 : 1 ≤ kGraph) (hW : 2 * (kGraph + 1) ≤ W) (s : List UInt8)
    (i x y : Nat) (hi : i + kGraph + 1 ≤ s.length)
    (hx : encodeKmer W ((s.drop i).take kGraph) = x)
    (hy : encodeKmer W ((s.drop (i + 1)).take kGraph) = y) :
    encodeKmer W ((s.drop i).take (kGraph + 1)) = combineKmers W x y := by
  have hwl : ((s.drop i).take (kGraph + 1)).length = kGraph + 1 := by
    rw [List.length_take, List.length_drop]; omega
  rw [T16_encode W _ (by rw [hwl]; exact hW)]
  have hF : Codes (((s.drop i).take (kGraph + 1)).map code) := Codes.map_of _ _ code_lt
  rw [← combine_pack W kGraph hk1 _ hF (by rw [List.length_map, hwl]) hW]
  congr 1
  · rw [← hx, T16_encode W _ (by rw [List.length_take]; omega), ← List.map_take, List.take_take]
    congr 3
    omega
  · rw [← hy, T16_encode W _ (by rw [List.length_take]; omega), ← List.map_drop]
    congr 2
    rw [List.drop_take, List.drop_drop]
    congr 1

end SkaModel.LORL
