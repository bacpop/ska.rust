/-
The folds of `encodeKmer` and `decodeLoop` in terms of `packL`: one appends a digit per step
(`shl_packL_or`), the other takes the last digit off (`packL_snoc_shr`).
-/
import SkaModel.Lemmas.Pack

namespace SkaModel

open SkaModel.Spec

theorem encode_foldl (W : Nat) (s : List UInt8) {cs : List Nat} (hcs : Codes cs)
    (hW : 2 * (cs.length + s.length) ≤ W) :
    s.foldl (fun r nt => shl W r 2 ||| code nt) (packL cs) = packL (cs ++ s.map code) := by
  induction s generalizing cs with
  | nil => rw [List.map_nil, List.append_nil]; rfl
  | cons b s ih =>
    have h1 : 2 * (cs.length + 1) ≤ W :=
      Nat.le_trans (Nat.mul_le_mul_left 2 (Nat.add_le_add_left (Nat.le_add_left 1 _) _)) hW
    rw [List.foldl_cons, shl_packL_or hcs (code_lt b) h1,
      ih (hcs.append (Codes.cons (code_lt b) Codes.nil))
        (by rw [List.length_append, List.length_singleton, Nat.add_right_comm]; exact hW),
      List.map_cons, List.append_assoc]
    rfl

theorem packL_snoc_and (l : List Nat) {d : Nat} (hd : d < 4) : packL (l ++ [d]) &&& 3 = d := by
  rw [packL_snoc, and_three, Nat.mul_add_mod, Nat.mod_eq_of_lt hd]

theorem decodeLoop_rev (r : List Nat) (hr : Codes r) (acc : List UInt8) :
    decodeLoop r.length (packL r.reverse) acc = r.reverse.map decodeBase ++ acc := by
  induction r generalizing acc with
  | nil => rfl
  | cons c r ih =>
    rw [List.length_cons, List.reverse_cons, decodeLoop, packL_snoc_shr _ hr.head,
      packL_snoc_and _ hr.head, ih hr.tail, List.map_append, List.append_assoc]
    rfl

theorem decodeLoop_packL (cs : List Nat) (hc : Codes cs) (n : Nat) (hn : cs.length = n) :
    decodeLoop n (packL cs) [] = cs.map decodeBase := by
  subst hn
  have := decodeLoop_rev cs.reverse hc.reverse []
  rwa [List.reverse_reverse, List.length_reverse, List.append_nil] at this

end SkaModel
