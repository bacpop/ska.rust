/-
C17 completeness — the graph of the table of a family of samples (rows in any order, palindromic split k-mers
allowed): its edges are those of the `k`-windows of the samples on both strands, between the packed nodes `fN`/`rN`
(the program's `fwN`/`rvN`); the colour set of a window is the set of samples containing it on either strand.
-/
import SkaModel.Lemmas.LOCTab
import SkaModel.Lemmas.LOCCheck

namespace SkaModel.LOC

open SkaModel SkaModel.Spec SkaModel.Props.C16 SkaModel.Skalo SkaModel.LOG SkaModel.Props.C17G

/-- the edge of a `k`-mer given by its codes: prefix `(k-1)`-mer → suffix `(k-1)`-mer -/
def e1 (k : Nat) (F : List Nat) : Nat × Nat := (packL (F.take (k - 1)), packL (F.drop 1))

theorem edgesOf_eq (k : Nat) (u l : List Nat) (n : UInt8) (hlen : (u ++ [code n] ++ l).length = k) (hk : 1 ≤ k) :
    edgesOf k u l n = [e1 k (u ++ [code n] ++ l), e1 k (rcCodes (u ++ [code n] ++ l))] := by
  unfold edgesOf e1
  simp only
  obtain ⟨r1, r2⟩ := rcCodes_drop_one_take (u ++ [code n] ++ l) (k - 1) (by omega)
  rw [r1, r2]

theorem e1_inj {k : Nat} (hk : 2 ≤ k) {F F' : List Nat} (hF : Codes F) (hF' : Codes F')
    (hl : F.length = k) (hl' : F'.length = k) (h : e1 k F = e1 k F') : F = F' := by
  unfold e1 at h
  simp only [Prod.mk.injEq] at h
  have ht := packL_inj (hF.take _) (hF'.take _) (by rw [List.length_take, List.length_take, hl, hl']) h.1
  have hd := congrArg (List.drop (k - 2))
    (packL_inj (hF.drop _) (hF'.drop _) (by rw [List.length_drop, List.length_drop, hl, hl']) h.2)
  -- the first `k - 1` codes and the last code
  rw [List.drop_drop, List.drop_drop, show 1 + (k - 2) = k - 1 by omega] at hd
  rw [← List.take_append_drop (k - 1) F, ← List.take_append_drop (k - 1) F', ht, hd]

theorem full_codes {u l : List Nat} (hcu : Codes u) (hcl : Codes l) (n : UInt8) : Codes (u ++ [code n] ++ l) :=
  Codes.append (Codes.append hcu (Codes.cons (code_lt n) Codes.nil)) hcl

theorem full_length {k : Nat} {u l : List Nat} (hu : u.length = halfK k) (hl : l.length = halfK k)
    (hkh : k = 2 * halfK k + 1) (c : Nat) : (u ++ [c] ++ l).length = k := by
  simp [hu, hl]; omega

theorem full_ne_rc {k : Nat} {u l : List Nat} (hu : u.length = halfK k) (hl : l.length = halfK k) (c : Nat)
    (hc : c < 4) : u ++ [c] ++ l ≠ rcCodes (u ++ [c] ++ l) := by
  intro e
  rw [rcCodes_append, rcCodes_append, ← List.append_assoc] at e
  have e' : rcCodes [c] = [c ^^^ 2] := rfl
  rw [e'] at e
  obtain ⟨_, h2, _⟩ := LORL.split_full (by rw [hu, rcCodes_length, hl]) e
  have : ∀ c < 4, c ≠ c ^^^ 2 := by decide
  exact this c hc h2

theorem mem_edgesOf {k : Nat} {u l : List Nat} {n : UInt8} (hlen : (u ++ [code n] ++ l).length = k)
    (hk : 1 ≤ k) {x : Nat × Nat} :
    x ∈ edgesOf k u l n ↔
      ∃ G, (G = u ++ [code n] ++ l ∨ G = rcCodes (u ++ [code n] ++ l)) ∧ x = e1 k G := by
  rw [edgesOf_eq k u l n hlen hk]
  simp only [List.mem_cons, List.not_mem_nil, or_false]
  constructor
  · rintro (rfl | rfl)
    · exact ⟨_, Or.inl rfl, rfl⟩
    · exact ⟨_, Or.inr rfl, rfl⟩
  · rintro ⟨G, rfl | rfl, rfl⟩
    · exact Or.inl rfl
    · exact Or.inr rfl

theorem strand_codes_length {F G : List Nat} {k : Nat} (h : G = F ∨ G = rcCodes F) (hF : Codes F)
    (hl : F.length = k) : Codes G ∧ G.length = k := by
  rcases h with rfl | rfl
  · exact ⟨hF, hl⟩
  · exact ⟨rcCodes_codes hF, by rw [rcCodes_length]; exact hl⟩

/-- The keys must be strictly canonical: the table of a family only has `key ≤ rcKey key`, and the row of a
palindromic split k-mer (`key = rcKey key`) lists each of its edges twice. -/
theorem allEdges_nodup (W : Nat) (a : Arr) (hk : ValidK a.k) (hw : WidthOk W a.k)
    (hkeys : ∀ key ∈ a.kmers, key < 4 ^ (a.k - 1)) (hnd : a.kmers.Nodup)
    (hcanon : ∀ key ∈ a.kmers, key < LORL.rcKey a.k key) : (allEdges W a).Nodup := by
  obtain ⟨hh2, hkh, hkW⟩ := validK_bounds hk hw
  have hk2 : 2 ≤ a.k := by omega
  have hk1 : 1 ≤ a.k := Nat.le_of_succ_le hk2
  -- the same edge from two (row, base) pairs, used within one row and across two rows
  have core : ∀ kv ∈ a.kmers.zip a.variants, ∀ kv' ∈ a.kmers.zip a.variants,
      ∀ u l u' l', kv.1 = packL (u ++ l) → kv'.1 = packL (u' ++ l') → u.length = halfK a.k →
      l.length = halfK a.k → u'.length = halfK a.k → l'.length = halfK a.k → Codes u → Codes l →
      Codes u' → Codes l' → ∀ n ∈ shownBases kv.2, ∀ n' ∈ shownBases kv'.2,
      ∀ x, x ∈ edgesOf a.k u l n → x ∈ edgesOf a.k u' l' n' → kv = kv' ∧ n = n' := by
    intro kv hkv kv' hkv' u l u' l' e e' hu hl hu' hl' hcu hcl hcu' hcl' n hn n' hn' x hx hx'
    have hlF := full_length hu hl hkh (code n)
    have hlF' := full_length hu' hl' hkh (code n')
    -- the k-mer of the edge, from both sides
    obtain ⟨G, hGc, rfl⟩ := (mem_edgesOf hlF hk1).mp hx
    obtain ⟨G', hGc', hxG'⟩ := (mem_edgesOf hlF' hk1).mp hx'
    obtain ⟨cG, lG⟩ := strand_codes_length hGc (full_codes hcu hcl n) hlF
    obtain ⟨cG', lG'⟩ := strand_codes_length hGc' (full_codes hcu' hcl' n') hlF'
    obtain rfl : G = G' := e1_inj hk2 cG cG' lG lG' hxG'
    rcases LORL.same_kmer_cases a.k u l u' l' (code n) (code n') hu hl hu' hl' hkh hcu hcl hcu' hcl'
      (code_lt n) (code_lt n') (packL G) (hGc.imp (congrArg packL) (congrArg packL))
      (hGc'.imp (congrArg packL) (congrArg packL)) with ⟨h1, h2, h3⟩ | ⟨h1, h2⟩
    · have hrow : kv = kv' := LORL.row_eq_of_key hnd hkv hkv' (by rw [e, e', h1, h2])
      exact ⟨hrow, LORL.code_inj_shown kv.2 kv'.2 n n' hn hn' h3⟩
    · -- each key would be strictly smaller than the other
      exfalso
      have c1 := hcanon kv.1 (List.of_mem_zip hkv).1
      have c2 := hcanon kv'.1 (List.of_mem_zip hkv').1
      rw [e, ← h2] at c1
      rw [e', ← h1] at c2
      omega
  unfold allEdges
  rw [List.Nodup, List.pairwise_flatMap]
  constructor
  · intro kv hkv
    obtain ⟨u, l, e, hu, hl, hcu, hcl⟩ := LORL.row_arms W a hk hw hkeys kv hkv
    rw [e, rowGraph_spec' W a.k hk hw u l hu hl hcu hcl]
    simp only
    rw [List.pairwise_flatMap]
    constructor
    · intro n _
      rw [edgesOf_eq a.k u l n (full_length hu hl hkh (code n)) hk1]
      simp only [List.pairwise_cons, List.mem_cons, List.not_mem_nil, or_false, forall_eq, ne_eq,
        List.Pairwise.nil, and_true, false_imp_iff, implies_true]
      intro h
      have := e1_inj (k := a.k) hk2 (full_codes hcu hcl n) (rcCodes_codes (full_codes hcu hcl n))
        (full_length hu hl hkh (code n)) (by rw [rcCodes_length]; exact full_length hu hl hkh (code n)) h
      exact full_ne_rc hu hl (code n) (code_lt n) this
    · have hsn : (shownBases kv.2).Pairwise (· ≠ ·) := by
        unfold shownBases
        exact List.Pairwise.filter _ (by decide)
      refine hsn.imp_of_mem ?_
      intro n n' hn hn' hne x hx y hy hxy
      subst hxy
      exact hne (core kv hkv kv hkv u l u l e e hu hl hu hl hcu hcl hcu hcl n hn n' hn' x hx hy).2
  · have hp : (a.kmers.zip a.variants).Pairwise (fun kv kv' => kv.1 ≠ kv'.1) := by
      have := (LO.zip_fst_sublist a.kmers a.variants).nodup hnd
      rw [List.Nodup, List.pairwise_map] at this
      exact this
    refine hp.imp_of_mem ?_
    intro kv kv' hkv hkv' hne x hx y hy hxy
    subst hxy
    obtain ⟨u, l, e, hu, hl, hcu, hcl⟩ := LORL.row_arms W a hk hw hkeys kv hkv
    obtain ⟨u', l', e', hu', hl', hcu', hcl'⟩ := LORL.row_arms W a hk hw hkeys kv' hkv'
    rw [e, rowGraph_spec' W a.k hk hw u l hu hl hcu hcl] at hx
    rw [e', rowGraph_spec' W a.k hk hw u' l' hu' hl' hcu' hcl'] at hy
    simp only [List.mem_flatMap] at hx hy
    obtain ⟨n, hn, hx⟩ := hx
    obtain ⟨n', hn', hy⟩ := hy
    have := (core kv hkv kv' hkv' u l u' l' e e' hu hl hu' hl' hcu hcl hcu' hcl' n hn n' hn' x hx hy).1
    exact hne (by rw [this])

/-- forward node: the packed `(k-1)`-mer of `s` at `j`, that is `kmerAt (k - 1) s j` -/
def fN (k : Nat) (s : List UInt8) (j : Nat) : Nat := packL (cds (win s j (k - 1)))
/-- reverse node: its reverse complement, `rcKmerAt (k - 1) s j` -/
def rN (k : Nat) (s : List UInt8) (j : Nat) : Nat := packL (rcCodes (cds (win s j (k - 1))))

theorem fwN_eq {W k : Nat} (hW : 2 * k ≤ W) (s : List UInt8) (j : Nat) : fwN W k s j = fN k s j :=
  enc_win W s j (k - 1) (Nat.le_trans (Nat.mul_le_mul_left 2 (Nat.sub_le k 1)) hW)

theorem rvN_eq {W k : Nat} (hW : 2 * k ≤ W) {s : List UInt8} (hb : AllBase s) (j : Nat) :
    rvN W k s j = rN k s j := by
  have hl : 2 * (rcSeq (win s j (k - 1))).length ≤ W := by
    rw [rcSeq_length]
    exact Nat.le_trans (Nat.mul_le_mul_left 2 (Nat.le_trans (win_length_le s j (k - 1)) (Nat.sub_le k 1))) hW
  unfold rvN rN
  rw [enc_eq W _ hl, cds_rcSeq (hb.win _ _)]

theorem fN_inj {k : Nat} {s t : List UInt8} (hs : AllBase s) (ht : AllBase t) {j j' : Nat}
    (hj : j + (k - 1) ≤ s.length) (hj' : j' + (k - 1) ≤ t.length) (e : fN k s j = fN k t j') :
    win s j (k - 1) = win t j' (k - 1) :=
  packL_cds_inj (hs.win _ _) (ht.win _ _) (by rw [win_length hj, win_length hj']) e

theorem fN_congr {k : Nat} {t t' : List UInt8} {j : Nat} (e : win t j (k - 1) = win t' j (k - 1)) :
    fN k t j = fN k t' j := by
  unfold fN
  rw [e]

theorem e1_window {k : Nat} (hk : 1 ≤ k) (s : List UInt8) (j : Nat) :
    e1 k (cds (win s j k)) = (fN k s j, fN k s (j + 1)) := by
  unfold e1 fN cds
  rw [← List.map_take, ← List.map_drop, win_take _ _ _ _ (by omega), win_drop]

theorem fN_lt {k : Nat} (t : List UInt8) {j : Nat} (hj : j + (k - 1) ≤ t.length) : fN k t j < 4 ^ (k - 1) := by
  unfold fN
  have := packL_lt (cds_codes (win t j (k - 1)))
  rwa [cds_length, win_length hj] at this

theorem fN_overlap {k : Nat} {t : List UInt8} {j : Nat} (hk : 2 ≤ k) (hj : j + k ≤ t.length) :
    Overlap (k - 1) (fN k t j) (fN k t (j + 1)) := by
  have := (overlap_take_drop (k - 1) (cds (win t j k)) (cds_codes _) (by rw [cds_length, win_length hj]; omega)).2.2
  have he := e1_window (k := k) (by omega) t j
  unfold e1 at he
  simp only [Prod.mk.injEq] at he
  rw [he.1, he.2] at this
  exact this

theorem e1_window_rc {k : Nat} (hk : 1 ≤ k) {s : List UInt8} {j : Nat} (hj : j + k ≤ s.length) :
    e1 k (rcCodes (cds (win s j k))) = (rN k s (j + 1), rN k s j) := by
  unfold e1 rN
  have hlen : (cds (win s j k)).length = (k - 1) + 1 := by rw [cds_length, win_length hj]; omega
  obtain ⟨r1, r2⟩ := rcCodes_drop_one_take (cds (win s j k)) (k - 1) hlen
  rw [← r1, ← r2]
  unfold cds
  rw [← List.map_take, ← List.map_drop, win_take _ _ _ _ (by omega), win_drop]

theorem mem_edgesOf_window {k : Nat} (hk : 1 ≤ k) {s : List UInt8} {j : Nat} (hj : j + k ≤ s.length)
    (u l : List Nat) (n : UInt8)
    (hc : cds (win s j k) = u ++ [code n] ++ l ∨ rcCodes (cds (win s j k)) = u ++ [code n] ++ l) (x : Nat × Nat) :
    x ∈ edgesOf k u l n ↔ x = (fN k s j, fN k s (j + 1)) ∨ x = (rN k s (j + 1), rN k s j) := by
  have hlen : (u ++ [code n] ++ l).length = k := by
    rcases hc with h | h <;> rw [← h]
    · rw [cds_length, win_length hj]
    · rw [rcCodes_length, cds_length, win_length hj]
  rw [edgesOf_eq k u l n hlen hk]
  rcases hc with h | h <;> rw [← h]
  · rw [e1_window hk, e1_window_rc hk hj]
    simp
  · rw [rcCodes_rcCodes, e1_window hk, e1_window_rc hk hj]
    simp [or_comm]

theorem IsArrOf.mem_allEdges {a : Arr} {k : Nat} {names : List String} {S : List (List UInt8)}
    (ha : IsArrOf a k names S) (hb : ∀ s ∈ S, AllBase s) (hk : ValidK k) {W : Nat} (hw : WidthOk W k)
    (x : Nat × Nat) :
    x ∈ allEdges W a ↔
      ∃ s ∈ S, ∃ j, j + k ≤ s.length ∧ (x = (fN k s j, fN k s (j + 1)) ∨ x = (rN k s (j + 1), rN k s j)) := by
  obtain ⟨hh2, hkh, hkW⟩ := validK_bounds hk hw
  have hkeys := ha.hkeys hb hkh
  have hk1 : 1 ≤ k := by omega
  obtain rfl := ha.hk
  unfold allEdges
  rw [List.mem_flatMap]
  constructor
  · rintro ⟨kv, hkv, hx⟩
    obtain ⟨u, l, e, hu, hl, hcu, hcl⟩ := LORL.row_arms W a hk hw hkeys kv hkv
    rw [e, rowGraph_spec' W _ hk hw u l hu hl hcu hcl] at hx
    simp only [List.mem_flatMap] at hx
    obtain ⟨n, hn, hx⟩ := hx
    obtain ⟨_, s, hs, j, hj, hc⟩ := (ha.mem_shown_row hb hkh kv hkv u l e hu hl hcu hcl n).mp hn
    exact ⟨s, hs, j, hj, (mem_edgesOf_window hk1 hj u l n hc x).mp hx⟩
  · rintro ⟨s, hs, j, hj, hx⟩
    obtain ⟨kv, hkv, u, l, n, hn, hA⟩ := ha.row_of_window hb hkh s hs j hj
    refine ⟨kv, hkv, ?_⟩
    rw [hA.key_eq, rowGraph_spec' W _ hk hw u l hA.ulen hA.llen hA.ucodes hA.lcodes]
    simp only [List.mem_flatMap]
    exact ⟨n, hn, (mem_edgesOf_window hk1 hj u l n hA.strand x).mpr hx⟩

theorem mem_allEdges_fam {a : Arr} {k L : Nat} {names : List String} {S : List (List UInt8)}
    (ha : IsArrOf a k names S) (h : SFam L S) (hk : ValidK k) {W : Nat} (hw : WidthOk W k) (x : Nat × Nat) :
    x ∈ allEdges W a ↔
      ∃ s ∈ S, ∃ j, j + k ≤ L ∧ (x = (fN k s j, fN k s (j + 1)) ∨ x = (rN k s (j + 1), rN k s j)) := by
  rw [ha.mem_allEdges h.base hk hw]
  exact exists_congr fun s => and_congr_right fun hs => by rw [h.len s hs]

theorem rc_eq_iff {w X : List Nat} : rcCodes w = X ↔ w = rcCodes X := by
  constructor
  · intro h; rw [← h, rcCodes_rcCodes]
  · intro h; rw [h, rcCodes_rcCodes]

theorem strand_symm {X Y : List Nat} (h : X = Y ∨ X = rcCodes Y) : Y = X ∨ Y = rcCodes X := by
  rcases h with rfl | rfl
  · exact Or.inl rfl
  · exact Or.inr (rcCodes_rcCodes _).symm

theorem strand_trans {X Y Z : List Nat} (h : X = Y ∨ X = rcCodes Y) (h' : Y = Z ∨ Y = rcCodes Z) :
    X = Z ∨ X = rcCodes Z := by
  rcases h' with rfl | rfl
  · exact h
  · rcases h with rfl | rfl
    · exact Or.inr rfl
    · exact Or.inl (rcCodes_rcCodes _)

theorem strands_iff {w c X : List Nat} (hX : X = c ∨ X = rcCodes c) :
    (w = X ∨ rcCodes w = X) ↔ (w = c ∨ w = rcCodes c) := by
  rcases hX with rfl | rfl
  · rw [rc_eq_iff]
  · rw [rc_eq_iff, rcCodes_rcCodes, or_comm]

theorem IsArrOf.colour {a : Arr} {k : Nat} {names : List String} {S : List (List UInt8)}
    (ha : IsArrOf a k names S) (hb : ∀ s ∈ S, AllBase s) (hk : ValidK k) {W : Nat} (hw : WidthOk W k)
    (s : List UInt8) (hs : s ∈ S) (j : Nat) (hj : j + k ≤ s.length) (F : List Nat)
    (hF : F = cds (win s j k) ∨ F = rcCodes (cds (win s j k))) :
    ∃ Cs : List Nat,
      Assoc.lookup (buildGraph W a).2 (packL F) = some Cs ∧ Cs.Pairwise (· < ·) ∧
      ∀ i, i ∈ Cs ↔ ∃ t, S[i]? = some t ∧ ∃ j', j' + k ≤ t.length ∧
        (cds (win t j' k) = cds (win s j k) ∨ cds (win t j' k) = rcCodes (cds (win s j k))) := by
  obtain ⟨hh2, hkh, hkW⟩ := validK_bounds hk hw
  have hkeys := ha.hkeys hb hkh
  obtain rfl := ha.hk
  have hlenc : (cds (win s j a.k)).length = a.k := by rw [cds_length, win_length hj]
  have hFc : Codes F ∧ F.length = a.k := strand_codes_length hF (cds_codes _) hlenc
  -- the k-mer is a key of the colour map: it is a strand of the k-mer of the row that shows the window
  obtain ⟨kv, hkv, u, l, n, hn, hA⟩ := ha.row_of_window hb hkh s hs j hj
  have hcomp := LORL.colour_complete W a hk hw hkeys kv hkv u l hA.key_eq hA.ulen hA.llen hA.ucodes hA.lcodes n hn
  obtain ⟨Cs, hCs⟩ : ∃ Cs, Assoc.lookup (buildGraph W a).2 (packL F) = some Cs := by
    rcases strand_trans hF (hA.strand.imp id rc_eq_iff.mp) with rfl | rfl
    · exact hcomp.1
    · exact hcomp.2
  -- the entry that is found belongs to a row showing one of the two strands of `F`
  obtain ⟨kv', hkv', u', l', e', hu', hl', hcu', hcl', n', hn', hf', rfl, _, _⟩ :=
    LORL.colour_sound W a hk hw hkeys _ _ hCs
  have hn4 : n' ∈ ([65, 67, 71, 84] : List UInt8) := ((mem_shownBases kv'.2 n').mp hn').1
  have hcF := full_codes hcu' hcl' n'
  have hlF : (u' ++ [code n'] ++ l').length = a.k := full_length hu' hl' hkh (code n')
  have hfull : u' ++ [code n'] ++ l' = cds (win s j a.k) ∨ u' ++ [code n'] ++ l' = rcCodes (cds (win s j a.k)) :=
    strand_trans (strand_symm (hf'.imp (packL_inj hFc.1 hcF (by rw [hFc.2, hlF]))
      (packL_inj hFc.1 (rcCodes_codes hcF) (by rw [hFc.2, rcCodes_length, hlF])))) hF
  refine ⟨_, hCs, samplesOf_pairwise _ _, fun i => ?_⟩
  rw [ha.mem_samplesOf_row hb hkh kv' hkv' u' l' e' hu' hl' hcu' hcl' n' hn4 i]
  exact exists_congr fun t => and_congr_right fun _ => exists_congr fun j' => and_congr_right fun _ =>
    strands_iff hfull

theorem colour_fam {a : Arr} {k L : Nat} {names : List String} {S : List (List UInt8)}
    (ha : IsArrOf a k names S) (h : SFam L S) (hk : ValidK k) {W : Nat} (hw : WidthOk W k)
    (s : List UInt8) (hs : s ∈ S) (j : Nat) (hj : j + k ≤ L) (F : List Nat)
    (hF : F = cds (win s j k) ∨ F = rcCodes (cds (win s j k))) :
    ∃ Cs : List Nat,
      Assoc.lookup (buildGraph W a).2 (packL F) = some Cs ∧ Cs.Pairwise (· < ·) ∧
      ∀ i, i ∈ Cs ↔ ∃ t, S[i]? = some t ∧ ∃ j', j' + k ≤ L ∧
        (cds (win t j' k) = cds (win s j k) ∨ cds (win t j' k) = rcCodes (cds (win s j k))) := by
  obtain ⟨Cs, h1, h2, h3⟩ := ha.colour h.base hk hw s hs j (by rw [h.len s hs]; exact hj) F hF
  refine ⟨Cs, h1, h2, fun i => (h3 i).trans ?_⟩
  exact exists_congr fun t => and_congr_right fun ht => by rw [h.len t (List.mem_of_getElem? ht)]

end SkaModel.LOC
