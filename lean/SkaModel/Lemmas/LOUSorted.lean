/-
`unionSorted` (`BitSet::union_with` on ascending lists of sample indices): members and order, of one
union and of a fold of unions; idempotence, absorption.  Strictly increasing lists with the same members are
equal (`eq_of_sorted_mem`), so equations between unions follow from their members.
-/
import SkaModel.Impl.SkaloUnion
import SkaModel.Lemmas.ListLemmas

namespace SkaModel.LOU

open SkaModel SkaModel.Skalo

abbrev SInc (l : List Nat) : Prop := l.Pairwise (· < ·)

theorem unionSorted_nil_left (ys : List Nat) : unionSorted [] ys = ys := by
  unfold unionSorted; rfl

theorem unionSorted_nil_right (xs : List Nat) : unionSorted xs [] = xs := by
  cases xs with
  | nil => exact unionSorted_nil_left []
  | cons x xs => unfold unionSorted; rfl

theorem unionSorted_cons_cons (x y : Nat) (xs ys : List Nat) :
    unionSorted (x :: xs) (y :: ys) =
      if x < y then x :: unionSorted xs (y :: ys)
      else if y < x then y :: unionSorted (x :: xs) ys
      else x :: unionSorted xs ys := by
  rw [unionSorted]

theorem mem_unionSorted (xs ys : List Nat) (i : Nat) :
    i ∈ unionSorted xs ys ↔ i ∈ xs ∨ i ∈ ys := by
  induction xs, ys using unionSorted.induct with
  | case1 ys => rw [unionSorted_nil_left]; simp
  | case2 x xs => rw [unionSorted_nil_right]; simp
  | case3 x xs y ys h ih =>
    rw [unionSorted_cons_cons, if_pos h, List.mem_cons, ih, List.mem_cons (a := i) (b := x), or_assoc]
  | case4 x xs y ys h1 h2 ih =>
    rw [unionSorted_cons_cons, if_neg h1, if_pos h2, List.mem_cons, ih, List.mem_cons (a := i) (b := y),
      or_left_comm]
  | case5 x xs y ys h1 h2 ih =>
    obtain rfl : x = y := by omega
    rw [unionSorted_cons_cons, if_neg h1, if_neg h2, List.mem_cons, ih, List.mem_cons, List.mem_cons,
      or_or_distrib_left]

theorem lt_of_lt_head {x y : Nat} {ys : List Nat} (h : x < y) (hy : SInc (y :: ys)) : ∀ i ∈ y :: ys, x < i := by
  intro i hi
  rcases List.mem_cons.mp hi with rfl | hi
  · exact h
  · exact Nat.lt_trans h ((List.pairwise_cons.mp hy).1 i hi)

theorem unionSorted_sorted (xs ys : List Nat) (hx : SInc xs) (hy : SInc ys) :
    SInc (unionSorted xs ys) := by
  induction xs, ys using unionSorted.induct with
  | case1 ys => rw [unionSorted_nil_left]; exact hy
  | case2 x xs => rw [unionSorted_nil_right]; exact hx
  | case3 x xs y ys h ih =>
    rw [unionSorted_cons_cons, if_pos h]
    obtain ⟨hx1, hx2⟩ := List.pairwise_cons.mp hx
    refine List.pairwise_cons.mpr ⟨fun i hi => ?_, ih hx2 hy⟩
    rcases (mem_unionSorted _ _ _).mp hi with hi | hi
    · exact hx1 i hi
    · exact lt_of_lt_head h hy i hi
  | case4 x xs y ys h1 h2 ih =>
    rw [unionSorted_cons_cons, if_neg h1, if_pos h2]
    obtain ⟨hy1, hy2⟩ := List.pairwise_cons.mp hy
    refine List.pairwise_cons.mpr ⟨fun i hi => ?_, ih hx hy2⟩
    rcases (mem_unionSorted _ _ _).mp hi with hi | hi
    · exact lt_of_lt_head h2 hx i hi
    · exact hy1 i hi
  | case5 x xs y ys h1 h2 ih =>
    obtain rfl : x = y := by omega
    rw [unionSorted_cons_cons, if_neg h1, if_neg h2]
    obtain ⟨hx1, hx2⟩ := List.pairwise_cons.mp hx
    obtain ⟨hy1, hy2⟩ := List.pairwise_cons.mp hy
    refine List.pairwise_cons.mpr ⟨fun i hi => ?_, ih hx2 hy2⟩
    exact ((mem_unionSorted _ _ _).mp hi).elim (hx1 i) (hy1 i)

theorem foldl_union {β : Type} (v : β → List Nat) (l : List β) : ∀ s, SInc s → (∀ e ∈ l, SInc (v e)) →
    SInc (l.foldl (fun s e => unionSorted s (v e)) s) ∧
    ∀ i, i ∈ l.foldl (fun s e => unionSorted s (v e)) s ↔ i ∈ s ∨ ∃ e ∈ l, i ∈ v e := by
  induction l with
  | nil => intro s hs _; exact ⟨hs, fun i => by simp⟩
  | cons e l ih =>
    intro s hs hl
    obtain ⟨h1, h2⟩ := ih (unionSorted s (v e)) (unionSorted_sorted _ _ hs (hl e List.mem_cons_self))
      (fun e' he' => hl e' (List.mem_cons_of_mem _ he'))
    refine ⟨h1, fun i => ?_⟩
    rw [List.foldl_cons, h2, mem_unionSorted, or_assoc]
    simp only [List.mem_cons, exists_eq_or_imp]

/-- `s.union_with(&s)` changes nothing (any list) -/
theorem unionSorted_self (xs : List Nat) : unionSorted xs xs = xs := by
  induction xs with
  | nil => exact unionSorted_nil_left []
  | cons x xs ih =>
    rw [unionSorted_cons_cons, if_neg (Nat.lt_irrefl x), if_neg (Nat.lt_irrefl x), ih]

theorem unionSorted_absorb (xs ys : List Nat) (hx : SInc xs) (hy : SInc ys) (h : ∀ i ∈ ys, i ∈ xs) :
    unionSorted xs ys = xs := by
  apply eq_of_sorted_mem (unionSorted_sorted _ _ hx hy) hx
  intro i
  rw [mem_unionSorted]
  exact ⟨fun h' => h'.elim id (h i), Or.inl⟩

end SkaModel.LOU
