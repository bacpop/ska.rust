/-
C03: the rows of the joint-build table of a repeat-free family of single-contig
samples, and which of them `align --min-freq 1` (site filter no-const) emits.
-/
import SkaModel.Lemmas.SNP
import SkaModel.Lemmas.SpecRows

namespace SkaModel.SNP

open SkaModel SkaModel.Spec

theorem passes_iff (row : List UInt8) :
    Table.passes row.length false .noConst false row = true ↔
      (∀ b ∈ row, b ≠ gap) ∧ ∃ a ∈ row, ∃ b ∈ row, a ≠ b := by
  unfold Table.passes Table.presentCount Table.sitePasses Table.distinctSyms Table.present
  simp only [Bool.not_false, Bool.true_or, Bool.and_true, ZipFilter.filter_const_true, Bool.and_eq_true,
    decide_eq_true_eq, ge_iff_le]
  rw [Dedup.two_le_eraseDups_iff]
  -- a differing pair makes the row non-empty, so `max 1` is idle; a filter keeps the length iff it keeps all
  refine and_congr_left fun ⟨a, ha, _⟩ => ?_
  rw [Nat.max_le]
  constructor
  · intro h b hb
    simpa using List.length_filter_eq_length_iff.1 (Nat.le_antisymm (List.length_filter_le _ row) h.2) b hb
  · intro h
    rw [List.length_filter_eq_length_iff.2 fun b hb => by simpa using h b hb]
    exact ⟨List.length_pos_of_mem ha, Nat.le_refl _⟩

def rowOf (k : Nat) (rc : Bool) (S : List (Array UInt8)) (key : Nat) : List UInt8 :=
  S.map fun s => cellOfObs (observations k rc [s]) key

abbrev keysOf (k : Nat) (rc : Bool) (S : List (Array UInt8)) : List Nat :=
  allKeys k rc (S.map fun s => [s])

theorem cellRow_single (k : Nat) (rc : Bool) (S : List (Array UInt8)) (key : Nat) :
    cellRow k rc (S.map fun s => [s]) key = rowOf k rc S key := by
  simp only [cellRow, rowOf, cellFor, List.map_map, Function.comp_def]

theorem specTable_rows_single (k : Nat) (rc : Bool) (names : List String) (S : List (Array UInt8)) :
    (specTable k rc names (S.map fun s => [s])).rows
      = (keysOf k rc S).map fun key => (key, rowOf k rc S key) := by
  rw [specTable_rows]
  simp only [cellRow_single]

theorem mem_keysOf {L : Nat} {S : List (Array UInt8)} (hF : Family L S) (k : Nat) (rc : Bool)
    (key : Nat) :
    key ∈ keysOf k rc S ↔ ∃ s ∈ S, ∃ j, j + k ≤ L ∧ (obs k rc s j).1 = key := by
  rw [mem_allKeys_obs]
  constructor
  · rintro ⟨recs, hrecs, o, ho, rfl⟩
    obtain ⟨s, hs, rfl⟩ := List.mem_map.mp hrecs
    obtain ⟨j, hj, rfl⟩ := (mem_observations_single k rc s o).mp ho
    exact ⟨s, hs, j, (mem_windows_family hF hs j).mp hj, rfl⟩
  · rintro ⟨s, hs, j, hj, rfl⟩
    exact ⟨[s], List.mem_map.mpr ⟨s, hs, rfl⟩, _,
      (mem_observations_single k rc s _).mpr ⟨j, (mem_windows_family hF hs j).mpr hj, rfl⟩, rfl⟩

theorem rowOf_length (k : Nat) (rc : Bool) (S : List (Array UInt8)) (key : Nat) :
    (rowOf k rc S key).length = S.length := by
  simp [rowOf]

theorem alignColumns_eq (k : Nat) (rc : Bool) (names : List String) (S : List (Array UInt8)) :
    (specTable k rc names (S.map fun s => [s])).alignColumns S.length false .noConst false false
      = ((keysOf k rc S).filter fun key =>
          Table.passes S.length false .noConst false (rowOf k rc S key)).map (rowOf k rc S) := by
  rw [specTable_alignColumns]
  simp only [cellRow_single, Table.maskRow, Bool.false_eq_true, if_false]

def keyAt (k : Nat) (rc : Bool) (S : List (Array UInt8)) (j : Nat) : Nat :=
  (obs k rc (S.headD #[]) j).1

theorem varSite_false_near {k L : Nat} {S : List (Array UInt8)} (hI : Isolated k L S) {p : Nat}
    (hp : p ∈ varSites L S) {q : Nat} (hne : q ≠ p) (h1 : p ≤ q + (k - 1) / 2)
    (h2 : q ≤ p + (k - 1) / 2) : varSite S q = false := by
  obtain ⟨_, hL, h3⟩ := hI p hp
  cases hv : varSite S q with
  | false => rfl
  | true =>
    rcases h3 q (mem_varSites.mpr ⟨Nat.lt_of_le_of_lt h2 hL, hv⟩) hne with h | h
    · exact absurd h2 (Nat.not_le.mpr h)
    · exact absurd h1 (Nat.not_le.mpr h)

theorem odd_split {k : Nat} (hk : k % 2 = 1) : (k - 1) / 2 + (k - 1) / 2 + 1 = k := by
  -- `k = 2 * (k / 2) + 1`; spelt out because `omega` is slow on `/` and `%`
  have h := Nat.div_add_mod k 2
  rw [hk] at h
  rw [← h, Nat.add_sub_cancel, Nat.mul_div_cancel_left _ (Nat.succ_pos 1), Nat.two_mul]

theorem half_lt {k : Nat} (hk : k % 2 = 1) : (k - 1) / 2 < k :=
  Nat.lt_of_lt_of_eq (Nat.lt_succ_of_le (Nat.le_add_left _ _)) (odd_split hk)

/-- an isolated variable site is the middle of a window that fits; the lemmas below speak of the
window start `j`, so that `p - (k - 1) / 2` is read here and nowhere else -/
theorem Isolated.centre {k L : Nat} {S : List (Array UInt8)} (hk : k % 2 = 1)
    (hI : Isolated k L S) {p : Nat} (hp : p ∈ varSites L S) :
    ∃ j, p = j + (k - 1) / 2 ∧ j + k ≤ L := by
  obtain ⟨h1, h2, _⟩ := hI p hp
  obtain ⟨j, rfl⟩ := Nat.exists_eq_add_of_le' h1
  refine ⟨j, rfl, ?_⟩
  rw [← odd_split hk, ← Nat.add_assoc, ← Nat.add_assoc]
  exact h2

/-- positions of the two arms of the window at `j` (half-width `h`): not the middle, within `h` of it -/
theorem arm_positions {j h t : Nat} (ht : t < h) :
    (j + t ≠ j + h ∧ j + h ≤ j + t + h ∧ j + t ≤ j + h + h) ∧
    (j + h + 1 + t ≠ j + h ∧ j + h ≤ j + h + 1 + t + h ∧ j + h + 1 + t ≤ j + h + h) := by
  omega

theorem arms_agree {k L : Nat} {S : List (Array UInt8)}
    (hI : Isolated k L S) {j : Nat} (hp : j + (k - 1) / 2 ∈ varSites L S) {s s' : Array UInt8}
    (hs : s ∈ S) (hs' : s' ∈ S) :
    armsAt k s j = armsAt k s' j := by
  apply armsAt_congr
  · intro t ht
    obtain ⟨⟨a, b, c⟩, _⟩ := arm_positions (j := j) ht
    exact varSite_false (varSite_false_near hI hp a b c) hs hs'
  · intro t ht
    obtain ⟨_, a, b, c⟩ := arm_positions (j := j) ht
    exact varSite_false (varSite_false_near hI hp a b c) hs hs'

theorem obs_ne_of_mid_ne {L : Nat} {S : List (Array UInt8)} (hF : Family L S) {k : Nat}
    {rc : Bool} {s s' : Array UInt8} (hs : s ∈ S) (hs' : s' ∈ S) {j : Nat}
    (hj : j + (k - 1) / 2 < L) (ha : armsAt k s j = armsAt k s' j) :
    (obs k rc s j).2.1 = (obs k rc s' j).2.1 ↔
      s.getD (j + (k - 1) / 2) 0 = s'.getD (j + (k - 1) / 2) 0 := by
  rw [(obs_of_arms_eq (rc := rc) ha).2.2]
  unfold midAt
  constructor
  · exact code_inj (hF.acgt s hs _ hj) (hF.acgt s' hs' _ hj)
  · intro e; rw [e]

theorem passes_rowOf_iff (k : Nat) (rc : Bool) (S : List (Array UInt8)) (key : Nat) :
    Table.passes S.length false .noConst false (rowOf k rc S key) = true ↔
      (∀ s ∈ S, cellOfObs (observations k rc [s]) key ≠ gap) ∧
      ∃ s ∈ S, ∃ s' ∈ S,
        cellOfObs (observations k rc [s]) key ≠ cellOfObs (observations k rc [s']) key := by
  have h := passes_iff (rowOf k rc S key)
  rw [rowOf_length] at h
  rw [h]
  constructor
  · rintro ⟨hp, a, ha, b, hb, hne⟩
    obtain ⟨s, hs, rfl⟩ := List.mem_map.mp ha
    obtain ⟨s', hs', rfl⟩ := List.mem_map.mp hb
    exact ⟨fun x hx => hp _ (List.mem_map.mpr ⟨x, hx, rfl⟩), s, hs, s', hs', hne⟩
  · rintro ⟨hp, s, hs, s', hs', hne⟩
    refine ⟨?_, _, List.mem_map.mpr ⟨s, hs, rfl⟩, _, List.mem_map.mpr ⟨s', hs', rfl⟩, hne⟩
    intro b hb
    obtain ⟨x, hx, rfl⟩ := List.mem_map.mp hb
    exact hp x hx

theorem row_at_site {L : Nat} {S : List (Array UInt8)} (hF : Family L S) {k : Nat} {rc : Bool}
    (hk : k % 2 = 1) (hR : RepeatFreeWeak k rc L S) (hI : Isolated k L S)
    {p : Nat} (hp : p ∈ varSites L S) :
    keyAt k rc S (p - (k - 1) / 2) ∈ keysOf k rc S ∧
    rowOf k rc S (keyAt k rc S (p - (k - 1) / 2))
      = S.map (fun s => decodeBase (obs k rc s (p - (k - 1) / 2)).2.1) ∧
    Table.passes S.length false .noConst false
      (rowOf k rc S (keyAt k rc S (p - (k - 1) / 2))) = true := by
  obtain ⟨j, rfl, hw⟩ := hI.centre hk hp
  rw [Nat.add_sub_cancel]
  obtain ⟨s, hs, s', hs', hne⟩ := varSite_true.mp (mem_varSites.mp hp).2
  have hh := headD_mem #[] hs
  have hcell : ∀ x ∈ S, cellOfObs (observations k rc [x]) (keyAt k rc S j)
      = decodeBase (obs k rc x j).2.1 := by
    intro x hx
    rw [show keyAt k rc S j = (obs k rc x j).1 from
      (obs_of_arms_eq (arms_agree hI hp hh hx)).1, cell_at hF hR hx hw]
  refine ⟨(mem_keysOf hF k rc _).mpr ⟨_, hh, _, hw, rfl⟩, List.map_congr_left hcell, ?_⟩
  rw [passes_rowOf_iff]
  refine ⟨fun x hx => ?_, s, hs, s', hs', ?_⟩
  · rw [hcell x hx]
    exact decodeBase_ne_gap _
  · rw [hcell s hs, hcell s' hs']
    intro e
    have e' := decodeBase_inj (obs_base_lt k rc s _) (obs_base_lt k rc s' _) e
    rw [obs_ne_of_mid_ne hF hs hs' (mem_varSites.mp hp).1 (arms_agree hI hp hs hs')] at e'
    exact hne e'

theorem site_of_passing_row {L : Nat} {S : List (Array UInt8)} (hF : Family L S) {k : Nat}
    {rc : Bool} (hk : k % 2 = 1) (hR : RepeatFree k rc L S) {key : Nat}
    (hpass : Table.passes S.length false .noConst false (rowOf k rc S key) = true) :
    ∃ p ∈ varSites L S, (k - 1) / 2 ≤ p ∧ keyAt k rc S (p - (k - 1) / 2) = key := by
  have hW := hR.weak
  rw [passes_rowOf_iff] at hpass
  obtain ⟨hpres, s, hs, s', hs', hne⟩ := hpass
  have hh := headD_mem #[] hs
  -- every sample has the key somewhere; by repeat-freeness, all at the same window
  obtain ⟨j, hj, ej⟩ := cell_present hF hs (hpres s hs)
  obtain ⟨j', hj', ej'⟩ := cell_present hF hs' (hpres s' hs')
  obtain ⟨j0, hj0, ej0⟩ := cell_present hF hh (hpres _ hh)
  obtain ⟨e1, harms⟩ := hR.1 s hs s' hs' j j' hj hj' (ej.trans ej'.symm)
  subst e1
  obtain ⟨e0, _⟩ := hR.1 _ hh s hs j0 j hj0 hj (ej0.trans ej.symm)
  subst e0
  have hmid : j0 + (k - 1) / 2 < L := Nat.lt_of_lt_of_le (Nat.add_lt_add_left (half_lt hk) j0) hj0
  refine ⟨j0 + (k - 1) / 2, mem_varSites.mpr ⟨hmid, ?_⟩, Nat.le_add_left _ _, ?_⟩
  · rw [varSite_true]
    refine ⟨s, hs, s', hs', fun e => hne ?_⟩
    rw [← obs_ne_of_mid_ne (rc := rc) hF hs hs' hmid harms] at e
    have c1 := cell_at hF hW hs hj
    have c2 := cell_at hF hW hs' hj'
    rw [ej] at c1
    rw [ej'] at c2
    rw [c1, c2, e]
  · rw [Nat.add_sub_cancel]
    exact ej0

theorem keyAt_inj {L : Nat} {S : List (Array UInt8)} {k : Nat} {rc : Bool}
    (hk : k % 2 = 1) (hR : RepeatFreeWeak k rc L S) (hI : Isolated k L S)
    {p q : Nat} (hp : p ∈ varSites L S) (hq : q ∈ varSites L S)
    (e : keyAt k rc S (p - (k - 1) / 2) = keyAt k rc S (q - (k - 1) / 2)) : p = q := by
  obtain ⟨s, hs, _⟩ := varSite_true.mp (mem_varSites.mp hp).2
  have hh := headD_mem #[] hs
  obtain ⟨j, rfl, hj⟩ := hI.centre hk hp
  obtain ⟨j', rfl, hj'⟩ := hI.centre hk hq
  rw [Nat.add_sub_cancel, Nat.add_sub_cancel] at e
  rw [hR.1 _ hh _ hh j j' hj hj' e]

theorem passing_keys_perm {L : Nat} {S : List (Array UInt8)} (hF : Family L S) {k : Nat}
    {rc : Bool} (hk : k % 2 = 1) (hR : RepeatFree k rc L S) (hI : Isolated k L S) :
    ((keysOf k rc S).filter fun key =>
        Table.passes S.length false .noConst false (rowOf k rc S key)).Perm
      ((varSites L S).map fun p => keyAt k rc S (p - (k - 1) / 2)) := by
  have hW := hR.weak
  rw [List.perm_ext_iff_of_nodup ((allKeys_nodup k rc _).filter _)]
  · intro key
    rw [List.mem_filter, List.mem_map]
    constructor
    · rintro ⟨_, hpass⟩
      obtain ⟨p, hp, _, e⟩ := site_of_passing_row hF hk hR hpass
      exact ⟨p, hp, e⟩
    · rintro ⟨p, hp, rfl⟩
      obtain ⟨h1, _, h3⟩ := row_at_site hF hk hW hI hp
      exact ⟨h1, h3⟩
  · unfold List.Nodup
    rw [List.pairwise_map]
    apply List.Pairwise.imp_of_mem _ (varSites_nodup L S)
    intro p q hp hq hne e
    exact hne (keyAt_inj hk hW hI hp hq e)

end SkaModel.SNP
