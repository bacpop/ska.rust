/-
`ska lo`, which row colours a k-mer: two (row, base) pairs that produce the same k-mer have equal or
reverse-complementary full k-mers (`full_cases`), so equal arms and bases or keys that are each other's
reverse complement (`same_kmer_cases`).  `T17_colour_row_unique` and `T17_colour_exact` in
`SkaModel/Props/C17Real.lean` read the consequences for distinct canonical keys off this.
-/
import SkaModel.Lemmas.LORealNoPanic

namespace SkaModel.LORL

open SkaModel SkaModel.Skalo SkaModel.Spec SkaModel.Props.C16 SkaModel.Props.C17G SkaModel.LOG

/-- the reverse complement of a packed split k-mer (both arms reversed and complemented, swapped) -/
def rcKey (k key : Nat) : Nat := packL (rcCodes (digs (k - 1) key))

theorem digs_packL (n : Nat) (cs : List Nat) (hc : Codes cs) (hl : cs.length = n) :
    digs n (packL cs) = cs := by
  apply packL_inj (digs_codes _ _) hc (by rw [digs_length, hl])
  rw [packL_digs, Nat.mod_eq_of_lt]
  rw [← hl]
  exact packL_lt hc

theorem rcKey_packL (k : Nat) (cs : List Nat) (hc : Codes cs) (hlen : cs.length = k - 1) :
    rcKey k (packL cs) = packL (rcCodes cs) := by
  unfold rcKey
  rw [digs_packL (k - 1) cs hc hlen]

theorem rcKey_arms (k : Nat) (u l : List Nat) (hcu : Codes u) (hcl : Codes l)
    (hlen : (u ++ l).length = k - 1) :
    rcKey k (packL (u ++ l)) = packL (rcCodes l ++ rcCodes u) := by
  rw [rcKey_packL k (u ++ l) (Codes.append hcu hcl) hlen, rcCodes_append]

theorem split_full {u l u' l' : List Nat} {c c' : Nat} (hl : u.length = u'.length)
    (h : u ++ [c] ++ l = u' ++ [c'] ++ l') : u = u' ∧ c = c' ∧ l = l' := by
  rw [List.append_assoc, List.append_assoc] at h
  obtain ⟨h1, h2⟩ := List.append_inj h hl
  simp only [List.cons_append, List.nil_append, List.cons.injEq] at h2
  exact ⟨h1, h2.1, h2.2⟩

theorem row_eq_of_key {a : Arr} (hnd : a.kmers.Nodup) {kv kv' : Nat × List UInt8}
    (h : kv ∈ a.kmers.zip a.variants) (h' : kv' ∈ a.kmers.zip a.variants) (e : kv.1 = kv'.1) : kv = kv' :=
  eq_of_nodup_map (·.1) ((LO.zip_fst_sublist a.kmers a.variants).nodup hnd) h h' e

theorem full_cases (k : Nat) (u l u' l' : List Nat) (c c' : Nat)
    (hu : u.length = halfK k) (hl : l.length = halfK k) (hu' : u'.length = halfK k) (hl' : l'.length = halfK k)
    (hcu : Codes u) (hcl : Codes l) (hcu' : Codes u') (hcl' : Codes l') (hc : c < 4) (hc' : c' < 4)
    (f : Nat)
    (hf : f = packL (u ++ [c] ++ l) ∨ f = packL (rcCodes (u ++ [c] ++ l)))
    (hf' : f = packL (u' ++ [c'] ++ l') ∨ f = packL (rcCodes (u' ++ [c'] ++ l'))) :
    u ++ [c] ++ l = u' ++ [c'] ++ l' ∨ u ++ [c] ++ l = rcCodes (u' ++ [c'] ++ l') := by
  have hF : Codes (u ++ [c] ++ l) := Codes.append (Codes.append hcu (Codes.cons hc Codes.nil)) hcl
  have hF' : Codes (u' ++ [c'] ++ l') := Codes.append (Codes.append hcu' (Codes.cons hc' Codes.nil)) hcl'
  have hlen : (u ++ [c] ++ l).length = (u' ++ [c'] ++ l').length := by simp [hu, hl, hu', hl']
  rcases hf with hf | hf <;> rcases hf' with hf' | hf'
  · exact Or.inl (packL_inj hF hF' hlen (hf.symm.trans hf'))
  · exact Or.inr (packL_inj hF (rcCodes_codes hF') (by rw [rcCodes_length]; exact hlen)
      (hf.symm.trans hf'))
  · have := packL_inj (rcCodes_codes hF) hF' (by rw [rcCodes_length]; exact hlen) (hf.symm.trans hf')
    right
    rw [← this, rcCodes_rcCodes]
  · have := packL_inj (rcCodes_codes hF) (rcCodes_codes hF')
      (by rw [rcCodes_length, rcCodes_length]; exact hlen) (hf.symm.trans hf')
    left
    rw [← rcCodes_rcCodes (u ++ [c] ++ l), this, rcCodes_rcCodes]

theorem same_kmer_cases (k : Nat) (u l u' l' : List Nat) (c c' : Nat)
    (hu : u.length = halfK k) (hl : l.length = halfK k) (hu' : u'.length = halfK k) (hl' : l'.length = halfK k)
    (hkh : k = 2 * halfK k + 1)
    (hcu : Codes u) (hcl : Codes l) (hcu' : Codes u') (hcl' : Codes l') (hc : c < 4) (hc' : c' < 4)
    (f : Nat)
    (hf : f = packL (u ++ [c] ++ l) ∨ f = packL (rcCodes (u ++ [c] ++ l)))
    (hf' : f = packL (u' ++ [c'] ++ l') ∨ f = packL (rcCodes (u' ++ [c'] ++ l'))) :
    (u = u' ∧ l = l' ∧ c = c') ∨
    (packL (u ++ l) = rcKey k (packL (u' ++ l')) ∧ packL (u' ++ l') = rcKey k (packL (u ++ l))) := by
  rcases full_cases k u l u' l' c c' hu hl hu' hl' hcu hcl hcu' hcl' hc hc' f hf hf' with e | e
  · obtain ⟨h1, h2, h3⟩ := split_full (by rw [hu, hu']) e
    exact Or.inl ⟨h1, h3, h2⟩
  · rw [rcCodes_append, rcCodes_append, ← List.append_assoc] at e
    have e' : rcCodes [c'] = [c' ^^^ 2] := rfl
    rw [e'] at e
    obtain ⟨h1, _, h3⟩ := split_full (by rw [hu, rcCodes_length, hl']) e
    have hlen1 : (u ++ l).length = k - 1 := LOC.arms_length hu hl hkh
    have hlen2 : (u' ++ l').length = k - 1 := LOC.arms_length hu' hl' hkh
    rw [rcKey_arms k u' l' hcu' hcl' hlen2, rcKey_arms k u l hcu hcl hlen1, h1, h3, rcCodes_rcCodes,
      rcCodes_rcCodes]
    exact Or.inr ⟨rfl, rfl⟩

theorem code_inj_shown (cells cells' : List UInt8) (n n' : UInt8) (hn : n ∈ shownBases cells)
    (hn' : n' ∈ shownBases cells') (h : code n = code n') : n = n' := by
  have h1 := ((mem_shownBases cells n).mp hn).1
  have h2 := ((mem_shownBases cells' n').mp hn').1
  have key : ∀ n ∈ ([65, 67, 71, 84] : List UInt8), ∀ n' ∈ ([65, 67, 71, 84] : List UInt8),
      code n = code n' → n = n' := by decide
  exact key n h1 n' h2 h

end SkaModel.LORL
