/-
C12 helper: from the filter run to the dictionary. An abstract observation stream
`(hash, kmer, base, palin)` is folded exactly as `addReadState` does; `addRead` and
`buildReads` are shown to be this fold over the quality-passing iterator states.
-/
import SkaModel.Lemmas.KFRun

namespace SkaModel.KF

open SkaModel SkaModel.KmerFilter

structure Obs where
  hash : Nat
  kmer : Nat
  base : Nat
  palin : Bool
  deriving DecidableEq, Repr

/-- adding a passed observation to the dictionary (`none` = the palindrome `panic!`) -/
def addObs (d : Assoc Nat UInt8) (o : Obs) : Option (Assoc Nat UInt8) :=
  if o.palin then addPalindromeToDict d o.kmer o.base else some (addToDict d o.kmer o.base)

def stepObs (st : Assoc Nat UInt8 × KmerFilter) (o : Obs) : Option (Assoc Nat UInt8 × KmerFilter) :=
  if (st.2.filter o.hash).2 = true then
    (addObs st.1 o).map (fun d' => (d', (st.2.filter o.hash).1))
  else some (st.1, (st.2.filter o.hash).1)

def runObs (st : Assoc Nat UInt8 × KmerFilter) (os : List Obs) : Option (Assoc Nat UInt8 × KmerFilter) :=
  os.foldlM stepObs st

theorem runObs_eq (os : List Obs) (d : Assoc Nat UInt8) (f : KmerFilter) :
    runObs (d, f) os =
      ((kept os (runFilter f (os.map (·.hash))).2).foldlM addObs d).map
        (fun d' => (d', (runFilter f (os.map (·.hash))).1)) := by
  induction os generalizing d f with
  | nil => simp [runObs, kept]
  | cons o os ih =>
    simp only [runObs, List.foldlM_cons, List.map_cons, runFilter_cons, kept] at ih ⊢
    unfold stepObs
    cases hp : (f.filter o.hash).2
    · simp only [Bool.false_eq_true, ↓reduceIte, Option.bind_eq_bind, Option.bind_some]
      exact ih d (f.filter o.hash).1
    · simp only [↓reduceIte, Option.bind_eq_bind, List.foldlM_cons]
      cases addObs d o with
      | none => simp
      | some d' =>
        simp only [Option.map_some, Option.bind_some]
        exact ih d' (f.filter o.hash).1

def obsOfState (c : SKConf) (s : SKState) : Obs :=
  { hash := c.getHash s, kmer := (c.currKmer s).1, base := (c.currKmer s).2.1,
    palin := c.selfPalindrome s }

theorem addReadState_eq (c : SKConf) (st : Assoc Nat UInt8 × KmerFilter) (s : SKState) :
    addReadState c st s =
      if c.middleBaseQual s = true then stepObs st (obsOfState c s) else some st := by
  obtain ⟨d, f⟩ := st
  unfold addReadState stepObs obsOfState addObs
  simp only
  by_cases hq : c.middleBaseQual s = true
  · rw [if_pos hq, if_pos hq]
    -- `addReadState` matches on the pair `filter` returns, `stepObs` projects it
    rcases f.filter (c.getHash s) with ⟨f', pass⟩
    cases pass
    · rfl
    · cases c.selfPalindrome s <;> rfl
  · rw [if_neg hq, if_neg hq]

def obsOfStates (c : SKConf) (ss : List SKState) : List Obs :=
  (ss.filter (fun s => c.middleBaseQual s)).map (obsOfState c)

theorem foldlM_addReadState (c : SKConf) (ss : List SKState) (st : Assoc Nat UInt8 × KmerFilter) :
    ss.foldlM (addReadState c) st = runObs st (obsOfStates c ss) := by
  rw [runObs, obsOfStates, List.foldlM_map, List.foldlM_filter]
  exact congrArg (fun g => List.foldlM g st ss)
    (funext fun st => funext fun s => addReadState_eq c st s)

/-- the iterator configuration `addRead` builds for a read -/
def readConf (W k : Nat) (rc : Bool) (minQual : Nat) (qf : QualFilter) (r : Read) : SKConf :=
  { W := W, k := k, rc := rc, seq := r.seq, qual := some r.qual, minQual := minQual, qf := qf,
    isReads := true }

def readObs (W k : Nat) (rc : Bool) (minQual : Nat) (qf : QualFilter) (r : Read) : List Obs :=
  obsOfStates (readConf W k rc minQual qf r) (readConf W k rc minQual qf r).states

theorem addRead_eq (W k : Nat) (rc : Bool) (minQual : Nat) (qf : QualFilter)
    (st : Assoc Nat UInt8 × KmerFilter) (r : Read) :
    addRead W k rc minQual qf st r = runObs st (readObs W k rc minQual qf r) := by
  unfold addRead readObs
  exact foldlM_addReadState _ _ st

theorem runObs_append (st : Assoc Nat UInt8 × KmerFilter) (as bs : List Obs) :
    runObs st (as ++ bs) = (runObs st as).bind (fun st' => runObs st' bs) := by
  unfold runObs
  rw [List.foldlM_append]
  rfl

theorem foldlM_addRead (W k : Nat) (rc : Bool) (minQual : Nat) (qf : QualFilter)
    (rs : List Read) (st : Assoc Nat UInt8 × KmerFilter) :
    rs.foldlM (addRead W k rc minQual qf) st =
      runObs st (rs.flatMap (readObs W k rc minQual qf)) := by
  induction rs generalizing st with
  | nil => simp [runObs]
  | cons r rs ih =>
    simp only [List.foldlM_cons, List.flatMap_cons, runObs_append, addRead_eq]
    cases runObs st (readObs W k rc minQual qf r) with
    | none => rfl
    | some st' =>
      simp only [Option.bind_eq_bind, Option.bind_some]
      exact ih st'

theorem buildReads_eq (W k : Nat) (rc : Bool) (minCount minQual : Nat) (qf : QualFilter)
    (file1 file2 : List Read) :
    buildReads W k rc minCount minQual qf file1 file2 =
      match runObs ([], { minCount := minCount })
          ((file1 ++ file2).flatMap (readObs W k rc minQual qf)) with
      | none => .panicked
      | some ([], _) => .noValid
      | some (d, _) => .dict (sortByKey (·.1) d) := by
  unfold buildReads
  rw [foldlM_addRead]
  rfl

/-- the hash identifies exactly the classes `cls` on the observed stream -/
def HashFaithful {γ : Type} (cls : Obs → γ) (os : List Obs) : Prop :=
  ∀ a ∈ os, ∀ b ∈ os, a.hash = b.hash ↔ cls a = cls b

/-- the strand-independent identity of a full k-mer used by `Spec.kmerClass`: split k-mer
and middle base, the two middle bases of a self-reverse-complement arm pair identified -/
def obsClass (o : Obs) : Nat × Nat :=
  (o.kmer, if o.palin then min o.base (o.base ^^^ 2) else o.base)

end SkaModel.KF
