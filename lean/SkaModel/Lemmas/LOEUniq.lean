/-
`dalignedSB` by the checker `pairsB` of `LOCUniq.lean`, for the evaluation of `dplantedB` on an example family.
-/
import SkaModel.Lemmas.LOEDel
import SkaModel.Lemmas.LOCUniq

namespace SkaModel.LOE

open SkaModel.LOC

theorem dalignedSB_eq (m : Nat) (F : List UInt8) (B : List (Nat × Nat)) (C : List (List Bool)) :
    dalignedSB m F B C =
      pairsB (colWindows m F.length B C.eraseDups) (·.map (getF F)) (fun a b => canonW F a == canonW F b) :=
  (pairsB_eq (fun x => by simp [colWindows]) _ _).symm

end SkaModel.LOE
