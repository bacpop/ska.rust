/-
Windows of the reverse complement of a record: the window at `j` of `r` is the
window at `n - k - j` of `revCompSeq r`, with the arms reverse-complemented and
the middle base complemented, so it contributes the same (key, mask).

A position and its mirror image are tied by an equation (`p + q + 1 = r.size`,
`j' + (j + k) = r.size`), never by a subtraction.
-/
import SkaModel.Lemmas.Transforms

namespace SkaModel

open SkaModel.Spec

theorem code_revCompSeq_getD {r : Array UInt8} (hd : AllDna r) {p q : Nat}
    (h : p + q + 1 = r.size) (hv : validBase (r.getD q 0) = true) :
    code ((revCompSeq r).getD p 0) = code (r.getD q 0) ^^^ 2 := by
  rw [revCompSeq_getD_add r h]
  exact code_compByte _ (hd q (h ▸ Nat.lt_succ_of_le (Nat.le_add_left q p))) hv

theorem codesAt_revCompSeq {r : Array UInt8} (hd : AllDna r) {s s' m : Nat}
    (h : s + (s' + m) = r.size) (hv : ∀ i, i < m → validBase (r.getD (s' + i) 0) = true) :
    codesAt (revCompSeq r) s m = rcCodes (codesAt r s' m) := by
  induction m generalizing s with
  | zero => rfl
  | succ m ih =>
    -- the first base of the run in the reverse complement mirrors the last base of the run in `r`
    rw [codesAt_succ_cons, codesAt_succ_snoc, rcCodes_snoc,
      ih ((Nat.add_right_comm s 1 _).trans h) (fun i hi => hv i (Nat.lt_succ_of_lt hi)),
      code_revCompSeq_getD hd (q := s' + m) h (hv m (Nat.lt_succ_self m))]

theorem mem_windows_revCompSeq {k : Nat} {r : Array UInt8} {j j' : Nat} (hj : j' + (j + k) = r.size)
    (hw : j ∈ windows k r) : j' ∈ windows k (revCompSeq r) := by
  have hv := ((mem_windows k r j).mp hw).2
  rw [mem_windows, revCompSeq_size]
  refine ⟨hj ▸ Nat.add_le_add_left (Nat.le_add_left k j) j', fun t ht => ?_⟩
  obtain ⟨t', rfl⟩ : ∃ t', t + 1 + t' = k := Nat.le.dest ht
  rw [revCompSeq_getD_add r (q := j + t') (by omega), validBase_compByte]
  exact hv t' (Nat.lt_add_of_pos_left (Nat.succ_pos t))

theorem codesAt_window (h : Nat) (r : Array UInt8) (j : Nat) :
    codesAt r j (2 * h + 1)
      = codesAt r j h ++ code (r.getD (j + h) 0) :: codesAt r (j + h + 1) h := by
  rw [Nat.two_mul, Nat.add_assoc, ← codesAt_succ_cons]
  simp only [codesAt, List.range_add, List.map_append, List.map_map, Nat.add_assoc]
  rfl

/-- the mirrored window is the reverse complement of the window as a whole; arms and middle base
are read off the two sides -/
theorem window_revCompSeq (h : Nat) {r : Array UInt8} (hd : AllDna r) {j j' : Nat}
    (hj : j' + (j + (2 * h + 1)) = r.size) (hw : j ∈ windows (2 * h + 1) r) :
    armsAt (2 * h + 1) (revCompSeq r) j' = rcCodes (armsAt (2 * h + 1) r j) ∧
      midAt (2 * h + 1) (revCompSeq r) j' = midAt (2 * h + 1) r j ^^^ 2 := by
  have e := codesAt_revCompSeq hd hj ((mem_windows _ r j).mp hw).2
  rw [codesAt_window, codesAt_window, rcCodes_append, rcCodes_cons, List.append_assoc] at e
  obtain ⟨e1, e2⟩ := List.append_inj e (by rw [codesAt_length, rcCodes_length, codesAt_length])
  obtain ⟨e3, e4⟩ := List.cons.inj e2
  rw [armsAt_odd, armsAt_odd, midAt_odd, midAt_odd, e1, e4, e3, rcCodes_append]
  exact ⟨rfl, rfl⟩

/-- (key, mask) as a function of the packed arms `f`, their reverse complement `g` and the
middle base, both strands in use -/
def pairOf (f g mid : Nat) : Nat × Nat :=
  let b := if f > g then mid ^^^ 2 else mid
  (if f > g then g else f, if f == g then (1 <<< b) ||| (1 <<< (b ^^^ 2)) else 1 <<< b)

theorem obs_pair_eq (k : Nat) (r : Array UInt8) (j : Nat) :
    ((obs k true r j).1, obsMask k true r j)
      = pairOf (packL (armsAt k r j)) (packL (rcCodes (armsAt k r j))) (midAt k r j) := by
  unfold obsMask isPalin obs pairOf
  simp only [Bool.true_and]
  by_cases h : packL (armsAt k r j) > packL (rcCodes (armsAt k r j))
  · simp [h]
  · simp [h]

theorem pairOf_swap (f g mid : Nat) : pairOf g f (mid ^^^ 2) = pairOf f g mid := by
  unfold pairOf
  rcases Nat.lt_trichotomy f g with h | rfl | h
  · simp only [gt_iff_lt, h, Nat.lt_asymm h, if_true, if_false, beq_iff_eq, Nat.ne_of_lt h,
      Nat.ne_of_gt h, xor2_xor2]
  · simp only [gt_iff_lt, Nat.lt_irrefl, if_false, beq_self_eq_true, if_true, xor2_xor2]
    rw [Nat.or_comm]
  · simp only [gt_iff_lt, h, Nat.lt_asymm h, if_true, if_false, beq_iff_eq, Nat.ne_of_lt h,
      Nat.ne_of_gt h]

theorem observations_revCompSeq_sub (h : Nat) {r : Array UInt8} (hd : AllDna r)
    (o : Nat × Nat) (ho : o ∈ observations (2 * h + 1) true [r]) :
    o ∈ observations (2 * h + 1) true [revCompSeq r] := by
  rw [mem_observations_single] at ho ⊢
  obtain ⟨j, hw, rfl⟩ := ho
  obtain ⟨j', hj⟩ := Nat.le.dest ((mem_windows _ r j).mp hw).1
  rw [Nat.add_comm] at hj
  refine ⟨j', mem_windows_revCompSeq hj hw, ?_⟩
  -- the mirrored window gives the same pair, read from the other strand
  rw [obs_pair_eq, obs_pair_eq, (window_revCompSeq h hd hj hw).1, (window_revCompSeq h hd hj hw).2,
    rcCodes_rcCodes, pairOf_swap]

theorem sameObs_revCompSeq {k : Nat} (hk : k % 2 = 1) {r : Array UInt8} (hd : AllDna r) :
    SameObs k true r (revCompSeq r) := by
  obtain ⟨h, rfl⟩ : ∃ h, k = 2 * h + 1 := ⟨halfK k, k_eq_of_odd hk⟩
  intro o
  constructor
  · exact observations_revCompSeq_sub h hd o
  · intro ho
    have := observations_revCompSeq_sub h hd.revCompSeq o ho
    rwa [revCompSeq_revCompSeq] at this

end SkaModel
