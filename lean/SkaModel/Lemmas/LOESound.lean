/-
C18 completeness — the expected records are sound: the sequence `before ++ block ++ after` (or its reverse
complement) occurs in exactly the samples that keep the block, `before ++ after` in exactly those that delete
it; so REF occurs exactly in the samples genotyped `0`, ALT exactly in those genotyped `1`, and every sample is
genotyped `0` or `1` (`recSoundB`).
-/
import SkaModel.Lemmas.LOEFinal

namespace SkaModel.LOE

open SkaModel.LOC

theorem occursIn_iff (w s : List UInt8) :
    occursIn w s = true ↔ ∃ j, j + w.length ≤ s.length ∧ win s j w.length = w := by
  unfold occursIn
  simp only [List.any_eq_true, List.mem_range, Nat.lt_sub_iff_add_lt, Nat.lt_succ_iff, beq_iff_eq]

theorem ne_dash {I : List UInt8} (h : ∃ b t, I = b :: t ∧ 45 < b) : (I == [45]) = false := by
  obtain ⟨b, t, rfl, hb⟩ := h
  rw [beq_eq_false_iff_ne]
  intro e
  rw [(List.cons.inj e).1] at hb
  exact absurd hb (by decide)

/-- the per-sample check of `recSoundB`, whichever of the two sequences is REF (`insRef`) -/
theorem sound_core (C : List (List Bool)) (t : Nat) (S : List Bool → List UInt8) (w1 w2 : List UInt8)
    (h1 : ∀ c ∈ C, (occursIn w1 (S c) || occursIn (rcSeq w1) (S c)) = c.getD t false)
    (h2 : ∀ c ∈ C, (occursIn w2 (S c) || occursIn (rcSeq w2) (S c)) = !c.getD t false) (insRef : Bool) :
    ((C.map S).zip (C.map (fun c => if c.getD t false == insRef then "0" else "1"))).all (fun sc =>
      let hasR := occursIn (if insRef then w1 else w2) sc.1 || occursIn (rcSeq (if insRef then w1 else w2)) sc.1
      let hasA := occursIn (if insRef then w2 else w1) sc.1 || occursIn (rcSeq (if insRef then w2 else w1)) sc.1
      (sc.2 == "0" && hasR && !hasA) || (sc.2 == "1" && hasA && !hasR)) = true := by
  rw [List.zip_map', List.all_map, List.all_eq_true]
  intro c hc
  have e1 := h1 c hc
  have e2 := h2 c hc
  cases insRef
  · simp only [Bool.false_eq_true, if_false, Function.comp]
    rw [e1, e2]
    cases c.getD t false <;> decide
  · simp only [if_true, Function.comp]
    rw [e1, e2]
    cases c.getD t false <;> decide

theorem indelRec_sound (C : List (List Bool)) (t : Nat) (S : List Bool → List UInt8) (E I X : List UInt8)
    (hI : (I == [45]) = false)
    (h1 : ∀ c ∈ C, (occursIn (E ++ I ++ X) (S c) || occursIn (rcSeq (E ++ I ++ X)) (S c)) = c.getD t false)
    (h2 : ∀ c ∈ C, (occursIn (E ++ X) (S c) || occursIn (rcSeq (E ++ X)) (S c)) = !c.getD t false) :
    recSoundB (C.map S) (indelRec C.length E I X (keepIdx C t) (delIdx C t)) = true := by
  unfold recSoundB
  rw [Bool.and_eq_true, decide_eq_true_eq]
  unfold indelRec alleleSeq
  simp only [List.length_map, calls_eq]
  refine ⟨trivial, ?_⟩
  have := sound_core C t S (E ++ I ++ X) (E ++ X) h1 h2 (decide ((keepIdx C t).length > (delIdx C t).length))
  by_cases hd : (keepIdx C t).length > (delIdx C t).length
  · simp only [hd, decide_true, if_true, hI, Bool.false_eq_true, if_false, beq_self_eq_true,
      List.append_nil] at this ⊢
    exact this
  · simp only [hd, decide_false, Bool.false_eq_true, if_false, hI, beq_self_eq_true, if_true,
      List.append_nil] at this ⊢
    exact this

theorem occ_first {k : Nat} {F : List UInt8} {B : List (Nat × Nat)} {c : List Bool} {w : List UInt8} (hwk : k ≤ w.length)
    (hocc : occursIn w (dsample F B c) = true) :
    ∃ u', IsWin k F.length B c u' ∧ lets F u' = w.take k := by
  obtain ⟨j, hj, e⟩ := (occursIn_iff _ _).mp hocc
  rw [dsample_length] at hj
  have hjk : j + k ≤ (keepCols F.length B c).length := by omega
  refine ⟨cwin (keepCols F.length B c) j k, ⟨j, hjk, rfl⟩, ?_⟩
  rw [← e, win_take _ _ _ _ hwk]
  unfold dsample lets
  rw [win_map]

namespace DFam

variable {k : Nat} {F : List UInt8} {B : List (Nat × Nat)} {C : List (List Bool)}

theorem occ_rc (h : DFam k F B C) {c c0 : List Bool} (hc : c ∈ C) (hc0 : c0 ∈ C) {u : List Nat}
    (hu : IsWin k F.length B c0 u) {w : List UInt8} (hwk : k ≤ w.length) (hw : w.take k = lets F u) :
    occursIn (rcSeq w) (dsample F B c) = false := by
  apply Bool.eq_false_iff.mpr
  intro hocc
  obtain ⟨j, hj, e⟩ := (occursIn_iff _ _).mp hocc
  -- the last `k` letters of the occurrence, `d` letters in
  obtain ⟨d, hd⟩ := Nat.exists_eq_add_of_le hwk
  rw [rcSeq_length, hd] at hj e
  rw [dsample_length, Nat.add_comm k d, ← Nat.add_assoc] at hj
  have e1 : lets F (cwin (keepCols F.length B c) (j + d) k) = rcSeq (lets F u) := by
    have h1 : win (dsample F B c) (j + d) k = (rcSeq w).drop d := by
      rw [← e, win_drop, Nat.add_sub_cancel]
    rw [rcSeq_drop, hd, Nat.add_sub_cancel, hw] at h1
    rw [← h1]
    unfold dsample lets
    rw [win_map]
  exact h.kwin_norc hc0 hc hu ⟨_, hj, rfl⟩ (by rw [e1, cds_rcSeq (h.isWin_base hu)])

theorem occ_iff (h : DFam k F B C) {c c0 : List Bool} (hc : c ∈ C) (hc0 : c0 ∈ C) {U E : List Nat}
    (hE : U.take k = E) (hu0 : IsWin k F.length B c0 E) {P : Prop}
    (hsp : (∃ u', IsWin k F.length B c u' ∧ lets F u' = lets F E) → P)
    (hwin : P → IsWin U.length F.length B c U) :
    (occursIn (lets F U) (dsample F B c) || occursIn (rcSeq (lets F U)) (dsample F B c)) = true ↔ P := by
  subst hE
  have hl : k ≤ (lets F U).length := by
    obtain ⟨j, hj, e⟩ := hu0
    have := congrArg List.length e
    rw [cwin_length hj, List.length_take] at this
    rw [lets_length]
    omega
  have htake : (lets F U).take k = lets F (U.take k) := List.map_take.symm
  rw [h.occ_rc hc hc0 hu0 hl htake, Bool.or_false]
  constructor
  · intro hocc
    obtain ⟨u', hu', e⟩ := occ_first hl hocc
    exact hsp ⟨u', hu', e.trans htake⟩
  · intro hp
    obtain ⟨j, hj1, hj2⟩ := hwin hp
    rw [occursIn_iff, lets_length]
    refine ⟨j, by rw [dsample_length]; exact hj1, ?_⟩
    unfold dsample lets
    rw [win_map, hj2]

theorem occ_keep (h : DFam k F B C) {t : Nat} (ht : t < B.length) {c : List Bool} (hc : c ∈ C) :
    (occursIn (Ctx.w1 k F B t) (dsample F B c) || occursIn (rcSeq (Ctx.w1 k F B t)) (dsample F B c)) = c.getD t false := by
  obtain ⟨c0, hc0, hf0⟩ := h.kept t ht
  rw [Bool.eq_iff_iff]
  exact h.occ_iff hc hc0 (h.run_ends ht).1 ((h.isWin_en ht c0).1.mpr hf0) (h.spell_en ht hc).1.mp (h.run_isWin ht c).1

theorem occ_del (h : DFam k F B C) {t : Nat} (ht : t < B.length) {c : List Bool} (hc : c ∈ C) :
    (occursIn (Ctx.w2 k F B t) (dsample F B c) || occursIn (rcSeq (Ctx.w2 k F B t)) (dsample F B c)) = !c.getD t false := by
  obtain ⟨c0, hc0, hf0⟩ := h.del t ht
  rw [Bool.eq_iff_iff, Bool.not_eq_true']
  exact h.occ_iff hc hc0 (h.run_ends ht).2.1 ((h.isWin_en ht c0).2.1.mpr hf0) (h.spell_en ht hc).2.1.mp
    (h.run_isWin ht c).2

theorem rec_sound (h : DFam k F B C) {t : Nat} (ht : t < B.length) (f : Bool) :
    recSoundB (dsamples F B C) (dexpRec k F B C t f) = true := by
  obtain ⟨hbase1, hbase2⟩ := h.w_base ht
  obtain ⟨hw1a, hw1b⟩ := h.w1_eq ht
  obtain ⟨hw2a, hw2b⟩ := h.w2_eq ht
  obtain ⟨hr1, hr2⟩ := h.rc_eq ht
  cases f
  · rw [← h.recFw_eq ht]
    exact indelRec_sound C t (dsample F B) _ _ _ (ne_dash (h.ins_fw ht))
      (fun c hc => by rw [hw1a]; exact h.occ_keep ht hc) (fun c hc => by rw [hw2a]; exact h.occ_del ht hc)
  · rw [← h.recRv_eq ht]
    exact indelRec_sound C t (dsample F B) _ _ _ (ne_dash (h.ins_rv ht))
      (fun c hc => by rw [hr1, rcSeq_rcSeq hbase1, Bool.or_comm]; exact h.occ_keep ht hc)
      (fun c hc => by rw [hr2, rcSeq_rcSeq hbase2, Bool.or_comm]; exact h.occ_del ht hc)

end DFam

end SkaModel.LOE
