/-
`RefSka.new` in closed form: the k-mers are `kmersFrom`, the stored sequence is the upper-cased
reference `upperRef`, the repeat coordinates are `newReps`.
-/
import SkaModel.Lemmas.RMKmers

namespace SkaModel.RM

open SkaModel SkaModel.Spec SkaModel.Props.C16 SkaModel.Props.C01 SkaModel.AW

def upperRef (ref : List (Array UInt8)) : List (Array UInt8) := ref.map (fun r => r.map toUpper)

/-- the value of `repeatCoors` computed by `RefSka.new` -/
def newReps (k : Nat) (rc : Bool) (ref : List (Array UInt8)) (rmask : Bool) : List Nat :=
  if rmask then
    RefSka.repeatCoorsOf (halfK k) (upperRef ref) (RefSka.repeatsOf (refKeys k rc ref)) (kmersFrom k rc 0 ref)
  else []

theorem new_kmers_eq (W k : Nat) (rc : Bool) (hk : ValidK k) (hw : WidthOk W k)
    (ref : List (Array UInt8)) :
    (ref.zipIdx.map (fun ci => RefSka.contigKmers W k rc ci.2 ci.1)).flatten = kmersFrom k rc 0 ref := by
  unfold kmersFrom
  rw [List.flatMap_def]
  congr 1
  apply List.map_congr_left
  intro ci _
  exact contigKmers_spec W k rc hk hw ci.2 ci.1

theorem new_eq (W k : Nat) (rc : Bool) (hk : ValidK k) (hw : WidthOk W k) (names : List String)
    (ref : List (Array UInt8)) (amask rmask : Bool) :
    RefSka.new W k rc names ref amask rmask =
      if (kmersFrom k rc 0 ref).isEmpty then none
      else some { k := k, kmers := kmersFrom k rc 0 ref, ambigMask := amask, chromNames := names,
                  seq := upperRef ref, repeatCoors := newReps k rc ref rmask } := by
  unfold RefSka.new newReps upperRef
  simp only [new_kmers_eq W k rc hk hw ref, kmersFrom_keys]

theorem new_some (W k : Nat) (rc : Bool) (hk : ValidK k) (hw : WidthOk W k) (names : List String)
    (ref : List (Array UInt8)) (amask rmask : Bool) (r : RefSka)
    (h : RefSka.new W k rc names ref amask rmask = some r) :
    r = { k := k, kmers := kmersFrom k rc 0 ref, ambigMask := amask, chromNames := names,
          seq := upperRef ref, repeatCoors := newReps k rc ref rmask } := by
  rw [new_eq W k rc hk hw] at h
  split at h
  · cases h
  · cases h; rfl

theorem upperRef_length (ref : List (Array UInt8)) : (upperRef ref).length = ref.length := by
  unfold upperRef; rw [List.length_map]

theorem csize_upperRef (ref : List (Array UInt8)) (c : Nat) :
    csize (upperRef ref) c = csize ref c := by
  unfold csize upperRef
  rw [getD_map _ ref c (Array.map_empty (f := toUpper)), Array.size_map]

theorem upperRef_getD_getD (ref : List (Array UInt8)) (c p : Nat) :
    ((upperRef ref).getD c #[]).getD p 0 = upperByte ((ref.getD c #[]).getD p 0) := by
  unfold upperRef
  rw [getD_map _ ref c (Array.map_empty (f := toUpper)), Array.getD_eq_getD_getElem?, Array.getD_eq_getD_getElem?, Array.getElem?_map]
  cases (ref.getD c #[])[p]? with
  | none => rfl
  | some b => rfl

theorem contigOffset_upperRef (ref : List (Array UInt8)) (c : Nat) :
    contigOffset (upperRef ref) c = contigOffset ref c := by
  unfold contigOffset upperRef
  rw [← List.map_take, sizes_map fun _ => Array.size_map ..]

end SkaModel.RM
