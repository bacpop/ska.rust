/-
The match list `pseudoalignment` hands to `AlnWriter` for one sample: a `filterMap` of the
reference k-mers, well formed (`Spec.MatchesOK`) for any dictionary, with exactly the
specification's matched centres as members.
-/
import SkaModel.Lemmas.AWSpec
import SkaModel.Lemmas.RMNew
import SkaModel.Lemmas.RMSpec
import SkaModel.Lemmas.Assoc

namespace SkaModel.RM

open SkaModel SkaModel.Spec SkaModel.Props.C16 SkaModel.Props.C01 SkaModel.AW

def cellOf (s : Nat) (m : (Nat × Nat) × List UInt8) : Option Match :=
  let b := m.2.getD s GAP
  if b != GAP then some (m.1.1, m.1.2, b) else none

/-- what `RefSka.map` does with one reference k-mer -/
def mapOne (d : MDict) (rk : RefKmer) : Option ((Nat × Nat) × List UInt8) :=
  match Assoc.lookup d.kmers rk.kmer with
  | some row => some ((rk.chrom, rk.pos), row.map (fun x => if rk.rc then rcIupacAt x else x))
  | none => none

def matchOf (d : MDict) (s : Nat) (rk : RefKmer) : Option Match := (mapOne d rk).bind (cellOf s)

/-- the dictionary as the function the specification takes -/
abbrev dictOf (d : MDict) : Nat → Option (List UInt8) := fun key => Assoc.lookup d.kmers key

abbrev msOf (k : Nat) (rc : Bool) (d : MDict) (s : Nat) (ref : List (Array UInt8)) : List Match :=
  (kmersFrom k rc 0 ref).filterMap (matchOf d s)

theorem cellOf_eq (s : Nat) (m : (Nat × Nat) × List UInt8) :
    cellOf s m = if (m.2.getD s GAP != GAP) = true then some (m.1.1, m.1.2, m.2.getD s GAP) else none := rfl

theorem cell_gen (chrom p : Nat) (x y : UInt8) (hxy : (y == 45) = (x == 45)) :
    (if (y != 45) = true then some (chrom, p, y) else none : Option Match)
      = Option.map (fun z => (chrom, p, z)) (if (x == 45) = true then none else some y) := by
  cases hx : (x == 45)
  · have hy : (y == 45) = false := by rw [hxy, hx]
    simp [bne, hy]
  · have hy : (y == 45) = true := by rw [hxy, hx]
    simp [bne, hy]

theorem pseudoalignment_getD (r : RefSka) (n : Nat) (mapped : List ((Nat × Nat) × List UInt8))
    (s : Nat) (hs : s < n) :
    (r.pseudoalignment n mapped).getD s #[] =
      AlnWriter.finalise r.seq (halfK r.k) r.repeatCoors
        ((mapped.filterMap (cellOf s)).foldl
          (fun w m => AlnWriter.writeSplitKmer r.seq (halfK r.k) r.ambigMask w m.2.1 m.1 m.2.2)
          (AlnWriter.new r.seq r.k)) := by
  unfold RefSka.pseudoalignment
  rw [List.getD_eq_getElem?_getD, List.getElem?_map, List.getElem?_range hs, Option.map_some,
    Option.getD_some]
  refine congrArg (AlnWriter.finalise r.seq (halfK r.k) r.repeatCoors) ?_
  apply foldl_filterMap_opt (cellOf s)
  intro w a
  rw [cellOf_eq]
  show (if (a.2.getD s GAP != GAP) = true then _ else w) = _
  by_cases hb : (a.2.getD s GAP != GAP) = true
  · rw [if_pos hb, if_pos hb]
  · rw [if_neg hb, if_neg hb]

theorem matchOf_chrom_pos {d : MDict} {s : Nat} {rk : RefKmer} {m : Match}
    (h : matchOf d s rk = some m) : m.1 = rk.chrom ∧ m.2.1 = rk.pos := by
  unfold matchOf mapOne at h
  cases hl : Assoc.lookup d.kmers rk.kmer with
  | none => rw [hl] at h; cases h
  | some row =>
    rw [hl] at h
    simp only [Option.bind_some] at h
    rw [cellOf_eq] at h
    by_cases hc : ((rk.chrom, rk.pos), row.map (fun x => if rk.rc then rcIupacAt x else x)).2.getD s GAP != GAP
    · rw [if_pos hc] at h; cases h; exact ⟨rfl, rfl⟩
    · rw [if_neg hc] at h; cases h

/-- reverse-complementing a stored (non-gap) byte never yields a gap: true when the rows hold
only gaps and the letters `ACGTMRWSYKVHDBN` (either case), the bytes `RC_IUPAC` does not send to
`-`; `U` is not among them -/
def GapSafe (d : MDict) : Prop := ∀ kr ∈ d.kmers, ∀ x ∈ kr.2, rcIupacAt x = 45 → x = 45

theorem rcIupacAt_gap : rcIupacAt 45 = 45 := by decide

theorem matchOf_window (k : Nat) (rc : Bool) (d : MDict) (hgs : rc = true → GapSafe d) (s chrom : Nat)
    (c : Array UInt8) (j : Nat) (hj : j ∈ windows k c) :
    matchOf d s (mkRK k rc chrom c j)
      = (matchedBase k rc (dictOf d) c s (j + halfK k)).map
          (fun x => (chrom, j + halfK k, x)) := by
  rw [matchedBase_window rc _ s hj]
  unfold matchOf mapOne
  show (match dictOf d (obs k rc c j).1 with
        | some row => some ((chrom, j + halfK k), row.map (fun x => if (obs k rc c j).2.2 then rcIupacAt x else x))
        | none => none).bind (cellOf s) = _
  cases hl : dictOf d (obs k rc c j).1 with
  | none => rfl
  | some row =>
    simp only [Option.bind_some]
    rw [cellOf_eq]
    cases ho : (obs k rc c j).2.2
    · have ef : (fun x : UInt8 => if false = true then rcIupacAt x else x) = id := by funext x; rfl
      rw [ef, List.map_id]
      exact cell_gen chrom (j + halfK k) (row.getD s 45) (row.getD s 45) rfl
    · have hrc : rc = true := by
        cases rc
        · unfold obs at ho; simp at ho
        · rfl
      have ef : (fun x : UInt8 => if true = true then rcIupacAt x else x) = rcIupacAt := by funext x; rfl
      rw [ef]
      have e : (row.map rcIupacAt).getD s GAP = rcIupacAt (row.getD s 45) := getD_map rcIupacAt row s rcIupacAt_gap
      simp only [e]
      have hsafe : (rcIupacAt (row.getD s 45) == 45) = (row.getD s 45 == 45) := by
        rw [Bool.eq_iff_iff, beq_iff_eq, beq_iff_eq]
        constructor
        · intro h45
          rcases getD_mem_or row s 45 with hm | he
          · exact hgs hrc _ (Assoc.mem_of_lookup hl) _ hm h45
          · exact he
        · intro h45; rw [h45]; exact rcIupacAt_gap
      exact cell_gen chrom (j + halfK k) (row.getD s 45) (rcIupacAt (row.getD s 45)) hsafe

theorem mem_ms (k : Nat) (rc : Bool) (d : MDict) (hgs : rc = true → GapSafe d) (s : Nat)
    (ref : List (Array UInt8)) (m : Match) :
    m ∈ msOf k rc d s ref ↔
      ∃ c, ref[m.1]? = some c ∧ matchedBase k rc (dictOf d) c s m.2.1 = some m.2.2 := by
  rw [List.mem_filterMap]
  constructor
  · rintro ⟨rk, hrk, hm⟩
    obtain ⟨i, c, j, hi, hj, rfl⟩ := (mem_kmersFrom_zero k rc ref rk).1 hrk
    rw [matchOf_window k rc d hgs s _ c j hj, Option.map_eq_some_iff] at hm
    obtain ⟨x, hx, rfl⟩ := hm
    exact ⟨c, hi, hx⟩
  · rintro ⟨c, hc, hmb⟩
    obtain ⟨j, hj, hp⟩ := (isCentre_iff k c m.2.1).mp (matchedBase_isCentre hmb)
    refine ⟨mkRK k rc m.1 c j, (mem_kmersFrom_zero k rc ref _).2 ⟨m.1, c, j, hc, hj, rfl⟩, ?_⟩
    rw [matchOf_window k rc d hgs s _ c _ hj, ← hp, hmb]
    rfl

theorem ms_bound (k : Nat) (rc : Bool) (hk : ValidK k) (d : MDict) (s : Nat)
    (ref : List (Array UInt8)) (m : Match)
    (hm : m ∈ msOf k rc d s ref) :
    Bnd (upperRef ref) (halfK k) m := by
  obtain ⟨rk, hrk, hmo⟩ := List.mem_filterMap.1 hm
  obtain ⟨e1, e2⟩ := matchOf_chrom_pos hmo
  unfold Bnd
  rw [e1, e2, upperRef_length, csize_upperRef]
  exact kmersFrom_bounds k rc hk ref rk hrk

theorem ms_pairwise (k : Nat) (rc : Bool) (d : MDict) (s : Nat) (ref : List (Array UInt8)) :
    (msOf k rc d s ref).Pairwise MLt := by
  refine List.Pairwise.filterMap (matchOf d s) ?_ (kmersFrom_pairwise k rc 0 ref)
  intro a a' haa b hb b' hb'
  obtain ⟨h1, h2⟩ := matchOf_chrom_pos hb
  obtain ⟨h1', h2'⟩ := matchOf_chrom_pos hb'
  unfold MLt
  rw [h1, h2, h1', h2']
  exact haa

theorem matches_ok (k : Nat) (rc : Bool) (hk : ValidK k) (d : MDict) (s : Nat)
    (ref : List (Array UInt8)) :
    MatchesOK (upperRef ref) (halfK k) (msOf k rc d s ref) :=
  (matchesOK_iff _).2 ⟨ms_pairwise k rc d s ref, fun m hm => ms_bound k rc hk d s ref m hm⟩

/-- `matches_ok`: gap safety plays no part in the shape of the match list -/
theorem ms_ok (k : Nat) (rc : Bool) (hk : ValidK k) (d : MDict) (hgs : rc = true → GapSafe d) (s : Nat)
    (ref : List (Array UInt8)) :
    MatchesOK (upperRef ref) (halfK k) ((kmersFrom k rc 0 ref).filterMap (matchOf d s)) :=
  matches_ok k rc hk d s ref

theorem find_ms (k : Nat) (rc : Bool) (d : MDict) (hgs : rc = true → GapSafe d) (s : Nat)
    (ref : List (Array UInt8)) (c : Nat) (contig : Array UInt8) (hc : ref[c]? = some contig)
    (p : Nat) :
    ((msOf k rc d s ref).find? (fun m => m.1 == c && m.2.1 == p)).map (·.2.2)
      = matchedBase k rc (dictOf d) contig s p := by
  apply find_map_eq
  · intro m hm hP
    rw [Bool.and_eq_true, beq_iff_eq, beq_iff_eq] at hP
    obtain ⟨c', hc', hmb⟩ := (mem_ms k rc d hgs s ref m).1 hm
    rw [hP.1, hc] at hc'
    cases hc'
    rw [← hP.2, hmb]
  · intro b hb
    refine ⟨(c, p, b), (mem_ms k rc d hgs s ref _).2 ⟨contig, hc, hb⟩, ?_⟩
    rw [Bool.and_eq_true, beq_iff_eq, beq_iff_eq]
    exact ⟨rfl, rfl⟩

end SkaModel.RM
