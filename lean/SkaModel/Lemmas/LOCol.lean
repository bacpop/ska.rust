/-
`complement_snp` (`ska lo`) and the total complement `compl`: where the former is defined they agree, and
complementing keeps both results of `check_missing_data`.
-/
import SkaModel.Lemmas.LOBasic
import SkaModel.Lemmas.LOCStr

namespace SkaModel.LO
open SkaModel SkaModel.Skalo SkaModel.LOC

/-- `complement_snp` on one entry -/
def compBase? (b : UInt8) : Option UInt8 :=
  if b == 65 then some 84 else if b == 84 then some 65 else if b == 67 then some 71
  else if b == 71 then some 67 else if b == 45 then some 45 else if b == 78 then some 78 else none

theorem complementSnp_eq (col : List UInt8) : complementSnp col = col.mapM compBase? := rfl

theorem complementSnp_nil : complementSnp [] = some [] := rfl

theorem complementSnp_cons (b : UInt8) (col : List UInt8) :
    complementSnp (b :: col) = (compBase? b).bind (fun c => (complementSnp col).map (fun cs => c :: cs)) := by
  rw [complementSnp_eq, complementSnp_eq, List.mapM_cons]
  cases compBase? b <;> cases List.mapM compBase? col <;> rfl

def okBase (b : UInt8) : Prop := b = 65 ∨ b = 67 ∨ b = 71 ∨ b = 84 ∨ b = 45 ∨ b = 78

theorem compBase?_eq_some (b c : UInt8) : compBase? b = some c ↔ okBase b ∧ c = compl b := by
  by_cases hb : okBase b
  · have e : compBase? b = some (compl b) := by
      rcases hb with rfl | rfl | rfl | rfl | rfl | rfl <;> decide
    rw [e, Option.some.injEq, eq_comm]
    exact (and_iff_right hb).symm
  · have e : compBase? b = none := by
      simp only [okBase, not_or] at hb
      simp [compBase?, hb]
    rw [e]
    exact ⟨nofun, fun h => absurd h.1 hb⟩

theorem okBase_compl (b : UInt8) (h : okBase b) : okBase (compl b) := by
  unfold okBase
  rcases h with rfl | rfl | rfl | rfl | rfl | rfl <;> decide

theorem isACGT_compl (b : UInt8) : isACGT (compl b) = isACGT b := by
  rcases compl_cases b with rfl | rfl | rfl | rfl | h
  · decide
  · decide
  · decide
  · decide
  · rw [h]

theorem complementSnp_eq_some (col col' : List UInt8) :
    complementSnp col = some col' ↔ (∀ b ∈ col, okBase b) ∧ col' = col.map compl := by
  induction col generalizing col' with
  | nil =>
    rw [complementSnp_nil]
    simp [eq_comm]
  | cons b bs ih =>
    rw [complementSnp_cons]
    simp only [Option.bind_eq_some_iff, Option.map_eq_some_iff, compBase?_eq_some, ih, List.forall_mem_cons,
      List.map_cons]
    constructor
    · rintro ⟨c, ⟨hb, rfl⟩, cs, ⟨hbs, rfl⟩, rfl⟩
      exact ⟨⟨hb, hbs⟩, rfl⟩
    · rintro ⟨⟨hb, hbs⟩, rfl⟩
      exact ⟨_, ⟨hb, rfl⟩, _, ⟨hbs, rfl⟩, rfl⟩

theorem complementSnp_isSome (col : List UInt8) :
    (complementSnp col).isSome = true ↔ ∀ b ∈ col, okBase b := by
  constructor
  · intro h
    cases hc : complementSnp col with
    | none => rw [hc] at h; cases h
    | some col' => exact ((complementSnp_eq_some col col').1 hc).1
  · intro h
    rw [(complementSnp_eq_some col _).2 ⟨h, rfl⟩]
    rfl

theorem complementSnp_invol (col col' : List UInt8) (h : complementSnp col = some col') :
    complementSnp col' = some col := by
  obtain ⟨hok, rfl⟩ := (complementSnp_eq_some col col').1 h
  rw [complementSnp_eq_some]
  refine ⟨?_, (complCol_complCol col).symm⟩
  intro b hb
  obtain ⟨a, ha, rfl⟩ := List.mem_map.1 hb
  exact okBase_compl a (hok a ha)

theorem check_map_compl (col : List UInt8) : checkMissingData (col.map compl) = checkMissingData col := by
  have h : ∀ c : List UInt8, (checkMissingData (c.map compl)).1 = true → (checkMissingData c).1 = true := by
    intro c
    rw [check_fst_exists, check_fst_exists]
    rintro ⟨a, b, hab, ha, hb, hac, hbc⟩
    obtain ⟨a', ha', rfl⟩ := List.mem_map.1 hac
    obtain ⟨b', hb', rfl⟩ := List.mem_map.1 hbc
    rw [isACGT_compl] at ha hb
    exact ⟨a', b', fun e => hab (by rw [e]), ha, hb, ha', hb'⟩
  have hcc : (col.map compl).map compl = col := complCol_complCol col
  apply Prod.ext
  · rw [Bool.eq_iff_iff]
    -- the converse is `h` for the complemented column: complementing twice gives the column back
    refine ⟨h col, fun hc => h (col.map compl) ?_⟩
    rw [hcc]
    exact hc
  · rw [check_snd, check_snd, List.filter_map, List.length_map, List.length_map]
    simp only [Function.comp_def, isACGT_compl]

theorem check_complement (col col' : List UInt8) (h : complementSnp col = some col') :
    checkMissingData col' = checkMissingData col := by
  obtain ⟨_, rfl⟩ := (complementSnp_eq_some col col').1 h
  exact check_map_compl col

end SkaModel.LO
