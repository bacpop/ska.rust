/-
The `.skf` decoder as a chain of prefix-safe parsers: `SkfFile.decode W'` on
the encoding of a file that is well formed at width `W` (`Valid W f`).
-/
import SkaModel.Lemmas.CborItems

namespace SkaModel.CB
open SkaModel SkaModel.Cbor

/-- the tail of `SkfFile.decode`: consistency checks and assembly -/
def final (W k : Nat) (rc : Bool) (names : List (List UInt8)) (kmers dim data counts : List Nat)
    (version : List UInt8) (kBits : Nat) : Parser SkfFile := fun bs =>
  match dim with
  | [r, c] =>
    if data.length != r * c then none
    else if data.any (· ≥ 256) then none
    else if kBits != W then none
    else
      match names.mapM (fun t => String.fromUTF8? (ByteArray.mk t.toArray)) with
      | none => none
      | some ns =>
        some ({ arr := { k := k, rc := rc, names := ns, kmers := kmers
                         variants := chunkRows r c (data.map UInt8.ofNat), counts := counts, kBits := kBits }
                version := version }, bs)
  | _ => none

def decode' (W : Nat) : Parser SkfFile :=
  headThen fun m n =>
  guardP (m != 5 || n != 8) <|
  expectThen kK <|
  andThen parseUint fun k =>
  expectThen kRc <|
  andThen parseBool fun rc =>
  expectThen kNames <|
  andThen (parseArray parseText) fun names =>
  expectThen kSplitKmers <|
  andThen (parseArray (parseKmer W)) fun kmers =>
  expectThen kVariants <|
  headThen fun m n =>
  guardP (m != 5 || n != 3) <|
  expectThen kV <|
  andThen parseUint fun v =>
  guardP (v != 1) <|
  expectThen kDim <|
  andThen (parseArray parseUint) fun dim =>
  expectThen kData <|
  andThen (parseArray parseUint) fun data =>
  expectThen kVariantCount <|
  andThen (parseArray parseUint) fun counts =>
  expectThen kSkaVersion <|
  andThen parseText fun version =>
  expectThen kKBits <|
  andThen parseUint fun kBits =>
  final W k rc names kmers dim data counts version kBits

theorem decode_eq (W : Nat) (bs : List UInt8) : SkfFile.decode W bs = decode' W bs := by
  rfl


structure Valid (W : Nat) (f : SkfFile) : Prop where
  kBits : f.arr.kBits = W
  width : W = 64 ∨ W = 128
  kmers : ∀ x ∈ f.arr.kmers, x < 2 ^ W
  k : f.arr.k < 2 ^ 64
  counts : ∀ c ∈ f.arr.counts, c < 2 ^ 64
  nNames : f.arr.names.length < 2 ^ 64
  nKmers : f.arr.kmers.length < 2 ^ 64
  nCounts : f.arr.counts.length < 2 ^ 64
  nRows : f.arr.variants.length < 2 ^ 64
  nCells : f.arr.variants.flatten.length < 2 ^ 64
  nameLen : ∀ n ∈ f.arr.names, n.utf8ByteSize < 2 ^ 64
  versionLen : f.version.length < 2 ^ 64
  rows : ∀ r ∈ f.arr.variants, r.length = f.arr.names.length

def nameBytes (f : SkfFile) : List (List UInt8) := f.arr.names.map (fun n => n.toUTF8.toList)
def cellNats (f : SkfFile) : List Nat := f.arr.variants.flatten.map (fun b => b.toNat)

/-- `SkfFile.encode`, grouped field by field -/
def encode' (f : SkfFile) : List UInt8 :=
  head 5 8 ++ (key kK ++ (uint f.arr.k ++ (key kRc ++ (Cbor.bool f.arr.rc ++
  (key kNames ++ ((head 4 (nameBytes f).length ++ ((nameBytes f).map text).flatten) ++
  (key kSplitKmers ++ ((head 4 f.arr.kmers.length ++ (f.arr.kmers.map kmer).flatten) ++
  (key kVariants ++ (head 5 3 ++ (key kV ++ (uint 1 ++
  (key kDim ++ ((head 4 2 ++ ([f.arr.variants.length, f.arr.names.length].map uint).flatten) ++
  (key kData ++ ((head 4 (cellNats f).length ++ ((cellNats f).map uint).flatten) ++
  (key kVariantCount ++ ((head 4 f.arr.counts.length ++ (f.arr.counts.map uint).flatten) ++
  (key kSkaVersion ++ (text f.version ++
  (key kKBits ++ (uint f.arr.kBits ++ []))))))))))))))))))))))

theorem encode_eq (f : SkfFile) : f.encode = encode' f := by
  unfold SkfFile.encode encode' nameBytes cellNats SkfFile.ncols
  simp only [List.map_map, Function.comp_def, List.map_cons, List.map_nil, List.flatten_cons,
    List.flatten_nil, List.append_nil, List.length_map]
  simp only [List.append_assoc]


theorem mapM_names (names : List String) :
    (names.map (fun n => n.toUTF8.toList)).mapM (fun t => String.fromUTF8? (ByteArray.mk t.toArray))
      = some names := by
  induction names with
  | nil => rfl
  | cons n ns ih =>
    rw [List.map_cons, List.mapM_cons, fromUTF8_toUTF8, ih]
    rfl

theorem any_ge_256 (l : List UInt8) : (l.map (fun b => b.toNat)).any (fun x => decide (x ≥ 256)) = false := by
  induction l with
  | nil => rfl
  | cons b l ih =>
    have := b.toNat_lt
    simp only [List.map_cons, List.any_cons, ih, Bool.or_false, decide_eq_false_iff_not]
    omega

theorem map_ofNat_toNat (l : List UInt8) : (l.map (fun b => b.toNat)).map UInt8.ofNat = l := by
  induction l with
  | nil => rfl
  | cons b l ih => simp [ih]

theorem flatten_length_of_rows (rows : List (List UInt8)) (c : Nat) (h : ∀ r ∈ rows, r.length = c) :
    rows.flatten.length = rows.length * c := by
  induction rows with
  | nil => simp
  | cons r rows ih =>
    simp [h r (List.mem_cons_self ..), ih (fun y hy => h y (List.mem_cons_of_mem _ hy)), Nat.succ_mul, Nat.add_comm]

theorem final_eval {W : Nat} {f : SkfFile} (hv : Valid W f) (W' : Nat) (bs : List UInt8) :
    final W' f.arr.k f.arr.rc (nameBytes f) f.arr.kmers [f.arr.variants.length, f.arr.names.length]
      (cellNats f) f.arr.counts f.version f.arr.kBits bs
      = (if W' = W then some f else none).map (fun x => (x, bs)) := by
  have h1 : ((cellNats f).length != f.arr.variants.length * f.arr.names.length) = false := by
    rw [cellNats, List.length_map, flatten_length_of_rows _ _ hv.rows]
    simp
  have h2 : (cellNats f).any (fun x => decide (x ≥ 256)) = false := any_ge_256 _
  have h3 : chunkRows f.arr.variants.length f.arr.names.length ((cellNats f).map UInt8.ofNat) = f.arr.variants := by
    rw [cellNats, map_ofNat_toNat, chunkRows_flatten _ _ hv.rows]
  simp only [final, h1, h2, h3, nameBytes, mapM_names, Bool.false_eq_true, if_false, hv.kBits]
  by_cases hW : W' = W
  · subst hW
    simp [← hv.kBits]
  · have : (W != W') = true := by simp; exact fun h => hW h.symm
    simp [hW, this]


/-- all split k-mers are readable at width `W'` -/
def Fits (W' : Nat) (f : SkfFile) : Prop := ∀ x ∈ f.arr.kmers, x < 2 ^ 64 ∨ W' = 128

theorem kmer_lt_128 {W : Nat} {f : SkfFile} (hv : Valid W f) : ∀ x ∈ f.arr.kmers, x < 2 ^ 128 := by
  intro x hx
  have := hv.kmers x hx
  rcases hv.width with rfl | rfl
  · exact Nat.lt_trans this (by decide)
  · exact this

theorem spec_kmers {W : Nat} {f : SkfFile} (hv : Valid W f) (W' : Nat) :
    Spec (parseArray (parseKmer W')) (head 4 f.arr.kmers.length ++ (f.arr.kmers.map kmer).flatten)
      (if ∀ x ∈ f.arr.kmers, x < 2 ^ 64 ∨ W' = 128 then some f.arr.kmers else none) := by
  rw [← mapM_ite]
  exact Spec.array hv.nKmers (Spec.many _ (fun x hx => spec_kmer W' x (kmer_lt_128 hv x hx)))

theorem mapM_some {α : Type} (xs : List α) : xs.mapM (fun x => some x) = some xs := by
  simpa using List.mapM_pure (m := Option) (f := fun x : α => x) (l := xs)

theorem spec_uints (xs : List Nat) (h : ∀ x ∈ xs, x < 2 ^ 64) (hl : xs.length < 2 ^ 64) :
    Spec (parseArray parseUint) (head 4 xs.length ++ (xs.map uint).flatten) (some xs) := by
  have := Spec.array hl (Spec.many (r := fun x => some x) xs (fun x hx => spec_uint (h x hx)))
  rwa [mapM_some] at this

theorem spec_texts (xs : List (List UInt8)) (h : ∀ x ∈ xs, x.length < 2 ^ 64) (hl : xs.length < 2 ^ 64) :
    Spec (parseArray parseText) (head 4 xs.length ++ (xs.map text).flatten) (some xs) := by
  have := Spec.array hl (Spec.many (r := fun x => some x) xs (fun x hx => spec_text (h x hx)))
  rwa [mapM_some] at this

open Classical in
theorem decode'_spec {W : Nat} {f : SkfFile} (hv : Valid W f) (W' : Nat) :
    Spec (decode' W') (encode' f) (if Fits W' f ∧ W' = W then some f else none) := by
  have hnames := spec_texts (nameBytes f)
    (by
      intro x hx
      simp only [nameBytes, List.mem_map] at hx
      obtain ⟨n, hn, rfl⟩ := hx
      rw [toUTF8_toList_length]
      exact hv.nameLen n hn)
    (by rw [nameBytes, List.length_map]; exact hv.nNames)
  have hdim := spec_uints [f.arr.variants.length, f.arr.names.length]
    (by
      intro x hx
      simp only [List.mem_cons, List.not_mem_nil, or_false] at hx
      rcases hx with rfl | rfl
      · exact hv.nRows
      · exact hv.nNames)
    (by simp)
  have hdata := spec_uints (cellNats f)
    (by
      intro x hx
      simp only [cellNats, List.mem_map] at hx
      obtain ⟨b, _, rfl⟩ := hx
      exact Nat.lt_trans b.toNat_lt (by decide))
    (by rw [cellNats, List.length_map]; exact hv.nCells)
  have hcounts := spec_uints f.arr.counts hv.counts hv.nCounts
  have hkb : f.arr.kBits < 2 ^ 64 := by
    rw [hv.kBits]
    rcases hv.width with rfl | rfl <;> decide
  have hk := spec_kmers hv W'
  unfold decode' encode'
  refine Spec.head (by decide) (by decide) (Spec.guard_false rfl ?_)
  refine Spec.expect (by decide) (Spec.andThen_some (spec_uint hv.k) ?_)
  refine Spec.expect (by decide) (Spec.andThen_some (spec_bool _) ?_)
  refine Spec.expect (by decide) (Spec.andThen_some hnames ?_)
  refine Spec.expect (by decide) ?_
  by_cases hfit : Fits W' f
  · rw [if_pos (show ∀ x ∈ f.arr.kmers, _ from hfit)] at hk
    refine Spec.andThen_some hk ?_
    refine Spec.expect (by decide) (Spec.head (by decide) (by decide) (Spec.guard_false rfl ?_))
    refine Spec.expect (by decide) (Spec.andThen_some (spec_uint (by decide)) (Spec.guard_false rfl ?_))
    refine Spec.expect (by decide) (Spec.andThen_some hdim ?_)
    refine Spec.expect (by decide) (Spec.andThen_some hdata ?_)
    refine Spec.expect (by decide) (Spec.andThen_some hcounts ?_)
    refine Spec.expect (by decide) (Spec.andThen_some (spec_text hv.versionLen) ?_)
    refine Spec.expect (by decide) (Spec.andThen_some (spec_uint hkb) ?_)
    refine Spec.pure (fun bs => ?_)
    rw [final_eval hv W' bs]
    simp [hfit]
  · rw [if_neg (show ¬ ∀ x ∈ f.arr.kmers, _ from hfit)] at hk
    simp only [hfit, false_and, if_false]
    exact Spec.andThen_none hk

end SkaModel.CB
