/-
Generic facts about enumerating the elements of `List.range n` that satisfy a
Boolean predicate by repeatedly taking "the least one from here on".
-/

namespace SkaModel.Lemmas

def LeastFrom (p : Nat → Bool) (a j : Nat) : Prop :=
  a ≤ j ∧ p j = true ∧ ∀ j', a ≤ j' → j' < j → p j' = false

def NoneFrom (p : Nat → Bool) (a : Nat) : Prop :=
  ∀ j, a ≤ j → p j = false

def filterFrom (p : Nat → Bool) (n a : Nat) : List Nat :=
  (List.range n).filter fun j => decide (a ≤ j) && p j

theorem filterFrom_zero (p : Nat → Bool) (n : Nat) :
    filterFrom p n 0 = (List.range n).filter p := by
  simp only [filterFrom, Nat.zero_le, decide_true, Bool.true_and]

theorem filterFrom_skip_to (p : Nat → Bool) (n a b : Nat) (hab : a ≤ b)
    (hf : ∀ j, a ≤ j → j < b → p j = false) :
    filterFrom p n a = filterFrom p n b := by
  apply List.filter_congr
  intro j _
  cases hp : p j with
  | false => rw [Bool.and_false, Bool.and_false]
  | true =>
    have : a ≤ j ↔ b ≤ j :=
      ⟨fun h => Nat.le_of_not_lt fun hb => Bool.false_ne_true ((hf j h hb).symm.trans hp), Nat.le_trans hab⟩
    rw [decide_eq_decide.2 this]

theorem filterFrom_none (p : Nat → Bool) (n a : Nat) (hf : NoneFrom p a) :
    filterFrom p n a = [] := by
  rw [filterFrom, List.filter_eq_nil_iff]
  intro j _ h
  rw [Bool.and_eq_true, decide_eq_true_eq] at h
  rw [hf j h.1] at h
  cases h.2

theorem filterFrom_cons (p : Nat → Bool) (n a : Nat) (h : a < n) (hp : p a = true) :
    filterFrom p n a = a :: filterFrom p n (a + 1) := by
  -- `range n` is `0 .. a-1` (below both starts), `a` itself, and `a+1 ..` (above both)
  obtain ⟨d, rfl⟩ := Nat.exists_eq_add_of_le h
  have lo : ∀ b, a ≤ b → (List.range a).filter (fun j => decide (b ≤ j) && p j) = [] := by
    intro b hb
    rw [List.filter_eq_nil_iff]
    intro j hj
    rw [decide_eq_false (Nat.not_le.2 (Nat.lt_of_lt_of_le (List.mem_range.1 hj) hb)), Bool.false_and]
    exact Bool.false_ne_true
  unfold filterFrom
  rw [List.range_add, List.range_succ, List.filter_append, List.filter_append, List.filter_append,
    List.filter_append, lo a (Nat.le_refl a), lo (a + 1) (Nat.le_succ a)]
  simp only [List.filter_cons, List.filter_nil, Nat.le_refl, decide_true, hp, Bool.and_self, if_true,
    Nat.not_succ_le_self, decide_false, Bool.false_and, Bool.false_eq_true, if_false, List.nil_append,
    List.singleton_append, List.cons.injEq, true_and]
  apply List.filter_congr
  intro j hj
  obtain ⟨x, _, rfl⟩ := List.mem_map.1 hj
  rw [decide_eq_true (Nat.le_trans (Nat.le_succ a) (Nat.le_add_right _ x)), decide_eq_true (Nat.le_add_right _ x)]

theorem filterFrom_least (p : Nat → Bool) (n a j : Nat) (hj : LeastFrom p a j) (hjn : j < n) :
    filterFrom p n a = j :: filterFrom p n (j + 1) := by
  rw [filterFrom_skip_to p n a j hj.1 hj.2.2]
  exact filterFrom_cons p n j hjn hj.2.1

end SkaModel.Lemmas
