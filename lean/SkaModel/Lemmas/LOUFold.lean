/-
`buildGraphU` (sample sets merged): a lookup in its colour map is the union of the sample sets of all
coloured k-mers with that key (`LOU.lookup_buildGraphU` in `LOCFold.lean`; each set strictly increasing, as
`rowGraph` lists the samples by index), so it depends only on which entries there are.
When entries with the same key carry the same set (`ColourCons`), the fold of `addColourU` and the
first-wins fold of `addColour` build the same list.
-/
import SkaModel.Lemmas.LOUSorted
import SkaModel.Lemmas.LORealColours
import SkaModel.Lemmas.LOCFold

namespace SkaModel.LOU

open SkaModel SkaModel.Skalo SkaModel.LORL

theorem rowGraph_samples_sorted (W k key : Nat) (cells : List UInt8) :
    ∀ e ∈ (rowGraph W k key cells).2, SInc e.2 := by
  unfold rowGraph
  generalize decodeKmer W k key = lr
  obtain ⟨left, right⟩ := lr
  refine LO.foldl_inv (fun (acc : List (Nat × Nat) × List (Nat × List Nat)) => ∀ e ∈ acc.2, SInc e.2) _ _
    (fun acc n _ h e he => ?_) _ (by simp)
  simp only [List.mem_append, List.mem_cons, List.not_mem_nil, or_false] at he
  rcases he with he | he | he
  · exact h e he
  · rw [he]; exact LOG.samples_sorted _ _
  · rw [he]; exact LOG.samples_sorted _ _

theorem colourEntries_sorted (W : Nat) (a : Arr) : ∀ e ∈ colourEntries W a, SInc e.2 := by
  intro e he
  unfold colourEntries at he
  obtain ⟨kv, _, h⟩ := List.mem_flatMap.mp he
  exact rowGraph_samples_sorted W a.k kv.1 kv.2 e h

theorem buildGraphU_lookup_none (W : Nat) (a : Arr) (f : Nat) :
    Assoc.lookup (buildGraphU W a).2 f = none ↔ ∀ e ∈ colourEntries W a, e.1 ≠ f := by
  rw [lookup_buildGraphU, ← Assoc.entriesAt_eq_nil (β := Nat × List Nat) (·.1)]
  split
  · exact ⟨fun _ => ‹_›, fun _ => rfl⟩
  · exact ⟨fun h => (nomatch h), fun h => absurd h ‹_›⟩

theorem buildGraphU_lookup_some (W : Nat) (a : Arr) (f : Nat) (S : List Nat)
    (h : Assoc.lookup (buildGraphU W a).2 f = some S) :
    SInc S ∧ ∀ i, i ∈ S ↔ ∃ e ∈ colourEntries W a, e.1 = f ∧ i ∈ e.2 := by
  rw [lookup_buildGraphU] at h
  split at h
  · cases h
  · obtain ⟨h1, h2⟩ := foldl_union (β := Nat × List Nat) (·.2) (Assoc.entriesAt (·.1) (colourEntries W a) f) []
      List.Pairwise.nil (fun e he => colourEntries_sorted W a e (List.mem_filter.1 he).1)
    rw [← Option.some.inj h]
    refine ⟨h1, fun i => (h2 i).trans ?_⟩
    simp only [List.not_mem_nil, false_or, List.mem_filter, beq_iff_eq, and_assoc]

theorem buildGraphU_lookup_congr (W : Nat) (a a' : Arr)
    (hm : ∀ e, e ∈ colourEntries W a' ↔ e ∈ colourEntries W a) (f : Nat) :
    Assoc.lookup (buildGraphU W a').2 f = Assoc.lookup (buildGraphU W a).2 f := by
  cases h : Assoc.lookup (buildGraphU W a).2 f with
  | none =>
    rw [buildGraphU_lookup_none] at h ⊢
    exact fun e he => h e ((hm e).mp he)
  | some S =>
    cases h' : Assoc.lookup (buildGraphU W a').2 f with
    | none =>
      rw [buildGraphU_lookup_none] at h'
      rw [(buildGraphU_lookup_none W a f).mpr fun e he => h' e ((hm e).mpr he)] at h
      cases h
    | some S' =>
      obtain ⟨s1, m1⟩ := buildGraphU_lookup_some W a f S h
      obtain ⟨s2, m2⟩ := buildGraphU_lookup_some W a' f S' h'
      rw [eq_of_sorted_mem s2 s1 fun i => by
        rw [m1, m2]
        exact exists_congr fun e => and_congr_left' (hm e)]

theorem colourEntries_perm (W : Nat) (a a' : Arr) (hk : a'.k = a.k)
    (hp : (a'.kmers.zip a'.variants).Perm (a.kmers.zip a.variants)) :
    (colourEntries W a').Perm (colourEntries W a) := by
  unfold colourEntries
  rw [hk]
  exact List.Perm.flatMap_right _ hp

/-- entries with the same key have the same sample set -/
def Cons (cs : List (Nat × List Nat)) : Prop :=
  ∀ e1 ∈ cs, ∀ e2 ∈ cs, e1.1 = e2.1 → e1.2 = e2.2

instance (cs : List (Nat × List Nat)) : Decidable (Cons cs) := by
  unfold Cons; infer_instance

/-- **ColourCons**: the coloured k-mers of the rows of a table are consistent: a k-mer that is entered
several times (from several rows, or as a k-mer and as a reverse complement) has the same sample set
every time -/
def ColourCons (W : Nat) (a : Arr) : Prop :=
  ∀ e1 ∈ colourEntries W a, ∀ e2 ∈ colourEntries W a, e1.1 = e2.1 → e1.2 = e2.2

instance (W : Nat) (a : Arr) : Decidable (ColourCons W a) := by
  unfold ColourCons; infer_instance

def colourConsB (W : Nat) (a : Arr) : Bool :=
  (colourEntries W a).all (fun e1 => (colourEntries W a).all (fun e2 => e1.1 != e2.1 || e1.2 == e2.2))

theorem upsert_congr {ν : Type} (d : Assoc Nat ν) (key : Nat) (ins : ν) (f g : ν → ν)
    (h : ∀ v, Assoc.lookup d key = some v → f v = g v) :
    Assoc.upsert d key ins f = Assoc.upsert d key ins g := by
  induction d with
  | nil => rfl
  | cons p rest ih =>
    obtain ⟨k, v⟩ := p
    rw [Assoc.upsert_cons, Assoc.upsert_cons]
    by_cases hk : (k == key) = true
    · rw [if_pos hk, if_pos hk, h v (by rw [Assoc.lookup_cons, if_pos hk])]
    · rw [if_neg hk, if_neg hk, ih (fun v hv => h v (by rw [Assoc.lookup_cons, if_neg hk]; exact hv))]

theorem addColourU_eq_addColour (c : Colours) (k : Nat) (s : List Nat)
    (h : ∀ v, Assoc.lookup c k = some v → v = s) : addColourU c k s = addColour c k s := by
  unfold addColourU addColour
  apply upsert_congr
  intro v hv
  rw [h v hv, unionSorted_self]
  rfl

theorem lookup_addColourU (c : Colours) (k : Nat) (s : List Nat) (f : Nat) :
    Assoc.lookup (addColourU c k s) f =
      if k == f then some (match Assoc.lookup c k with | none => s | some S => unionSorted S s)
      else Assoc.lookup c f := by
  unfold addColourU
  rw [Assoc.lookup_upsert]
  cases Assoc.lookup c k <;> rfl

theorem lookup_addColour (c : Colours) (k : Nat) (s : List Nat) (f : Nat) :
    Assoc.lookup (addColour c k s) f =
      if k == f then some (match Assoc.lookup c k with | none => s | some S => S)
      else Assoc.lookup c f := by
  unfold addColour
  rw [Assoc.lookup_upsert]
  cases Assoc.lookup c k <;> rfl

theorem foldl_addColourU_eq (cs : List (Nat × List Nat)) :
    ∀ (c : Colours), Cons cs → (∀ e ∈ cs, ∀ v, Assoc.lookup c e.1 = some v → v = e.2) →
      cs.foldl (fun c e => addColourU c e.1 e.2) c = cs.foldl (fun c e => addColour c e.1 e.2) c := by
  induction cs with
  | nil => intro c _ _; rfl
  | cons e cs ih =>
    intro c hc hs
    rw [List.foldl_cons, List.foldl_cons, addColourU_eq_addColour c e.1 e.2 (hs e List.mem_cons_self)]
    apply ih
    · intro e1 h1 e2 h2
      exact hc e1 (List.mem_cons_of_mem _ h1) e2 (List.mem_cons_of_mem _ h2)
    -- what is stored after entering `e` still agrees with the remaining entries
    · intro e' he' v hv
      rw [lookup_addColour] at hv
      by_cases hk : (e.1 == e'.1) = true
      · rw [if_pos hk] at hv
        rw [← hc e List.mem_cons_self e' (List.mem_cons_of_mem _ he') (eq_of_beq hk), ← Option.some.inj hv]
        cases hl : Assoc.lookup c e.1 with
        | none => rfl
        | some S => exact hs e List.mem_cons_self S hl
      · rw [if_neg hk] at hv
        exact hs e' (List.mem_cons_of_mem _ he') v hv

theorem buildGraphU_snd_eq (W : Nat) (a : Arr) (h : ColourCons W a) :
    (buildGraphU W a).2 = (buildGraph W a).2 := by
  rw [buildGraphU_snd, buildGraph_snd]
  exact foldl_addColourU_eq _ [] h (fun e _ v hv => by simp [Assoc.lookup] at hv)

end SkaModel.LOU
