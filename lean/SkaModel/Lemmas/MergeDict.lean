/-
`MergeSkaDict` and the table it stands for: the `0 ↦ '-'` map of `MergeSkaArray::new`,
dictionary-level well-formedness and abstraction, the `to_dict`/`new` round trip, and
`extend` as a refinement of `Table.concat`.
-/
import SkaModel.Spec.Abs
import SkaModel.Lemmas.TableLemmas

namespace SkaModel

open Spec

/-- `u8::max(b, b'-')` -/
def fixCell (b : UInt8) : UInt8 := max b GAP

theorem fixCell_eq (b : UInt8) : fixCell b = if b ≤ GAP then GAP else b := rfl

theorem fixCell_of_ge {b : UInt8} (h : GAP ≤ b) : fixCell b = b := by
  rw [fixCell_eq]
  split
  · rename_i h'; exact UInt8.le_antisymm h h'
  · rfl

theorem gap_le_fixCell (b : UInt8) : GAP ≤ fixCell b := by
  rw [fixCell_eq]
  split
  · exact UInt8.le_refl _
  · rename_i h'; exact UInt8.le_of_lt (UInt8.not_le.mp h')

theorem fixCell_ne_zero (b : UInt8) : fixCell b ≠ 0 := by
  intro h
  have := gap_le_fixCell b
  rw [h] at this
  exact absurd this (by decide)

theorem fixCell_zero : fixCell 0 = GAP := by decide

theorem map_fixCell_of_ge {row : List UInt8} (h : ∀ b ∈ row, GAP ≤ b) : row.map fixCell = row := by
  rw [List.map_congr_left (g := id)]
  · simp
  · intro b hb; exact fixCell_of_ge (h b hb)

/-- every stored cell is a real symbol: `'-'` (45) or a letter (all letters are ≥ 65) -/
def Arr.CellsGE (a : Arr) : Prop := ∀ row ∈ a.variants, ∀ b ∈ row, GAP ≤ b

theorem Arr.CellsGE.noZero {a : Arr} (h : a.CellsGE) : a.NoZero := by
  intro row hr b hb e
  have := h row hr b hb
  rw [e] at this
  exact absurd this (by decide)

structure MDict.WF (d : MDict) : Prop where
  nS : d.nSamples = d.names.length
  rowLen : ∀ kv ∈ d.kmers, kv.2.length = d.nSamples
  nodup : (Assoc.keys d.kmers).Nodup

/-- cells of a dictionary built from files: 0 (absent) or a real symbol -/
def MDict.Cells (d : MDict) : Prop := ∀ kv ∈ d.kmers, ∀ b ∈ kv.2, b = 0 ∨ GAP ≤ b

/-- the table a dictionary stands for (what `MergeSkaArray::new` will write) -/
def MDict.abs (d : MDict) : Table :=
  { names := d.names, rows := d.kmers.map (fun kv => (kv.1, kv.2.map fixCell)) }

theorem ofDict_abs (W : Nat) (d : MDict) : (Arr.ofDict W d).abs = d.abs := by
  simp only [Arr.abs, Arr.ofDict, MDict.abs, List.zip_map']
  rfl

theorem ofDict_k (W : Nat) (d : MDict) : (Arr.ofDict W d).k = d.k := rfl
theorem ofDict_rc (W : Nat) (d : MDict) : (Arr.ofDict W d).rc = d.rc := rfl
theorem ofDict_names (W : Nat) (d : MDict) : (Arr.ofDict W d).names = d.names := rfl

theorem ofDict_cellsGE (W : Nat) (d : MDict) : (Arr.ofDict W d).CellsGE := by
  intro row hr b hb
  simp only [Arr.ofDict, List.mem_map] at hr
  obtain ⟨kv, _, rfl⟩ := hr
  simp only [List.mem_map] at hb
  obtain ⟨c, _, rfl⟩ := hb
  exact gap_le_fixCell c

theorem ofDict_counts (W : Nat) (d : MDict) (hc : d.Cells) :
    (Arr.ofDict W d).counts = (Arr.ofDict W d).variants.map (Arr.cellCount false) := by
  simp only [Arr.ofDict, List.map_map]
  apply List.map_congr_left
  intro kv hkv
  simp only [Function.comp_def, Arr.cellCount, Bool.not_false, Bool.true_or, Bool.and_true,
    List.filter_map, List.length_map]
  congr 1
  apply List.filter_congr
  intro b hb
  rcases hc kv hkv b hb with h | h
  · subst h; decide
  · have h0 : b ≠ 0 := by
      intro e; rw [e] at h; exact absurd h (by decide)
    have : max b GAP = b := fixCell_of_ge h
    rw [this]
    simp [h0]

theorem toDict_kmers (a : Arr) (ha : a.WF) : a.toDict.kmers = a.kmers.zip a.variants := by
  have hk : (Assoc.keys (a.kmers.zip a.variants)).Nodup := by
    rw [Assoc.keys, List.map_fst_zip (Nat.le_of_eq ha.lenV.symm)]
    exact ha.nodup
  show (a.variants.zip a.kmers).foldl _ [] = _
  rw [← ZipFilter.zip_swap a.kmers a.variants, List.foldl_map]
  -- `HashMap::insert` of pairwise distinct keys into the empty map
  refine (Assoc.foldUpsert_eq (fun kb => kb.2) (fun kb _ => kb.2) [] _ List.nodup_nil hk).trans ?_
  simp

theorem toDict_keys (a : Arr) (ha : a.WF) : Assoc.keys a.toDict.kmers = a.kmers := by
  rw [toDict_kmers a ha, Assoc.keys]
  exact List.map_fst_zip (by rw [ha.lenV]; exact Nat.le_refl _)

theorem toDict_wf (a : Arr) (ha : a.WF) : a.toDict.WF where
  nS := rfl
  rowLen := by
    intro kv hkv
    rw [toDict_kmers a ha] at hkv
    exact ha.rowLen _ (List.of_mem_zip hkv).2
  nodup := by rw [toDict_keys a ha]; exact ha.nodup

theorem toDict_cells (a : Arr) (ha : a.WF) (hc : a.CellsGE) : a.toDict.Cells := by
  intro kv hkv b hb
  rw [toDict_kmers a ha] at hkv
  exact Or.inr (hc _ (List.of_mem_zip hkv).2 b hb)

theorem toDict_abs (a : Arr) (ha : a.WF) (hc : a.CellsGE) : a.toDict.abs = a.abs := by
  simp only [MDict.abs, Arr.abs]
  rw [toDict_kmers a ha]
  congr 1
  rw [List.map_congr_left (g := id)]
  · simp
  · intro kv hkv
    have := map_fixCell_of_ge (hc _ (List.of_mem_zip hkv).2)
    simp only [this]; rfl

/-- the dictionary `extend` returns -/
def MDict.extendKmers (d o : MDict) : Assoc Nat (List UInt8) :=
  d.kmers.map (fun kv => (kv.1, kv.2 ++ (Assoc.lookup o.kmers kv.1).getD (List.replicate o.nSamples 0)))
  ++ (o.kmers.filter (fun kv => !(Assoc.keys d.kmers).contains kv.1)).map
      (fun kv => (kv.1, List.replicate d.nSamples 0 ++ kv.2))

def MDict.extendResult (d o : MDict) : MDict :=
  { d with names := d.names ++ o.names, nSamples := d.nSamples + o.nSamples, kmers := d.extendKmers o }

theorem extend_eq (d o : MDict) (hd : d.WF) (ho : o.WF) (hk : o.k = d.k) (hrc : o.rc = d.rc) :
    d.extend o = .ok (d.extendResult o) := by
  unfold MDict.extend
  simp only [hk, hrc, bne_self_eq_false, Bool.false_eq_true, if_false]
  congr 1
  simp only [MDict.extendResult, MDict.extendKmers]
  congr 1
  rw [show o.kmers.foldl _ d.kmers = _ from
    Assoc.foldUpsert_eq (fun kv => List.replicate d.nSamples (0 : UInt8) ++ kv.2) (fun kv row => row ++ kv.2)
      d.kmers o.kmers hd.nodup ho.nodup]
  simp only [List.map_append, List.map_map]
  congr 1
  · apply List.map_congr_left
    intro kv hkv
    have hl := hd.rowLen kv hkv
    simp only [Function.comp_def]
    cases hlk : Assoc.lookup o.kmers kv.1 with
    | none =>
      by_cases hz : o.nSamples = 0
      · simp [hl, hz]
      · simp [hl, hz]
    | some v =>
      have hv := ho.rowLen _ (Assoc.mem_of_lookup hlk)
      simp only [Option.getD_some, List.length_append, hl]
      simp at hv
      simp [hv]
  · apply List.map_congr_left
    intro kv hkv
    have hv := ho.rowLen kv (List.mem_filter.mp hkv).1
    simp [hv]

theorem extendResult_cells (d o : MDict) (hd : d.Cells) (ho : o.Cells) : (d.extendResult o).Cells := by
  intro kv hkv b hb
  simp only [MDict.extendResult, MDict.extendKmers, List.mem_append, List.mem_map] at hkv
  rcases hkv with ⟨x, hx, rfl⟩ | ⟨x, hx, rfl⟩
  · simp only [List.mem_append] at hb
    rcases hb with hb | hb
    · exact hd x hx b hb
    · cases hlk : Assoc.lookup o.kmers x.1 with
      | none =>
        rw [hlk] at hb
        simp only [Option.getD_none, List.mem_replicate] at hb
        exact Or.inl hb.2
      | some v =>
        rw [hlk] at hb
        exact ho _ (Assoc.mem_of_lookup hlk) b hb
  · simp only [List.mem_append, List.mem_replicate] at hb
    rcases hb with hb | hb
    · exact Or.inl hb.2
    · exact ho x (List.mem_filter.mp hx).1 b hb

theorem MDict.abs_keys (d : MDict) : d.abs.keys = Assoc.keys d.kmers := by
  simp [MDict.abs, Table.keys, Assoc.keys, List.map_map, Function.comp_def]

theorem MDict.wf_iff_abs (d : MDict) : d.WF ↔ d.nSamples = d.names.length ∧ Table.WF d.abs := by
  have hk : d.abs.rows.map (·.1) = Assoc.keys d.kmers := MDict.abs_keys d
  constructor
  · intro h
    refine ⟨h.nS, fun r hr => ?_, hk ▸ h.nodup⟩
    obtain ⟨kv, hkv, rfl⟩ := List.mem_map.1 hr
    exact (List.length_map _).trans ((h.rowLen kv hkv).trans h.nS)
  · rintro ⟨hn, hr, hnd⟩
    exact ⟨hn, fun kv hkv => ((List.length_map (as := kv.2) fixCell).symm.trans
      (hr _ (List.mem_map.2 ⟨kv, hkv, rfl⟩))).trans hn.symm, hk ▸ hnd⟩

theorem ofDict_wf (W : Nat) (d : MDict) (hd : d.WF) : (Arr.ofDict W d).WF :=
  Arr.wf_of_abs (by simp [Arr.ofDict]) (by simp [Arr.ofDict])
    (ofDict_abs W d ▸ ((MDict.wf_iff_abs d).1 hd).2)

theorem MDict.abs_width (d : MDict) (hd : d.WF) : d.abs.width = d.nSamples := by
  simp [MDict.abs, Table.width, hd.nS]

theorem MDict.abs_lookup (d : MDict) (k : Nat) :
    d.abs.lookupRow k = (Assoc.lookup d.kmers k).map (fun r => r.map fixCell) :=
  Assoc.lookup_map_val _ _ _

theorem extendResult_abs (d o : MDict) (hd : d.WF) (ho : o.WF) :
    (d.extendResult o).abs = d.abs.concat o.abs := by
  show Table.mk _ _ = Table.mk _ _
  congr 1
  have h1 : d.abs.keys.Nodup := by rw [MDict.abs_keys]; exact hd.nodup
  have h2 : o.abs.keys.Nodup := by rw [MDict.abs_keys]; exact ho.nodup
  change _ = (d.abs.concat o.abs).rows
  rw [Table.concat_rows_eq _ _ h1 h2, MDict.abs_width d hd, MDict.abs_width o ho, MDict.abs_keys]
  simp only [MDict.extendResult, MDict.extendKmers, List.map_append, List.map_map]
  congr 1
  · simp only [MDict.abs, List.map_map]
    apply List.map_congr_left
    intro kv _
    simp only [Function.comp_def, List.map_append]
    have := MDict.abs_lookup o kv.1
    simp only [MDict.abs] at this
    rw [this]
    cases Assoc.lookup o.kmers kv.1 with
    | none => simp [fixCell_zero, gap_eq]
    | some v => simp
  · simp only [MDict.abs, List.filter_map, List.map_map]
    apply List.map_congr_left
    intro kv _
    simp [fixCell_zero, gap_eq]

theorem extendResult_wf (d o : MDict) (hd : d.WF) (ho : o.WF) : (d.extendResult o).WF := by
  refine (MDict.wf_iff_abs _).2 ⟨by simp [MDict.extendResult, hd.nS, ho.nS], ?_⟩
  rw [extendResult_abs d o hd ho]
  exact Table.concat_wf _ _ ((MDict.wf_iff_abs d).1 hd).2 ((MDict.wf_iff_abs o).1 ho).2

end SkaModel
