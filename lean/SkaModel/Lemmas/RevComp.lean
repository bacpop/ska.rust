/-
The base-reversal network `reverseGroups` and `revComp`, bit by bit. A stage is right for a reason
that is checked on its mask as a word (`StageOk`); which permutation the stages compose to, and the
complementing constant, are evaluated over the `W` bit positions.
-/
import SkaModel.Lemmas.Pack

namespace SkaModel

open SkaModel.Spec

/-- the source position of bit `i` after one swap stage with distance `s` and mask `m` -/
def flipIdx (s m i : Nat) : Nat := if m.testBit i then i + s else i - s

theorem swapStage_lt (W x s m : Nat) (hx : x < 2 ^ W) : swapStage W x s m < 2 ^ W := by
  unfold swapStage shl
  apply Nat.or_lt_two_pow
  · exact Nat.lt_of_le_of_lt (Nat.le_trans Nat.and_le_left (Nat.shiftRight_le _ _)) hx
  · exact Nat.mod_lt _ (Nat.pow_pos (by decide))

/-- a stage is well formed for width `W`: shifted by its distance, the mask loses no bit and
becomes its own complement (so it alternates in blocks of `s` bits, starting with a set block) -/
def StageOk (W : Nat) (sm : Nat × Nat) : Prop :=
  sm.2 <<< sm.1 < 2 ^ W ∧ (sm.2 <<< sm.1) ^^^ sm.2 = 2 ^ W - 1

instance (W : Nat) (sm : Nat × Nat) : Decidable (StageOk W sm) := by
  unfold StageOk; infer_instance

/-- Read bit by bit, `StageOk` says that bit `i - s` of the mask (where there is one) is the negation
of bit `i`, so exactly one of the two halves of the stage contributes to bit `i`. -/
theorem swapStage_testBit {W : Nat} {sm : Nat × Nat} (h : StageOk W sm) (x : Nat) {i : Nat}
    (hi : i < W) :
    flipIdx sm.1 sm.2 i < W ∧
      (swapStage W x sm.1 sm.2).testBit i = x.testBit (flipIdx sm.1 sm.2 i) := by
  have hm : (decide (sm.1 ≤ i) && sm.2.testBit (i - sm.1)) = !sm.2.testBit i := by
    have := congrArg (Nat.testBit · i) h.2
    simp only [Nat.testBit_xor, Nat.testBit_shiftLeft, Nat.testBit_two_pow_sub_one, hi,
      decide_true, ge_iff_le] at this
    revert this
    cases decide (sm.1 ≤ i) && sm.2.testBit (i - sm.1) <;> cases sm.2.testBit i <;> decide
  unfold swapStage shl flipIdx
  simp only [Nat.testBit_or, Nat.testBit_and, Nat.testBit_shiftRight, Nat.testBit_mod_two_pow,
    Nat.testBit_shiftLeft]
  rw [decide_eq_true hi, Bool.true_and, Bool.and_left_comm, hm]
  cases hb : sm.2.testBit i
  · simp only [Bool.and_false, Bool.false_or, Bool.not_false, Bool.and_true, Bool.false_eq_true,
      ↓reduceIte, and_true]
    exact Nat.lt_of_le_of_lt (Nat.sub_le _ _) hi
  · simp only [Bool.and_true, Bool.not_true, Bool.and_false, Bool.or_false, ↓reduceIte,
      Nat.add_comm, and_true]
    -- a set bit `i` is still in the word after the shift, at `i + s`
    refine (Nat.pow_lt_pow_iff_right (a := 2) (by decide)).1 (Nat.lt_of_le_of_lt ?_ h.1)
    rw [Nat.pow_add, Nat.shiftLeft_eq]
    exact Nat.mul_le_mul_right _ (Nat.ge_two_pow_of_testBit hb)

def permIdx (l : List (Nat × Nat)) (i : Nat) : Nat := l.foldr (fun sm j => flipIdx sm.1 sm.2 j) i

theorem foldl_stages (W : Nat) (l : List (Nat × Nat)) (hl : ∀ sm ∈ l, StageOk W sm)
    (x i : Nat) (hi : i < W) :
    permIdx l i < W ∧
    (l.foldl (fun acc sm => swapStage W acc sm.1 sm.2) x).testBit i = x.testBit (permIdx l i) := by
  induction l generalizing x with
  | nil => exact ⟨hi, rfl⟩
  | cons sm l ih =>
    have hl' : ∀ sm ∈ l, StageOk W sm := fun a ha => hl a (List.mem_cons_of_mem _ ha)
    obtain ⟨hb, _⟩ := ih hl' x
    obtain ⟨hlt, e⟩ := swapStage_testBit (hl sm List.mem_cons_self) x hb
    exact ⟨hlt, by rw [List.foldl_cons, (ih hl' _).2, e]; rfl⟩

theorem foldl_stages_lt (W : Nat) (l : List (Nat × Nat)) (x : Nat) (hx : x < 2 ^ W) :
    l.foldl (fun acc sm => swapStage W acc sm.1 sm.2) x < 2 ^ W := by
  induction l generalizing x with
  | nil => exact hx
  | cons sm l ih => exact ih _ (swapStage_lt W x sm.1 sm.2 hx)

/-- position of bit `i` in the word with its `W/2` two-bit groups reversed -/
def revIdx (W i : Nat) : Nat := W - 2 * (i / 2 + 1) + i % 2

theorem stages_ok (W : Nat) (hW : W = 64 ∨ W = 128) : ∀ sm ∈ rcStages W, StageOk W sm := by
  rcases hW with rfl | rfl
  · decide +kernel
  · decide +kernel

theorem bits_ok (W : Nat) (hW : W = 64 ∨ W = 128) :
    rcXor W < 2 ^ W ∧ ∀ i, i < W →
      permIdx (rcStages W) i = revIdx W i ∧ (rcXor W).testBit i = decide (i % 2 = 1) := by
  rcases hW with rfl | rfl
  · decide +kernel
  · decide +kernel

theorem width_even {W : Nat} (hW : W = 64 ∨ W = 128) : W = 2 * (W / 2) := by
  rcases hW with rfl | rfl <;> rfl

/-- a word of `d` groups, then group `q`, then `g'` more: bit `b` of group `d + q` comes from
group `g'` -/
theorem revIdx_mirror {d q g' b : Nat} (hb : b < 2) :
    2 * d + (2 * q + b) < 2 * (d + (q + 1 + g')) ∧
      revIdx (2 * (d + (q + 1 + g'))) (2 * d + (2 * q + b)) = 2 * g' + b := by
  rw [← Nat.add_assoc (2 * d), ← Nat.mul_add, ← Nat.add_assoc d, ← Nat.add_assoc d,
    Nat.mul_add 2 (d + q + 1)]
  refine ⟨Nat.lt_of_lt_of_le (Nat.add_lt_add_left hb _) (Nat.le_add_right _ _), ?_⟩
  unfold revIdx
  rw [Nat.mul_add_div (by decide), Nat.div_eq_of_lt hb, Nat.mul_add_mod, Nat.mod_eq_of_lt hb,
    Nat.add_zero, Nat.add_sub_cancel_left]

theorem revComp_testBit (W : Nat) (hW : W = 64 ∨ W = 128) (x n : Nat) (hn : n ≤ W / 2)
    {q g' b : Nat} (hb : b < 2) (hg : q + 1 + g' = n) :
    (revComp W x n).testBit (2 * q + b) = (x.testBit (2 * g' + b) ^^ decide (b = 1)) := by
  have hW2 : W = 2 * (W / 2 - n + (q + 1 + g')) := by
    rw [hg, Nat.sub_add_cancel hn]; exact width_even hW
  unfold revComp reverseGroups
  generalize W / 2 - n = d at hW2 ⊢
  obtain ⟨hlt, hrev⟩ := revIdx_mirror (d := d) (q := q) (g' := g') hb
  rw [← hW2] at hlt hrev
  obtain ⟨hperm, hxor⟩ := (bits_ok W hW).2 _ hlt
  rw [Nat.testBit_shiftRight, Nat.testBit_xor, hxor,
    (foldl_stages W _ (stages_ok W hW) x _ hlt).2, hperm, hrev, ← Nat.add_assoc, ← Nat.mul_add,
    Nat.mul_add_mod, Nat.mod_eq_of_lt hb]

theorem revComp_lt (W : Nat) (hW : W = 64 ∨ W = 128) (x n : Nat) (hx : x < 2 ^ W)
    (hn : n ≤ W / 2) : revComp W x n < 2 ^ (2 * n) := by
  unfold revComp
  rw [Nat.shiftRight_eq_div_pow]
  apply Nat.div_lt_of_lt_mul
  rw [← Nat.pow_add, ← Nat.mul_add, Nat.sub_add_cancel hn, ← width_even hW]
  exact Nat.xor_lt_two_pow (foldl_stages_lt W _ x hx) (bits_ok W hW).1

theorem two_testBit : ∀ b, b < 2 → (2 : Nat).testBit b = decide (b = 1) := by decide

theorem packL_testBit_group (cs : List Nat) (h : Codes cs) (q : Nat) {b : Nat} (hb : b < 2) :
    (packL cs).testBit (2 * q + b) = (cs.reverse.getD q 0).testBit b := by
  rw [packL_testBit cs h, Nat.mul_add_div (by decide), Nat.div_eq_of_lt hb, Nat.mul_add_mod,
    Nat.mod_eq_of_lt hb]
  rfl

theorem revComp_packL (W : Nat) (hW : W = 64 ∨ W = 128) (cs : List Nat) (hc : Codes cs)
    (n : Nat) (hlen : cs.length = n) (hn : n ≤ W / 2) :
    revComp W (packL cs) n = packL (rcCodes cs) := by
  subst hlen
  apply Nat.eq_of_testBit_eq
  intro i
  obtain ⟨q, b, hb, rfl⟩ : ∃ q b, b < 2 ∧ i = 2 * q + b :=
    ⟨i / 2, i % 2, Nat.mod_lt _ (by decide), (Nat.div_add_mod i 2).symm⟩
  rw [packL_testBit_group _ (rcCodes_codes hc) q hb, rcCodes, ← List.map_reverse,
    List.reverse_reverse, List.getD_eq_getElem?_getD, List.getElem?_map]
  by_cases hq : q < cs.length
  · obtain ⟨g', hg⟩ : ∃ g', q + 1 + g' = cs.length := Nat.le.dest hq
    -- group `g'` from the end is group `q` from the front
    rw [revComp_testBit W hW _ _ hn hb hg, packL_testBit_group _ hc g' hb,
      List.getD_eq_getElem?_getD,
      List.getElem?_reverse' ((Nat.add_assoc g' q 1).trans ((Nat.add_comm g' (q + 1)).trans hg)),
      List.getElem?_eq_getElem hq,
      Option.map_some, Option.getD_some, Option.getD_some, Nat.testBit_xor, two_testBit _ hb]
  · have hq := Nat.le_of_not_lt hq
    rw [List.getElem?_eq_none hq, Option.map_none, Option.getD_none, Nat.zero_testBit]
    have hx : packL cs < 2 ^ W :=
      packL_lt_two_pow hc (Nat.le_trans (Nat.mul_le_mul_left 2 hn) (width_even hW ▸ Nat.le_refl W))
    exact Nat.testBit_lt_two_pow (Nat.lt_of_lt_of_le (revComp_lt W hW _ _ hx hn)
      (Nat.pow_le_pow_right (by decide)
        (Nat.le_trans (Nat.mul_le_mul_left 2 hq) (Nat.le_add_right _ _))))

end SkaModel
