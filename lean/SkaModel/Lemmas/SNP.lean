/-
C03 groundwork: families of equal-length A/C/G/T samples, their variable sites,
repeat-freeness and isolation; what one window and one cell of the joint-build
table look like under those hypotheses.
-/
import SkaModel.Spec.BuildTable
import SkaModel.Lemmas.MaskOf
import SkaModel.Lemmas.Windows

namespace SkaModel.SNP

open SkaModel SkaModel.Spec

/-- upper-case A, C, G, T -/
def acgt (b : UInt8) : Bool := b == 65 || b == 67 || b == 71 || b == 84

theorem acgt_cases {b : UInt8} (h : acgt b = true) : b = 65 ∨ b = 67 ∨ b = 71 ∨ b = 84 := by
  simpa [acgt, or_assoc] using h

theorem acgt_valid {b : UInt8} (h : acgt b = true) : validBase b = true := by
  rcases acgt_cases h with rfl | rfl | rfl | rfl <;> decide

theorem decode_code {b : UInt8} (h : acgt b = true) : decodeBase (code b) = b := by
  rcases acgt_cases h with rfl | rfl | rfl | rfl <;> decide

theorem code_inj {b b' : UInt8} (h : acgt b = true) (h' : acgt b' = true)
    (e : code b = code b') : b = b' := by
  rw [← decode_code h, ← decode_code h', e]

theorem decodeBase_inj {a b : Nat} (ha : a < 4) (hb : b < 4) (e : decodeBase a = decodeBase b) :
    a = b := by
  have h4 : ∀ a b : Fin 4, decodeBase a.val = decodeBase b.val → a.val = b.val := by decide
  exact h4 ⟨a, ha⟩ ⟨b, hb⟩ e

theorem decodeBase_ne_gap (a : Nat) : decodeBase a ≠ gap := by
  unfold decodeBase gap
  split
  · decide
  · split
    · decide
    · split <;> decide

theorem decodeBase_singleton {b : Nat} (hb : b < 4) :
    (1 <<< b ≠ 0) ∧ letterOfMask (1 <<< b) = decodeBase b := by
  have h4 : ∀ b : Fin 4, (1 <<< b.val ≠ 0) ∧ letterOfMask (1 <<< b.val) = decodeBase b.val := by
    decide
  exact h4 ⟨b, hb⟩

theorem xor2_inj {a b : Nat} (e : a ^^^ 2 = b ^^^ 2) : a = b := by
  rw [← xor2_xor2 a, ← xor2_xor2 b, e]

def varSite (S : List (Array UInt8)) (p : Nat) : Bool :=
  S.any fun s => S.any fun s' => s.getD p 0 != s'.getD p 0

def varSites (L : Nat) (S : List (Array UInt8)) : List Nat :=
  (List.range L).filter (varSite S)

structure Family (L : Nat) (S : List (Array UInt8)) : Prop where
  size : ∀ s ∈ S, s.size = L
  acgt : ∀ s ∈ S, ∀ p, p < L → acgt (s.getD p 0) = true

def familyB (L : Nat) (S : List (Array UInt8)) : Bool :=
  S.all fun s => s.size == L && (List.range L).all fun p => acgt (s.getD p 0)

theorem family_iff (L : Nat) (S : List (Array UInt8)) : familyB L S = true ↔ Family L S := by
  unfold familyB
  simp only [List.all_eq_true, Bool.and_eq_true, beq_iff_eq, List.mem_range]
  constructor
  · intro h
    exact ⟨fun s hs => (h s hs).1, fun s hs => (h s hs).2⟩
  · intro h s hs
    exact ⟨h.size s hs, h.acgt s hs⟩

/-- **Repeat-free on both strands**: a split k-mer key occurs at one coordinate
only, in every sample with the same arms (so on the same strand), and no window is
its own reverse complement. For `rc = false` the arms clause is automatic
(`RepeatFree.of_weak_rc_false`); for `rc = true` it cannot be dropped
(`Props/C03.lean`, `weak_repeatFree_counterexample`). -/
def RepeatFree (k : Nat) (rc : Bool) (L : Nat) (S : List (Array UInt8)) : Prop :=
  (∀ s ∈ S, ∀ s' ∈ S, ∀ j j', j + k ≤ L → j' + k ≤ L →
      (obs k rc s j).1 = (obs k rc s' j').1 → j = j' ∧ armsAt k s j = armsAt k s' j') ∧
  (∀ s ∈ S, ∀ j, j + k ≤ L → isPalin k rc s j = false)

/-- the literal reading of "every split k-mer is unique": equal keys only at equal coordinates -/
def RepeatFreeWeak (k : Nat) (rc : Bool) (L : Nat) (S : List (Array UInt8)) : Prop :=
  (∀ s ∈ S, ∀ s' ∈ S, ∀ j j', j + k ≤ L → j' + k ≤ L →
      (obs k rc s j).1 = (obs k rc s' j').1 → j = j') ∧
  (∀ s ∈ S, ∀ j, j + k ≤ L → isPalin k rc s j = false)

def repeatFreeB (k : Nat) (rc : Bool) (L : Nat) (S : List (Array UInt8)) : Bool :=
  (S.all fun s => S.all fun s' =>
    (List.range (L + 1 - k)).all fun j => (List.range (L + 1 - k)).all fun j' =>
      !((obs k rc s j).1 == (obs k rc s' j').1) || (j == j' && armsAt k s j == armsAt k s' j')) &&
  (S.all fun s => (List.range (L + 1 - k)).all fun j => !isPalin k rc s j)

def repeatFreeWeakB (k : Nat) (rc : Bool) (L : Nat) (S : List (Array UInt8)) : Bool :=
  (S.all fun s => S.all fun s' =>
    (List.range (L + 1 - k)).all fun j => (List.range (L + 1 - k)).all fun j' =>
      !((obs k rc s j).1 == (obs k rc s' j').1) || j == j') &&
  (S.all fun s => (List.range (L + 1 - k)).all fun j => !isPalin k rc s j)

theorem lt_windows_iff (k L j : Nat) : j < L + 1 - k ↔ j + k ≤ L :=
  Nat.lt_sub_iff_add_lt.trans Nat.lt_succ_iff

theorem repeatFree_iff (k : Nat) (rc : Bool) (L : Nat) (S : List (Array UInt8)) :
    repeatFreeB k rc L S = true ↔ RepeatFree k rc L S := by
  unfold repeatFreeB RepeatFree
  simp only [Bool.and_eq_true, List.all_eq_true, List.mem_range, lt_windows_iff,
    Bool.or_eq_true, Bool.not_eq_true', beq_eq_false_iff_ne, ne_eq, beq_iff_eq]
  exact ⟨fun ⟨h1, h2⟩ => ⟨fun s hs s' hs' j j' hj hj' e =>
      (h1 s hs s' hs' j hj j' hj').resolve_left fun h => h e, h2⟩,
    fun ⟨h1, h2⟩ => ⟨fun s hs s' hs' j hj j' hj' =>
      Decidable.not_or_of_imp (h1 s hs s' hs' j j' hj hj'), h2⟩⟩

theorem repeatFreeWeak_iff (k : Nat) (rc : Bool) (L : Nat) (S : List (Array UInt8)) :
    repeatFreeWeakB k rc L S = true ↔ RepeatFreeWeak k rc L S := by
  unfold repeatFreeWeakB RepeatFreeWeak
  simp only [Bool.and_eq_true, List.all_eq_true, List.mem_range, lt_windows_iff,
    Bool.or_eq_true, Bool.not_eq_true', beq_eq_false_iff_ne, ne_eq, beq_iff_eq]
  exact ⟨fun ⟨h1, h2⟩ => ⟨fun s hs s' hs' j j' hj hj' e =>
      (h1 s hs s' hs' j hj j' hj').resolve_left fun h => h e, h2⟩,
    fun ⟨h1, h2⟩ => ⟨fun s hs s' hs' j hj j' hj' =>
      Decidable.not_or_of_imp (h1 s hs s' hs' j j' hj hj'), h2⟩⟩

theorem RepeatFree.weak {k : Nat} {rc : Bool} {L : Nat} {S : List (Array UInt8)}
    (h : RepeatFree k rc L S) : RepeatFreeWeak k rc L S :=
  ⟨fun s hs s' hs' j j' hj hj' e => (h.1 s hs s' hs' j j' hj hj' e).1, h.2⟩

/-- on one strand the key determines the arms: the two notions coincide -/
theorem RepeatFree.of_weak_rc_false {k L : Nat} {S : List (Array UInt8)}
    (h : RepeatFreeWeak k false L S) : RepeatFree k false L S := by
  refine ⟨?_, h.2⟩
  intro s hs s' hs' j j' hj hj' e
  refine ⟨h.1 s hs s' hs' j j' hj hj' e, ?_⟩
  rw [obs_key, obs_key, if_neg (by simp), if_neg (by simp)] at e
  exact packL_inj (armsAt_codes k s j) (armsAt_codes k s' j')
    (by rw [armsAt_length, armsAt_length]) e

/-- **Isolated**: every variable site is at least `h = (k-1)/2` bases from both ends and
more than `h` bases from every other variable site -/
def Isolated (k L : Nat) (S : List (Array UInt8)) : Prop :=
  ∀ p ∈ varSites L S, (k - 1) / 2 ≤ p ∧ p + (k - 1) / 2 < L ∧
    ∀ q ∈ varSites L S, q ≠ p → p + (k - 1) / 2 < q ∨ q + (k - 1) / 2 < p

def isolatedB (k L : Nat) (S : List (Array UInt8)) : Bool :=
  (varSites L S).all fun p => decide ((k - 1) / 2 ≤ p) && decide (p + (k - 1) / 2 < L) &&
    (varSites L S).all fun q => q == p || decide (p + (k - 1) / 2 < q) || decide (q + (k - 1) / 2 < p)

theorem isolated_iff (k L : Nat) (S : List (Array UInt8)) :
    isolatedB k L S = true ↔ Isolated k L S := by
  unfold isolatedB Isolated
  simp only [List.all_eq_true, Bool.and_eq_true, decide_eq_true_eq, Bool.or_eq_true, beq_iff_eq,
    and_assoc, or_assoc]
  exact forall₂_congr fun p _ => and_congr_right fun _ => and_congr_right fun _ =>
    forall₂_congr fun q _ => Decidable.or_iff_not_imp_left

theorem varSite_true {S : List (Array UInt8)} {p : Nat} :
    varSite S p = true ↔ ∃ s ∈ S, ∃ s' ∈ S, s.getD p 0 ≠ s'.getD p 0 := by
  unfold varSite
  simp only [List.any_eq_true, bne_iff_ne, ne_eq]

theorem varSite_false {S : List (Array UInt8)} {p : Nat} (h : varSite S p = false)
    {s s' : Array UInt8} (hs : s ∈ S) (hs' : s' ∈ S) : s.getD p 0 = s'.getD p 0 := by
  apply Classical.byContradiction
  intro hne
  rw [varSite_true.mpr ⟨s, hs, s', hs', hne⟩] at h
  cases h

theorem mem_varSites {L : Nat} {S : List (Array UInt8)} {p : Nat} :
    p ∈ varSites L S ↔ p < L ∧ varSite S p = true := by
  unfold varSites
  simp only [List.mem_filter, List.mem_range]

theorem varSites_nodup (L : Nat) (S : List (Array UInt8)) : (varSites L S).Nodup :=
  List.Pairwise.filter _ List.nodup_range

theorem codesAt_congr {s s' : Array UInt8} {a n : Nat}
    (h : ∀ t, t < n → s.getD (a + t) 0 = s'.getD (a + t) 0) : codesAt s a n = codesAt s' a n :=
  List.map_congr_left fun t ht => by rw [h t (List.mem_range.mp ht)]

theorem armsAt_congr (k : Nat) (s s' : Array UInt8) (j : Nat)
    (h1 : ∀ t, t < (k - 1) / 2 → s.getD (j + t) 0 = s'.getD (j + t) 0)
    (h2 : ∀ t, t < (k - 1) / 2 →
      s.getD (j + (k - 1) / 2 + 1 + t) 0 = s'.getD (j + (k - 1) / 2 + 1 + t) 0) :
    armsAt k s j = armsAt k s' j := by
  show codesAt s j _ ++ codesAt s _ _ = codesAt s' j _ ++ codesAt s' _ _
  rw [codesAt_congr h1, codesAt_congr h2]

theorem obs_of_arms_eq {k : Nat} {rc : Bool} {s s' : Array UInt8} {j j' : Nat}
    (h : armsAt k s j = armsAt k s' j') :
    (obs k rc s j).1 = (obs k rc s' j').1 ∧ (obs k rc s j).2.2 = (obs k rc s' j').2.2 ∧
    ((obs k rc s j).2.1 = (obs k rc s' j').2.1 ↔ midAt k s j = midAt k s' j') := by
  unfold obs
  simp only [h]
  split
  · refine ⟨rfl, rfl, ?_⟩
    exact ⟨xor2_inj, fun e => by rw [e]⟩
  · exact ⟨rfl, rfl, Iff.rfl⟩

/-- the reported middle base is the true one, complemented when the strand flag is set -/
theorem obs_mid (k : Nat) (rc : Bool) (s : Array UInt8) (j : Nat) :
    (obs k rc s j).2.1 = if (obs k rc s j).2.2 then midAt k s j ^^^ 2 else midAt k s j := by
  unfold obs
  simp only
  split <;> simp

theorem mem_windows_family {L : Nat} {S : List (Array UInt8)} (hF : Family L S) {k : Nat}
    {s : Array UInt8} (hs : s ∈ S) (j : Nat) : j ∈ windows k s ↔ j + k ≤ L := by
  rw [mem_windows, hF.size s hs]
  constructor
  · exact fun h => h.1
  · intro h
    refine ⟨h, ?_⟩
    intro t ht
    exact acgt_valid (hF.acgt s hs (j + t) (Nat.lt_of_lt_of_le (Nat.add_lt_add_left ht j) h))

theorem obsMask_of_not_palin {k : Nat} {rc : Bool} {s : Array UInt8} {j : Nat}
    (h : isPalin k rc s j = false) : obsMask k rc s j = 1 <<< (obs k rc s j).2.1 := by
  unfold obsMask
  simp [h]

theorem maskOf_at {L : Nat} {S : List (Array UInt8)} (hF : Family L S) {k : Nat} {rc : Bool}
    (hR : RepeatFreeWeak k rc L S) {s : Array UInt8} (hs : s ∈ S) {j : Nat} (hj : j + k ≤ L) :
    maskOf (observations k rc [s]) (obs k rc s j).1 = 1 <<< (obs k rc s j).2.1 := by
  apply Nat.eq_of_testBit_eq
  intro i
  rw [maskOf_testBit, Bool.eq_iff_iff, List.any_eq_true]
  constructor
  · rintro ⟨o, ho, hp⟩
    rw [mem_observations_single] at ho
    obtain ⟨j', hj', rfl⟩ := ho
    simp only [Bool.and_eq_true, beq_iff_eq] at hp
    have hj'' := (mem_windows_family hF hs j').mp hj'
    have e := hR.1 s hs s hs j' j hj'' hj hp.1
    subst e
    rw [← obsMask_of_not_palin (hR.2 s hs j' hj)]
    exact hp.2
  · intro hb
    refine ⟨((obs k rc s j).1, obsMask k rc s j), ?_, ?_⟩
    · rw [mem_observations_single]
      exact ⟨j, (mem_windows_family hF hs j).mpr hj, rfl⟩
    · simp only [beq_self_eq_true, Bool.true_and]
      rw [obsMask_of_not_palin (hR.2 s hs j hj)]
      exact hb

theorem cell_at {L : Nat} {S : List (Array UInt8)} (hF : Family L S) {k : Nat} {rc : Bool}
    (hR : RepeatFreeWeak k rc L S) {s : Array UInt8} (hs : s ∈ S) {j : Nat} (hj : j + k ≤ L) :
    cellOfObs (observations k rc [s]) (obs k rc s j).1 = decodeBase (obs k rc s j).2.1 := by
  unfold cellOfObs
  simp only
  rw [maskOf_at hF hR hs hj]
  obtain ⟨h0, hl⟩ := decodeBase_singleton (obs_base_lt k rc s j)
  rw [hl, if_neg (by simp [h0])]

theorem cell_absent {L : Nat} {S : List (Array UInt8)} (hF : Family L S) {k : Nat} {rc : Bool}
    {s : Array UInt8} (hs : s ∈ S) {key : Nat}
    (hno : ∀ j, j + k ≤ L → (obs k rc s j).1 ≠ key) :
    cellOfObs (observations k rc [s]) key = gap := by
  have h0 : maskOf (observations k rc [s]) key = 0 :=
    maskOf_eq_zero_of_not_mem fun o ho => by
      obtain ⟨j, hj, rfl⟩ := (mem_observations_single k rc s o).mp ho
      exact hno j ((mem_windows_family hF hs j).mp hj)
  unfold cellOfObs
  simp [h0]

theorem cell_present {L : Nat} {S : List (Array UInt8)} (hF : Family L S) {k : Nat} {rc : Bool}
    {s : Array UInt8} (hs : s ∈ S) {key : Nat}
    (h : cellOfObs (observations k rc [s]) key ≠ gap) :
    ∃ j, j + k ≤ L ∧ (obs k rc s j).1 = key :=
  Classical.byContradiction fun hno => h (cell_absent hF hs fun j hj e => hno ⟨j, hj, e⟩)

end SkaModel.SNP
