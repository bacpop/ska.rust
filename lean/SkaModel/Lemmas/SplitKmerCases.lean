/-
The split k-mer state machine read by cases: what `build`, `new` and `rollFwd`
return, as facts about the result, so that no proof about the iterator has to
unfold them again; induction over the states of the iteration.
-/
import SkaModel.Impl.SplitKmer

namespace SkaModel.Lemmas

open SkaModel

theorem updateRc_index (c : SKConf) (s : SKState) : (c.updateRc s).index = s.index := rfl

theorem midIdx_eq {c : SKConf} (hkh : c.k = 2 * halfK c.k + 1) : c.midIdx = halfK c.k := by
  unfold SKConf.midIdx; omega

theorem build_some {c : SKConf} {idx : Nat} {b : Bool} {ix u l m : Nat} {hg : Option NtHash}
    (h : c.build idx b = some (ix, u, l, m, hg)) :
    idx + c.k ≤ c.seqLen ∧ ∃ st, c.buildLoop idx 0 0 0 0 = some (st, u, l, m) ∧
      ix = st + c.k - 1 ∧
      hg = if b then some (NtHash.new (c.windowAt st) c.k c.rc) else none := by
  unfold SKConf.build at h
  split at h
  · cases h
  · rename_i hfit
    split at h
    · cases h
    · rename_i st u' l' m' hloop
      cases h
      exact ⟨by omega, st, hloop, rfl, rfl⟩

theorem build_none {c : SKConf} {idx : Nat} {b : Bool} (h : c.build idx b = none) :
    c.seqLen < idx + c.k ∨ (idx + c.k ≤ c.seqLen ∧ c.buildLoop idx 0 0 0 0 = none) := by
  unfold SKConf.build at h
  split at h
  · left; omega
  · right
    split at h
    · rename_i hloop
      exact ⟨by omega, hloop⟩
    · cases h

/-- what `new` and the restart branch of `roll_fwd` make of the result `r` of `build`, field by
field: the state holds `r`, and `update_rc` has been applied when both strands are in use -/
structure Fresh (c : SKConf) (r : Nat × Nat × Nat × Nat × Option NtHash) (s : SKState) : Prop where
  index : s.index = r.1
  upper : s.upper = r.2.1
  lower : s.lower = r.2.2.1
  mid : s.mid = r.2.2.2.1
  hash : s.hash = r.2.2.2.2
  rcUpper : c.rc = true → s.rcUpper = revComp c.W s.lower (c.k - 1) &&& upperMask c.W c.k
  rcMid : c.rc = true → s.rcMid = rcBase s.mid
  rcLower : c.rc = true → s.rcLower = revComp c.W s.upper (c.k - 1) &&& lowerMask c.W c.k

theorem fresh_updateRc (c : SKConf) (s : SKState) :
    Fresh c (s.index, s.upper, s.lower, s.mid, s.hash) (if c.rc then c.updateRc s else s) := by
  split
  · exact ⟨rfl, rfl, rfl, rfl, rfl, fun _ => rfl, fun _ => rfl, fun _ => rfl⟩
  · rename_i hrc
    exact ⟨rfl, rfl, rfl, rfl, rfl, fun h => absurd h hrc, fun h => absurd h hrc,
      fun h => absurd h hrc⟩

theorem new_some {c : SKConf} {s : SKState} (h : c.new = some s) :
    ∃ r, c.build 0 c.isReads = some r ∧ Fresh c r s := by
  unfold SKConf.new at h
  split at h
  · cases h
  · rename_i index u l m hg hb
    cases h
    exact ⟨_, hb,
      fresh_updateRc c { index := index, upper := u, lower := l, mid := m, hash := hg }⟩

theorem new_none {c : SKConf} (h : c.new = none) : c.build 0 c.isReads = none := by
  unfold SKConf.new at h
  split at h
  · assumption
  · cases h

/-- the ordinary step of `roll_fwd`, field by field -/
structure Step (c : SKConf) (s s' : SKState) : Prop where
  index : s'.index = s.index + 1
  upper : s'.upper
    = (shl c.W s.upper 2 ||| shl c.W s.mid (halfK c.k * 2)) &&& upperMask c.W c.k
  lower : s'.lower
    = (shl c.W s.lower 2 ||| code (c.seq.getD (s.index + 1) 0)) &&& lowerMask c.W c.k
  mid : s'.mid = (s.lower >>> (2 * (halfK c.k - 1))) % 256
  hash : s'.hash = s.hash.map (fun hg =>
    hg.roll ((s.upper >>> ((c.k - 2) * 2)) % 256) (code (c.seq.getD (s.index + 1) 0)))
  rcLower : c.rc = true → s'.rcLower
    = ((s.rcLower >>> 2) ||| shl c.W s.rcMid (2 * (halfK c.k - 1))) &&& lowerMask c.W c.k
  rcMid : c.rc = true → s'.rcMid = rcBase s'.mid
  rcUpper : c.rc = true → s'.rcUpper
    = ((s.rcUpper >>> 2) ||| shl c.W (rcBase (code (c.seq.getD (s.index + 1) 0)))
        (2 * (halfK c.k * 2 - 1))) &&& upperMask c.W c.k

/-- `roll_fwd` branch by branch, as a relation between the state and the result: the end of the
record, a restart over an unacceptable base that finds no window or finds one, an ordinary step -/
inductive RollCase (c : SKConf) (s : SKState) : Option SKState → Prop
  | atEnd : c.seqLen ≤ s.index + 1 → RollCase c s none
  | noWindow : s.index + 1 < c.seqLen → c.okAt (s.index + 1) = false →
      c.build (s.index + 1) s.hash.isSome = none → RollCase c s none
  | restart (r s') : s.index + 1 < c.seqLen → c.okAt (s.index + 1) = false →
      c.build (s.index + 1) s.hash.isSome = some r → Fresh c r s' → RollCase c s (some s')
  | step (s') : s.index + 1 < c.seqLen → c.okAt (s.index + 1) = true → Step c s s' →
      RollCase c s (some s')

/-- the one place where `rollFwd` is unfolded -/
theorem rollFwd_case (c : SKConf) (s : SKState) : RollCase c s (c.rollFwd s) := by
  unfold SKConf.rollFwd
  simp only
  split
  · exact .atEnd (by omega)
  · rename_i hlt
    split
    · rename_i hnok
      have hbad : c.okAt (s.index + 1) = false := by simpa using hnok
      split
      · rename_i hb
        exact .noWindow (by omega) hbad hb
      · rename_i index u l m hg hb
        exact .restart _ _ (by omega) hbad hb
          (fresh_updateRc c { s with index := index, upper := u, lower := l, mid := m, hash := hg })
    · rename_i hok
      have hgood : c.okAt (s.index + 1) = true := by simpa using hok
      split
      · exact .step _ (by omega) hgood
          ⟨rfl, rfl, rfl, rfl, rfl, fun _ => rfl, fun _ => rfl, fun _ => rfl⟩
      · rename_i hrc
        exact .step _ (by omega) hgood
          ⟨rfl, rfl, rfl, rfl, rfl, fun h => absurd h hrc, fun h => absurd h hrc,
            fun h => absurd h hrc⟩

theorem rollFwd_some {c : SKConf} {s s' : SKState} (h : c.rollFwd s = some s') :
    s.index + 1 < c.seqLen ∧
      ((c.okAt (s.index + 1) = false ∧
          ∃ r, c.build (s.index + 1) s.hash.isSome = some r ∧ Fresh c r s') ∨
       (c.okAt (s.index + 1) = true ∧ Step c s s')) := by
  have hc := rollFwd_case c s
  rw [h] at hc
  cases hc with
  | restart r _ hlt hbad hb hfr => exact ⟨hlt, .inl ⟨hbad, r, hb, hfr⟩⟩
  | step _ hlt hok hst => exact ⟨hlt, .inr ⟨hok, hst⟩⟩

theorem rollFwd_none {c : SKConf} {s : SKState} (h : c.rollFwd s = none) :
    c.seqLen ≤ s.index + 1 ∨
      (c.okAt (s.index + 1) = false ∧ c.build (s.index + 1) s.hash.isSome = none) := by
  have hc := rollFwd_case c s
  rw [h] at hc
  cases hc with
  | atEnd hlen => exact .inl hlen
  | noWindow _ hbad hb => exact .inr ⟨hbad, hb⟩

theorem statesFrom_induction (c : SKConf) (P : SKState → Prop)
    (step : ∀ s s', P s → c.rollFwd s = some s' → P s') (fuel : Nat) (s : SKState) (h : P s) :
    ∀ t ∈ c.statesFrom fuel s, P t := by
  induction fuel generalizing s with
  | zero =>
    intro t ht
    rw [List.mem_singleton.mp ht]; exact h
  | succ fuel ih =>
    intro t ht
    unfold SKConf.statesFrom at ht
    split at ht
    · rw [List.mem_singleton.mp ht]; exact h
    · rename_i s' hroll
      rcases List.mem_cons.mp ht with rfl | ht
      · exact h
      · exact ih s' (step s s' h hroll) t ht

theorem states_induction (c : SKConf) (P : SKState → Prop) (init : ∀ s, c.new = some s → P s)
    (step : ∀ s s', P s → c.rollFwd s = some s' → P s') : ∀ t ∈ c.states, P t := by
  intro t ht
  unfold SKConf.states at ht
  split at ht
  · cases ht
  · rename_i s0 hnew
    exact statesFrom_induction c P step _ s0 (init s0 hnew) t ht

end SkaModel.Lemmas
