/-
Bridge between the writer specification (`writerChar`/`writerSpec`, on the match list
and the absolute repeat coordinates) and the mapping specification
(`mapCharAt`/`mapSeq`, on matched centres and repeat centres of a contig).
-/
import SkaModel.Lemmas.RMRepeats
import SkaModel.Lemmas.RMMatch

namespace SkaModel.RM

open SkaModel SkaModel.Spec SkaModel.Props.C16 SkaModel.Props.C01 SkaModel.AW

/-- `q` is an absolute index within `h` of a repeat centre (on the centre's contig) -/
def IsRepAbs (k : Nat) (rc : Bool) (ref : List (Array UInt8)) (q : Nat) : Prop :=
  ∃ c contig, ref[c]? = some contig ∧
    ∃ p ∈ repeatCentres k rc (refKeys k rc ref) contig,
      ∃ pos, within (halfK k) pos p = true ∧ q = contigOffset ref c + pos

theorem absPos_mkRK (k : Nat) (rc : Bool) (ref : List (Array UInt8)) (n : Nat) (c : Array UInt8) (j : Nat) :
    absPos (upperRef ref) (mkRK k rc n c j) = contigOffset ref n + (j + halfK k) := by
  unfold absPos
  rw [contigOffset_upperRef]
  rfl

theorem newReps_spec (k : Nat) (rc : Bool) (hk : ValidK k) (ref : List (Array UInt8)) :
    (∀ q, q ∈ newReps k rc ref true ↔ ∃ rk ∈ kmersFrom k rc 0 ref,
      (RefSka.repeatsOf (refKeys k rc ref)).contains rk.kmer = true ∧
        absPos (upperRef ref) rk ≤ q + halfK k ∧ q ≤ absPos (upperRef ref) rk + halfK k) ∧
    (newReps k rc ref true).Pairwise (· < ·) := by
  refine repeatCoorsOf_spec (halfK k) (upperRef ref) _ _ (kmersFrom_pairwise k rc 0 ref) fun rk hrk => ?_
  have hb := kmersFrom_bounds k rc hk ref rk hrk
  rw [← csize_upperRef] at hb
  exact ⟨hb.2.1, Nat.lt_of_le_of_lt (Nat.le_add_right _ _) hb.2.2⟩

theorem mem_newReps (k : Nat) (rc : Bool) (hk : ValidK k) (ref : List (Array UInt8)) (q : Nat) :
    q ∈ newReps k rc ref true ↔ IsRepAbs k rc ref q := by
  rw [(newReps_spec k rc hk ref).1 q]
  unfold IsRepAbs
  constructor
  · rintro ⟨rk, hrk, hrep, h1, h2⟩
    obtain ⟨i, c, j, hi, hj, rfl⟩ := (mem_kmersFrom_zero k rc ref rk).1 hrk
    rw [absPos_mkRK] at h1 h2
    obtain ⟨pos, rfl⟩ : ∃ pos, q = contigOffset ref i + pos := ⟨q - contigOffset ref i, by omega⟩
    refine ⟨i, c, hi, j + halfK k, (mem_repeatCentres ..).2 ⟨j, hj, rfl,
      (mem_repeatsOf _ _).mp (List.contains_iff_mem.mp hrep)⟩, pos, ?_, rfl⟩
    rw [within_iff]; omega
  · rintro ⟨i, c, hi, p, hp, pos, hw, rfl⟩
    obtain ⟨j, hj, rfl, hp3⟩ := (mem_repeatCentres k rc _ c p).1 hp
    rw [within_iff] at hw
    refine ⟨mkRK k rc i c j, (mem_kmersFrom_zero k rc ref _).2 ⟨i, c, j, hi, hj, rfl⟩,
      List.contains_iff_mem.mpr ((mem_repeatsOf _ _).mpr hp3), ?_⟩
    rw [absPos_mkRK]; omega

theorem newReps_pairwise (k : Nat) (rc : Bool) (hk : ValidK k) (ref : List (Array UInt8)) (rmask : Bool) :
    (newReps k rc ref rmask).Pairwise (· < ·) := by
  cases rmask
  · exact List.Pairwise.nil
  · exact (newReps_spec k rc hk ref).2

theorem newReps_false (k : Nat) (rc : Bool) (ref : List (Array UInt8)) : newReps k rc ref false = [] := rfl

theorem reps_bridge (k : Nat) (rc : Bool) (hk : ValidK k) (ref : List (Array UInt8)) (rmask : Bool)
    (c : Nat) (contig : Array UInt8) (hc : ref[c]? = some contig) (p : Nat) (hp : p < contig.size) :
    (newReps k rc ref rmask).contains (contigOffset (upperRef ref) c + p)
      = (rmask && (repeatCentres k rc (refKeys k rc ref) contig).any (within (halfK k) p)) := by
  cases rmask
  · rfl
  · rw [Bool.true_and, Bool.eq_iff_iff, List.contains_iff_mem, mem_newReps k rc hk, List.any_eq_true,
      contigOffset_upperRef]
    constructor
    · rintro ⟨c', contig', hc', p', hp', pos, hw, he⟩
      have hsz : pos < (ref.getD c' #[]).size := by
        rw [List.getD_eq_getElem?_getD, hc']
        exact Nat.lt_of_le_of_lt ((within_iff _ _ _).mp hw).1 (repeatCentre_range k rc hk _ _ _ hp').2
      have hsz0 : p < (ref.getD c #[]).size := by
        rw [List.getD_eq_getElem?_getD, hc]; exact hp
      obtain ⟨e1, e2⟩ := abs_inj ref hsz0 hsz he
      subst e1 e2
      rw [hc] at hc'
      cases hc'
      exact ⟨p', hp', hw⟩
    · rintro ⟨p', hp', hw⟩
      exact ⟨c, contig, hc, p', hp', p, hw, rfl⟩

section
variable (k : Nat) (rc : Bool) (d : MDict) (hgs : rc = true → GapSafe d) (s : Nat) (ref : List (Array UInt8))

include hgs in
theorem any_bridge (c : Nat) (contig : Array UInt8) (hc : ref[c]? = some contig) (p : Nat) :
    (msOf k rc d s ref).any (fun m => m.1 == c && decide (p ≤ m.2.1 + halfK k) && decide (m.2.1 ≤ p + halfK k))
      = (matchedCentres k rc (dictOf d) contig s).any (fun m => within (halfK k) p m.1) := by
  rw [Bool.eq_iff_iff, any_iff_cov, List.any_eq_true]
  constructor
  · rintro ⟨m, hm, rfl, hP⟩
    obtain ⟨c', hc', hmb⟩ := (mem_ms k rc d hgs s ref m).1 hm
    rw [hc] at hc'
    cases hc'
    exact ⟨(m.2.1, m.2.2), (mem_matchedCentres k rc _ contig s _).mpr hmb, (within_iff ..).2 hP⟩
  · rintro ⟨m', hm', hw⟩
    exact ⟨(c, m'.1, m'.2), (mem_ms k rc d hgs s ref _).mpr ⟨contig, hc, (mem_matchedCentres ..).1 hm'⟩,
      rfl, (within_iff ..).1 hw⟩

include hgs in
theorem wBase_eq_mBase (amask : Bool) (c : Nat) (contig : Array UInt8) (hc : ref[c]? = some contig) (p : Nat) :
    wBase (upperRef ref) (halfK k) amask (msOf k rc d s ref) c p
      = mBase (halfK k) amask contig (matchedCentres k rc (dictOf d) contig s) p := by
  have hf := (find_ms k rc d hgs s ref c contig hc p).trans
    (find_matchedCentres k rc (dictOf d) contig s p).symm
  have ha := any_bridge k rc d hgs s ref c contig hc p
  unfold wBase mBase
  rw [ha]
  cases hfw : (msOf k rc d s ref).find? (fun m => m.1 == c && m.2.1 == p) with
  | none =>
    cases hfm : (matchedCentres k rc (dictOf d) contig s).find? (·.1 == p) with
    | none =>
      simp only
      rw [upperRef_getD_getD, List.getD_eq_getElem?_getD, hc]
      rfl
    | some m' => rw [hfw, hfm] at hf; cases hf
  | some m =>
    cases hfm : (matchedCentres k rc (dictOf d) contig s).find? (·.1 == p) with
    | none => rw [hfw, hfm] at hf; cases hf
    | some m' =>
      rw [hfw, hfm] at hf
      simp only [Option.map_some, Option.some.injEq] at hf
      simp only
      rw [hf, Bool.and_comm]

include hgs in
theorem char_bridge (hk : ValidK k) (amask rmask : Bool) (c : Nat) (contig : Array UInt8)
    (hc : ref[c]? = some contig) (p : Nat) (hp : p < contig.size) :
    writerChar (upperRef ref) (halfK k) amask (newReps k rc ref rmask) (msOf k rc d s ref) c p
      = mapCharAt (halfK k) amask rmask contig (matchedCentres k rc (dictOf d) contig s)
          (if rmask then repeatCentres k rc (refKeys k rc ref) contig else []) p := by
  rw [writerChar_eq, mapCharAt_eq, wBase_eq_mBase k rc d hgs s ref amask c contig hc p,
    reps_bridge k rc hk ref rmask c contig hc p hp]
  cases rmask
  · simp
  · simp only [if_true, Bool.true_and]

end

theorem seq_bridge (k : Nat) (rc : Bool) (hk : ValidK k) (d : MDict) (hgs : rc = true → GapSafe d) (s : Nat)
    (ref : List (Array UInt8)) (amask rmask : Bool) :
    writerSpec (upperRef ref) (halfK k) amask (newReps k rc ref rmask) (msOf k rc d s ref)
      = mapSeq k rc (dictOf d) ref amask rmask s := by
  unfold writerSpec mapSeq
  unfold upperRef
  rw [List.zipIdx_map, List.flatMap_map]
  apply flatMap_zipIdx_congr
  intro i contig hi
  show List.map _ (List.range (contig.map toUpper).size) = _
  rw [Array.size_map]
  apply List.map_congr_left
  intro p hp
  rw [List.mem_range] at hp
  exact char_bridge k rc d hgs s ref hk amask rmask i contig hi p hp

end SkaModel.RM
