/-
For the end-to-end theorems (`Props/EndToEnd.lean`): the per-sample dictionaries `ska build`
hands to `build_and_merge`, and the table of the joint dictionary.
-/
import SkaModel.Props.C11
import SkaModel.Lemmas.E2ETable

namespace SkaModel.E2E

open SkaModel SkaModel.Spec SkaModel.Props.C16

/-- `sds` are the built samples: sample `i` has column index `i`, the `i`-th name, and the
dictionary `buildDict` returns for the `i`-th record list -/
structure BuiltFrom (W k : Nat) (rc : Bool) (names : List String)
    (samples : List (List (Array UInt8))) (sds : List SampleDict) : Prop where
  lenS : sds.length = samples.length
  lenN : names.length = samples.length
  entry : ∀ i, i < samples.length → ∃ d, buildDict W k rc (samples.getD i []) = .dict d ∧
    sds[i]? = some { k := k, rc := rc, idx := i, name := names.getD i "", kmers := d }

def dictOf (W k : Nat) (rc : Bool) (recs : List (Array UInt8)) : List (Nat × UInt8) :=
  match buildDict W k rc recs with
  | .dict d => d
  | _ => []

def builtSamples (W k : Nat) (rc : Bool) (names : List String)
    (samples : List (List (Array UInt8))) : List SampleDict :=
  (names.zip samples).zipIdx.map (fun p =>
    { k := k, rc := rc, idx := p.2, name := p.1.1, kmers := dictOf W k rc p.1.2 })

theorem builtSamples_builtFrom (W k : Nat) (rc : Bool) (hk : ValidK k) (hw : WidthOk W k)
    (names : List String) (samples : List (List (Array UInt8)))
    (hlen : names.length = samples.length)
    (hne : ∀ recs ∈ samples, observations k rc recs ≠ []) :
    BuiltFrom W k rc names samples (builtSamples W k rc names samples) where
  lenS := by simp [builtSamples, hlen]
  lenN := hlen
  entry := by
    intro i hi
    have hin : i < names.length := hlen ▸ hi
    have hmem : samples.getD i [] ∈ samples := getD_mem hi
    have hb := buildDict_ok W k rc hk hw _ (hne _ hmem)
    refine ⟨_, hb, ?_⟩
    unfold builtSamples
    rw [List.getElem?_map, List.getElem?_zipIdx, List.getElem?_zip_eq_some (z := (names[i], samples[i])) |>.2
      ⟨List.getElem?_eq_getElem hin, List.getElem?_eq_getElem hi⟩]
    simp only [Option.map_some, Nat.zero_add]
    have e1 := getD_eq_getElem names "" hin
    have e2 := getD_eq_getElem samples [] hi
    rw [e1]
    have e3 : dictOf W k rc samples[i] = specDict k rc (samples.getD i []) := by
      unfold dictOf
      rw [← e2, hb]
    rw [e3]

theorem letter_ne_zero_fin : ∀ m : Fin 16, m.val ≠ 0 → letterOfMask m.val ≠ 0 := by decide +kernel

theorem dict_noZero (W k : Nat) (rc : Bool) (hk : ValidK k) (hw : WidthOk W k)
    (recs : List (Array UInt8)) (d : List (Nat × UInt8)) (hb : buildDict W k rc recs = .dict d) :
    ∀ kb ∈ d, kb.2 ≠ 0 := by
  obtain ⟨hnd, _, hl⟩ := buildDict_lookup W k rc hk hw recs d hb
  rintro ⟨key, b⟩ hm
  have := (Assoc.mem_iff_lookup d hnd key b).1 hm
  rw [hl key] at this
  unfold dictLookup at this
  by_cases h0 : maskFor k rc recs key = 0
  · rw [if_pos h0] at this; cases this
  · rw [if_neg h0] at this
    cases this
    exact letter_ne_zero_fin ⟨_, maskFor_lt k rc recs key⟩ h0

namespace BuiltFrom

variable {W k : Nat} {rc : Bool} {names : List String} {samples : List (List (Array UInt8))}
  {sds : List SampleDict}

theorem get (h : BuiltFrom W k rc names samples sds) (i : Nat) (hi : i < sds.length) :
    buildDict W k rc (samples.getD i []) = .dict sds[i].kmers ∧ sds[i].k = k ∧ sds[i].rc = rc ∧
      sds[i].idx = i ∧ sds[i].name = names.getD i "" := by
  obtain ⟨d, hb, he⟩ := h.entry i (h.lenS ▸ hi)
  rw [List.getElem?_eq_getElem hi] at he
  have he' := Option.some.inj he
  rw [he']
  exact ⟨hb, rfl, rfl, rfl, rfl⟩

theorem sliceWF (h : BuiltFrom W k rc names samples sds) (hk : ValidK k) (hw : WidthOk W k) :
    Props.C11.SliceWF k rc sds.length 0 sds := by
  refine .of_forall (fun j hj => (h.get j hj).2.2.2.1) fun s hs => ?_
  obtain ⟨j, hj, rfl⟩ := List.getElem_of_mem hs
  obtain ⟨hb, ek, erc, _⟩ := h.get j hj
  exact ⟨ek, erc, (buildDict_lookup W k rc hk hw _ _ hb).1, dict_noZero W k rc hk hw _ _ hb⟩

theorem allNonempty (h : BuiltFrom W k rc names samples sds) (hk : ValidK k) (hw : WidthOk W k) :
    Props.C11.AllNonempty sds := by
  intro s hs
  obtain ⟨j, hj, rfl⟩ := List.getElem_of_mem hs
  exact (buildDict_lookup W k rc hk hw _ _ (h.get j hj).1).2.1

theorem names_eq (h : BuiltFrom W k rc names samples sds) : sds.map (·.name) = names := by
  apply List.ext_getElem
  · rw [List.length_map, h.lenS, h.lenN]
  · intro i h1 h2
    rw [List.length_map] at h1
    rw [List.getElem_map, (h.get i h1).2.2.2.2, getD_eq_getElem names "" h2]

theorem lookup (h : BuiltFrom W k rc names samples sds) (hk : ValidK k) (hw : WidthOk W k)
    (i : Nat) (hi : i < sds.length) (key : Nat) :
    Assoc.lookup sds[i].kmers key = dictLookup k rc (samples.getD i []) key :=
  (buildDict_lookup W k rc hk hw _ _ (h.get i hi).1).2.2 key

theorem mem_keys (h : BuiltFrom W k rc names samples sds) (hk : ValidK k) (hw : WidthOk W k)
    (key : Nat) :
    (∃ s ∈ sds, key ∈ Assoc.keys s.kmers) ↔ key ∈ allKeys k rc samples := by
  rw [mem_allKeys]
  constructor
  · rintro ⟨s, hs, hm⟩
    obtain ⟨j, hj, rfl⟩ := List.getElem_of_mem hs
    have hj' : j < samples.length := h.lenS ▸ hj
    refine ⟨samples.getD j [], ?_, ?_⟩
    · rw [getD_eq_getElem samples [] hj']
      exact List.getElem_mem hj'
    · intro h0
      have hl := h.lookup hk hw j hj key
      unfold dictLookup at hl
      rw [if_pos h0, Assoc.lookup_eq_none_iff] at hl
      exact hl hm
  · rintro ⟨recs, hr, h0⟩
    obtain ⟨j, hj, rfl⟩ := List.getElem_of_mem hr
    have hj' : j < sds.length := h.lenS ▸ hj
    refine ⟨sds[j], List.getElem_mem hj', ?_⟩
    have hl := h.lookup hk hw j hj' key
    have e := getD_eq_getElem samples [] hj
    unfold dictLookup at hl
    rw [e, if_neg h0] at hl
    exact Assoc.mem_keys_of_lookup hl

end BuiltFrom

theorem ofDict_rows_perm (W : Nat) (md : MDict) (k : Nat) (rc : Bool) (names : List String)
    (samples : List (List (Array UInt8)))
    (hwf : Props.C11.MWF samples.length md)
    (hcell : ∀ i, i < samples.length → ∀ key,
      Props.C11.cell md key i = (dictLookup k rc (samples.getD i []) key).getD 0)
    (hkeys : ∀ key, key ∈ Assoc.keys md.kmers ↔ key ∈ allKeys k rc samples) :
    (Arr.ofDict W md).abs.rows.Perm (specTable k rc names samples).rows := by
  rw [ofDict_abs, Props.C11.abs_rows_of_cells hwf, specTable_rows]
  refine perm_map_of_nodup_mem _ _ hwf.nodup (allKeys_nodup k rc samples) hkeys fun key _ => ?_
  have hrow : ∀ i ∈ List.range samples.length,
      fixCell (Props.C11.cell md key i) = cellFor k rc (samples.getD i []) key := by
    intro i hi
    rw [hcell i (List.mem_range.mp hi) key]
    exact max_dictLookup k rc _ key
  rw [cellRow_eq_range, List.map_congr_left hrow]

end SkaModel.E2E
