/-
`ska lo`: the sequence of a reported variant spells the nodes of its path.
-/
import SkaModel.Lemmas.LOPathWalk
import SkaModel.Lemmas.LOGraph
import SkaModel.Lemmas.LOCStr

namespace SkaModel.LOG

open SkaModel SkaModel.Skalo SkaModel.Spec SkaModel.Props.C16 SkaModel.Props.C17G

/-- the `k` lowest base-4 digits of `x`, most significant first -/
def digs : Nat → Nat → List Nat
  | 0, _ => []
  | k + 1, x => digs k (x / 4) ++ [x % 4]

theorem digs_length : ∀ (k x : Nat), (digs k x).length = k
  | 0, _ => rfl
  | k + 1, x => by simp [digs, digs_length k]

theorem digs_codes : ∀ (k x : Nat), Codes (digs k x)
  | 0, _ => Codes.nil
  | k + 1, x => by
    unfold digs
    exact Codes.append (digs_codes k _) (Codes.cons (Nat.mod_lt _ (by omega)) Codes.nil)

theorem packL_digs : ∀ (k x : Nat), packL (digs k x) = x % 4 ^ k
  | 0, x => by simp [digs, packL_nil, Nat.mod_one]
  | k + 1, x => by
    unfold digs
    rw [packL_snoc, packL_digs k, Nat.pow_succ, Nat.mul_comm (4 ^ k) 4, Nat.mod_mul]
    exact Nat.add_comm _ _

theorem digs_head : ∀ (m a : Nat), digs (m + 1) a = (a / 4 ^ m % 4) :: digs m a
  | 0, a => by simp [digs]
  | m + 1, a => by
    rw [digs, digs_head m (a / 4), Nat.div_div_eq_div_mul, List.cons_append]
    congr 2
    · rw [Nat.pow_succ, Nat.mul_comm]

theorem digs_mod : ∀ (m a : Nat), digs m (a % 4 ^ m) = digs m a
  | 0, _ => rfl
  | m + 1, a => by
    unfold digs
    have h1 : a % 4 ^ (m + 1) % 4 = a % 4 :=
      Nat.mod_mod_of_dvd a ⟨4 ^ m, by rw [Nat.pow_succ, Nat.mul_comm]⟩
    have h2 : a % 4 ^ (m + 1) / 4 = a / 4 % 4 ^ m := by
      rw [Nat.pow_succ, Nat.mul_comm (4 ^ m) 4, Nat.mod_mul_right_div_self]
    rw [h1, h2, digs_mod m]

theorem digs_overlap (m a b : Nat) (h : Overlap (m + 1) a b) :
    digs (m + 1) b = digs m a ++ [b % 4] := by
  unfold Overlap at h
  rw [Nat.add_sub_cancel] at h
  rw [digs, h, digs_mod]

theorem skaloDecode_digs (W k x : Nat) (hx : x < 4 ^ k) (hW : 2 * k < W) :
    skaloDecode W x k = (digs k x).map decodeBase := by
  have := T16_skalo_decode W k (digs k x) (digs_codes k x) (digs_length k x) hW
  rwa [packL_digs, Nat.mod_eq_of_lt hx] at this

/-- the 2-bit codes of the sequence of a path `a :: rest` -/
def cseq (k a : Nat) (rest : List Nat) : List Nat := digs k a ++ rest.map (· % 4)

theorem cseq_codes (k a : Nat) (rest : List Nat) : Codes (cseq k a rest) :=
  Codes.append (digs_codes k a) (Codes.map_of _ _ (fun _ => Nat.mod_lt _ (by omega)))

theorem cseq_step (m a b : Nat) (rest : List Nat) (h : Overlap (m + 1) a b) :
    cseq (m + 1) a (b :: rest) = (a / 4 ^ m % 4) :: cseq (m + 1) b rest := by
  unfold cseq
  rw [digs_overlap m a b h, digs_head]
  simp

theorem cseq_windows (m : Nat) : ∀ (rest : List Nat) (a : Nat),
    ChainR (Overlap (m + 1)) (a :: rest) → (∀ n ∈ a :: rest, n < 4 ^ (m + 1)) →
    ∀ i x, (a :: rest)[i]? = some x →
      packL (((cseq (m + 1) a rest).drop i).take (m + 1)) = x := by
  intro rest
  induction rest with
  | nil =>
    intro a _ hlt i x hi
    cases i with
    | zero =>
      simp at hi
      subst hi
      unfold cseq
      rw [List.drop_zero, List.map_nil, List.append_nil, List.take_of_length_le (by rw [digs_length]; omega),
        packL_digs, Nat.mod_eq_of_lt (hlt a (List.mem_cons_self ..))]
    | succ i => simp at hi
  | cons b rest ih =>
    intro a hch hlt i x hi
    cases i with
    | zero =>
      simp at hi
      subst hi
      unfold cseq
      rw [List.drop_zero, List.take_left' (digs_length _ _), packL_digs,
        Nat.mod_eq_of_lt (hlt a (List.mem_cons_self ..))]
    | succ i =>
      rw [List.getElem?_cons_succ] at hi
      rw [cseq_step m a b rest hch.1, List.drop_succ_cons]
      exact ih b hch.2 (fun n hn => hlt n (List.mem_cons_of_mem _ hn)) i x hi

/-- `h2`: only in a walk with at least two nodes is every node an end of an edge -/
theorem walk_nodes {g : Graph} {kGraph : Nat}
    (hg : ∀ a b, Edge g a b → a < 4 ^ kGraph ∧ b < 4 ^ kGraph ∧ Overlap kGraph a b)
    {path : List Nat} (hw : Walk g path) (h2 : 2 ≤ path.length) :
    (∀ n ∈ path, n < 4 ^ kGraph) ∧
      ∀ (i a b : Nat), path[i]? = some a → path[i + 1]? = some b → Overlap kGraph a b := by
  have hch : ChainR (Edge g) path := (walk_eq_chainR g path).1 hw
  refine ⟨fun n hn => ?_, fun i a b ha hb => (hg a b (chainR_getElem? path i a b hch ha hb)).2.2⟩
  obtain ⟨m, hm | hm⟩ := chainR_incident path hch h2 n hn
  · exact (hg n m hm).1
  · exact (hg m n hm).2.1

theorem decodeLoop_length : ∀ (n x : Nat) (acc : List UInt8), (decodeLoop n x acc).length = n + acc.length
  | 0, _, _ => by simp [decodeLoop]
  | n + 1, x, acc => by
    rw [decodeLoop, decodeLoop_length n]
    simp; omega

theorem buildVariant_length (W kGraph : Nat) (starts ends : List Nat) (kmer : Nat) (path : List Nat) :
    (buildVariant W kGraph starts ends kmer path).1.length = kGraph + (path.length - 1) := by
  unfold buildVariant skaloDecode
  simp [decodeLoop_length]

theorem buildVariant_take (W kGraph : Nat) (starts ends : List Nat) (kmer : Nat) (path : List Nat) :
    (buildVariant W kGraph starts ends kmer path).1.take kGraph = skaloDecode W kmer kGraph := by
  unfold buildVariant
  simp only []
  rw [List.take_left']
  unfold skaloDecode
  simp [decodeLoop_length]

theorem buildVariant_seq (W kGraph : Nat) (starts ends : List Nat) (a : Nat) (rest : List Nat)
    (ha : a < 4 ^ kGraph) (hW : 2 * kGraph < W) :
    (buildVariant W kGraph starts ends a (a :: rest)).1 = (cseq kGraph a rest).map decodeBase := by
  unfold buildVariant cseq
  simp only [List.drop_succ_cons, List.drop_zero]
  rw [skaloDecode_digs W kGraph a ha hW, List.map_append, List.map_map]
  congr 1
  apply List.map_congr_left
  intro n _
  show decodeBase (n &&& 3) = decodeBase (n % 4)
  rw [and_three]

theorem buildVariant_base (W kGraph : Nat) (starts ends : List Nat) (a : Nat) (rest : List Nat)
    (ha : a < 4 ^ kGraph) (hW : 2 * kGraph < W) :
    LOC.AllBase (buildVariant W kGraph starts ends a (a :: rest)).1 := by
  rw [buildVariant_seq W kGraph starts ends a rest ha hW]
  intro b hb
  obtain ⟨c, _, rfl⟩ := List.mem_map.mp hb
  exact LOC.isBase_decodeBase c

theorem encode_window (W k : Nat) (cs : List Nat) (hc : Codes cs) (i : Nat) (hW : 2 * k ≤ W) :
    encodeKmer W (((cs.map decodeBase).drop i).take k) = packL ((cs.drop i).take k) := by
  rw [← List.map_drop, ← List.map_take, T16_encode W _ (by
      rw [List.length_map, List.length_take]
      exact Nat.le_trans (Nat.mul_le_mul_left 2 (Nat.min_le_left _ _)) hW),
    map_code_decodeBase _ ((hc.drop i).take k)]

end SkaModel.LOG
