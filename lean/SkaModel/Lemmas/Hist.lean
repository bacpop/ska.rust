/-
For C10 (history independence): the cell invariant is kept by `delete_samples` and `weed`; the
stored containers and the row-level filter passes of `distance` respect row permutation.
-/
import SkaModel.Lemmas.DeleteLemmas
import SkaModel.Props.C06
import SkaModel.Props.C13
import SkaModel.Lemmas.DistRows

namespace SkaModel.Hist

open SkaModel SkaModel.Spec

theorem cellsGE_iff (a : Arr) : a.CellsGE ↔ Props.C06.CellsGe45 a.variants := Iff.rfl

theorem weed_cellsGE (a : Arr) (h : a.CellsGE) (ks : List Nat) (rev : Bool) : (a.weed ks rev).CellsGE :=
  fun row hrow => h row (Props.C13.weed_variants_sub a ks rev row hrow)

theorem deleteResult_cellsGE (a : Arr) (h : a.CellsGE) (del : List String) : (a.deleteResult del).CellsGE := by
  intro row hr b hb
  obtain ⟨row0, hrow0, rfl⟩ := mem_deleteResult_variants hr
  obtain ⟨i, _, rfl⟩ := List.mem_map.mp hb
  exact getD_of_forall_mem (h row0 hrow0) (UInt8.le_refl GAP) i

theorem variants_perm {a₁ a₂ : Arr} (h1 : a₁.variants.length = a₁.kmers.length)
    (h2 : a₂.variants.length = a₂.kmers.length) (hp : a₁.abs.rows.Perm a₂.abs.rows) :
    a₁.variants.Perm a₂.variants := by
  rw [← Arr.abs_rows_snd a₁ h1, ← Arr.abs_rows_snd a₂ h2]
  exact hp.map _

theorem kmers_perm {a₁ a₂ : Arr} (h1 : a₁.variants.length = a₁.kmers.length)
    (h2 : a₂.variants.length = a₂.kmers.length) (hp : a₁.abs.rows.Perm a₂.abs.rows) :
    a₁.kmers.Perm a₂.kmers := by
  rw [← Arr.abs_rows_fst a₁ h1, ← Arr.abs_rows_fst a₂ h2]
  exact hp.map _

open FV DM in
theorem nonEmpty_perm {famb : Bool} {v w : List (List UInt8)} (h : v.Perm w) :
    (nonEmpty famb v).Perm (nonEmpty famb w) := h.filter _

open FV DM in
theorem filtV_perm {t : Nat} {famb : Bool} {ft : FilterType} {gaps : Bool} {v w : List (List UInt8)}
    (h : v.Perm w) : (filtV t famb ft gaps v).Perm (filtV t famb ft gaps w) :=
  (h.filter _).filter _

open FV DM in
theorem maskV_perm {mask : Bool} {v w : List (List UInt8)} (h : v.Perm w) :
    (maskV mask v).Perm (maskV mask w) := by
  unfold maskV
  split
  · exact h.map _
  · exact h

open FV DM in
theorem V1_perm {t : Nat} {v w : List (List UInt8)} (h : v.Perm w) : (V1 t v).Perm (V1 t w) :=
  filtV_perm h

open FV DM in
theorem V2_perm {t : Nat} {v w : List (List UInt8)} (h : v.Perm w) : (V2 t v).Perm (V2 t w) :=
  filtV_perm (V1_perm h)

open FV DM in
theorem V3_perm {t : Nat} {ge1 filt : Bool} {v w : List (List UInt8)} (h : v.Perm w) :
    (V3 t ge1 filt v).Perm (V3 t ge1 filt w) := by
  unfold V3
  split
  · split
    · exact maskV_perm (filtV_perm (V2_perm h))
    · exact filtV_perm (V2_perm h)
  · exact V2_perm h

open FV DM in
theorem cstOf_perm {t : Nat} {v w : List (List UInt8)} (h : v.Perm w) : cstOf t v = cstOf t w := by
  unfold cstOf
  rw [(nonEmpty_perm (V1_perm h)).length_eq, (V2_perm (t := t) h).length_eq]

theorem alignColumnsI_perm {s t : Table} (h : s.Equiv t) (n : Nat) (famb : Bool) (ft : FilterType)
    (mask gaps : Bool) :
    (Props.C06.alignColumnsI s n famb ft mask gaps).Perm (Props.C06.alignColumnsI t n famb ft mask gaps) :=
  ((h.2.map _).filter _).map _

end SkaModel.Hist
