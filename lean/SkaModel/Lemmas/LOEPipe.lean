/-
C18 completeness — the reference-free pipeline on a graph of bubbles that come in strand pairs (twins) returns no
SNP column and one record per pair, that of one of its two bubbles: `dereplicate` keeps exactly one bubble of every
pair (the entry node of a bubble is an extremity of the bubbles of its own pair and of no other, `Twins.clash`),
`process_indels` returns the record of each kept bubble, and `analyse` reports no SNP column because every SNP
group starts at an extremity of a kept bubble.
-/
import SkaModel.Lemmas.LOEBubGroups
import SkaModel.Props.C18Derep
import SkaModel.Props.C17Pipe

namespace SkaModel.LOE

open SkaModel.Skalo SkaModel.LOC SkaModel.Props.C18

instance : Inhabited Bub := ⟨⟨0, 0, [], []⟩⟩

/-- the group handed to `dereplicate` for a bubble -/
def tg (kG : Nat) (β : Bub) : IndelGroup :=
  { entry := β.en, exit := β.ex, len := (kG + β.a.length + 1) + (kG + β.b.length + 1) }

theorem toGroup_bubGroup (W kG : Nat) (starts ends : List Nat) (β : Bub) (o : Bool) :
    LOP.toGroup (bubGroup W kG starts ends β o) = tg kG β := by
  obtain ⟨v0, v1, e, hl⟩ := bubVs_lengths W kG starts ends β o
  unfold LOP.toGroup bubGroup tg
  simp only [e, List.map_cons, List.map_nil, List.sum_cons, List.sum_nil, IndelGroup.mk.injEq, true_and]
  rcases hl with ⟨e0, e1⟩ | ⟨e0, e1⟩ <;> rw [e0, e1] <;> omega

theorem pick_cases {α : Type} (b : Bool) (p : α × α) :
    (if b then p.2 else p.1) = p.1 ∨ (if b then p.2 else p.1) = p.2 := by
  cases b
  · exact Or.inl rfl
  · exact Or.inr rfl

namespace Twins

variable {W kG : Nat} {bs : List Bub} {pairs : List (Bub × Bub)}

theorem mem1 (tw : Twins W kG bs pairs) {p : Bub × Bub} (hp : p ∈ pairs) : p.1 ∈ bs :=
  (tw.cover _).mpr ⟨p, hp, Or.inl rfl⟩

theorem mem2 (tw : Twins W kG bs pairs) {p : Bub × Bub} (hp : p ∈ pairs) : p.2 ∈ bs :=
  (tw.cover _).mpr ⟨p, hp, Or.inr rfl⟩

theorem htw (tw : Twins W kG bs pairs) : ∀ β ∈ bs, ∃ β' ∈ bs, revComp W β.en kG = β'.ex := by
  intro β hβ
  obtain ⟨p, hp, e | e⟩ := (tw.cover β).mp hβ
  · exact ⟨p.2, tw.mem2 hp, by rw [e]; exact tw.rc3 p hp⟩
  · exact ⟨p.1, tw.mem1 hp, by rw [e]; exact tw.rc4 p hp⟩

theorem htw' (tw : Twins W kG bs pairs) : ∀ β' ∈ bs, ∃ β ∈ bs, revComp W β.en kG = β'.ex := by
  intro β hβ
  obtain ⟨p, hp, e | e⟩ := (tw.cover β).mp hβ
  · exact ⟨p.2, tw.mem2 hp, by rw [e]; exact tw.rc4 p hp⟩
  · exact ⟨p.1, tw.mem1 hp, by rw [e]; exact tw.rc3 p hp⟩

theorem en_cases (tw : Twins W kG bs pairs) {p q : Bub × Bub} (hp : p ∈ pairs) (hq : q ∈ pairs) :
    p.1.en ≠ q.2.en ∧ (p.1.en = q.1.en → p = q) ∧ (p.2.en = q.2.en → p = q) := by
  have hnd := tw.pnd
  rw [List.nodup_append] at hnd
  obtain ⟨h1, h2, h3⟩ := hnd
  refine ⟨?_, ?_, ?_⟩
  · exact h3 _ (List.mem_map.mpr ⟨p, hp, rfl⟩) _ (List.mem_map.mpr ⟨q, hq, rfl⟩)
  · intro e
    exact eq_of_nodup_map (fun (p : Bub × Bub) => p.1.en) h1 hp hq e
  · intro e
    exact eq_of_nodup_map (fun (p : Bub × Bub) => p.2.en) h2 hp hq e

/-- the extremities of the twin are those of the bubble in reverse order -/
theorem ext_perm (tw : Twins W kG bs pairs) {q : Bub × Bub} (hq : q ∈ pairs) {γ : Bub} (hγ : γ = q.1 ∨ γ = q.2) :
    (extremities W kG (tg kG γ)).Perm [q.1.en, q.2.ex, q.1.ex, q.2.en] := by
  show [γ.en, revComp W γ.en kG, γ.ex, revComp W γ.ex kG].Perm _
  rcases hγ with rfl | rfl
  · rw [tw.rc3 q hq, ← tw.rc1 q hq]
  · rw [tw.rc4 q hq, ← tw.rc2 q hq]
    exact List.reverse_perm [q.1.en, q.2.ex, q.1.ex, q.2.en]

theorem clash (tw : Twins W kG bs pairs) {p q : Bub × Bub} (hp : p ∈ pairs) (hq : q ∈ pairs) {β γ : Bub}
    (hβ : β = p.1 ∨ β = p.2) (hγ : γ = q.1 ∨ γ = q.2) : β.en ∈ extremities W kG (tg kG γ) ↔ p = q := by
  have hb : β ∈ bs := (tw.cover β).mpr ⟨p, hp, hβ⟩
  rw [(tw.ext_perm hq hγ).mem_iff]
  simp only [List.mem_cons, List.not_mem_nil, or_false]
  constructor
  · rintro (h | h | h | h)
    · rcases hβ with rfl | rfl
      · exact (tw.en_cases hp hq).2.1 h
      · exact absurd h.symm (tw.en_cases hq hp).1
    · exact absurd h (tw.enex _ hb _ (tw.mem2 hq))
    · exact absurd h (tw.enex _ hb _ (tw.mem1 hq))
    · rcases hβ with rfl | rfl
      · exact absurd h (tw.en_cases hp hq).1
      · exact (tw.en_cases hp hq).2.2 h
  · rintro rfl
    rcases hβ with rfl | rfl
    · exact Or.inl rfl
    · exact Or.inr (Or.inr (Or.inr rfl))

/-- the entry node of a bubble is the first extremity of its group -/
theorem tg_inj (tw : Twins W kG bs pairs) {p q : Bub × Bub} (hp : p ∈ pairs) (hq : q ∈ pairs) {β γ : Bub}
    (hβ : β = p.1 ∨ β = p.2) (hγ : γ = q.1 ∨ γ = q.2) (e : tg kG β = tg kG γ) : p = q :=
  (tw.clash hp hq hβ hγ).mp (e ▸ List.mem_cons_self)

end Twins

theorem analyse_skip (W kG n mNum mDen ik : Nat) (col : Colours) (gr : Groups) (recs : List IndelRec)
    (ext : List Nat) (hp : processIndels W kG n mNum mDen col gr.indelGroups = some (recs, ext))
    (hs : ∀ kv ∈ gr.snpGroups, kv.1.1 ∈ ext) :
    analyse W kG n mNum mDen ik col gr = some ([], recs) := by
  unfold analyse
  rw [hp]
  simp only [Option.bind_eq_bind, Option.bind_some]
  rw [foldlM_skip]
  · rfl
  · intro kv hkv acc
    rw [LOP.mem_foldr_insertByRatio, List.mem_filter, List.mem_mergeSort, List.mem_map] at hkv
    obtain ⟨⟨kv0, hkv0, rfl⟩, _⟩ := hkv
    have : kv0.1.1 ∈ ext := hs kv0 hkv0
    simp [this]

theorem derep_twins {W kG : Nat} {bs : List Bub} {pairs : List (Bub × Bub)} (tw : Twins W kG bs pairs)
    (gs : List IndelGroup) (hgs : ∀ x, x ∈ gs ↔ ∃ β ∈ bs, x = tg kG β) :
    ∃ flips : List Bool, flips.length = pairs.length ∧
      (dereplicate W kG gs).1.Perm ((pairs.zip flips).map (fun pf => tg kG (if pf.2 then pf.1.2 else pf.1.1))) ∧
      ∀ β ∈ bs, β.en ∈ (dereplicate W kG gs).2 := by
  obtain ⟨hsub, hpw, hpw2, hdrop, hext⟩ := T18_derep W kG gs
  have hnotboth : ∀ p ∈ pairs, ¬ (tg kG p.1 ∈ (dereplicate W kG gs).1 ∧ tg kG p.2 ∈ (dereplicate W kG gs).1) := by
    rintro p hp ⟨h1, h2⟩
    refine T18_derep_twin W kG gs (tg kG p.1) (tg kG p.2) h1 h2 ?_ (tw.rc1 p hp) (tw.rc2 p hp)
    intro e
    have : p.1.en = p.2.en := congrArg IndelGroup.entry e
    exact (tw.en_cases hp hp).1 this
  have hone : ∀ p ∈ pairs, tg kG p.1 ∈ (dereplicate W kG gs).1 ∨ tg kG p.2 ∈ (dereplicate W kG gs).1 := by
    intro p hp
    apply Classical.byContradiction
    intro hno
    -- were `tg p.1` dropped, it would clash with a kept group, and that is a bubble of the same pair
    obtain ⟨c, hc, hmem⟩ := hdrop (tg kG p.1) ((hgs _).mpr ⟨p.1, tw.mem1 hp, rfl⟩) (fun h => hno (Or.inl h))
    obtain ⟨γ, hγ, rfl⟩ := (hgs c).mp (hsub c hc)
    obtain ⟨q, hq, hγq⟩ := (tw.cover γ).mp hγ
    have := (tw.clash hp hq (Or.inl rfl) hγq).mp hmem
    subst this
    rcases hγq with rfl | rfl
    · exact hno (Or.inl hc)
    · exact hno (Or.inr hc)
  refine ⟨pairs.map (fun p => decide (tg kG p.2 ∈ (dereplicate W kG gs).1)), by simp, ?_, ?_⟩
  · have hzip : (pairs.zip (pairs.map (fun p => decide (tg kG p.2 ∈ (dereplicate W kG gs).1)))).map
        (fun pf => tg kG (if pf.2 then pf.1.2 else pf.1.1)) =
        pairs.map (fun p => tg kG (if decide (tg kG p.2 ∈ (dereplicate W kG gs).1) then p.2 else p.1)) := by
      rw [ZipFilter.zip_map_self]
    rw [hzip]
    have hkn : (dereplicate W kG gs).1.Nodup := by
      apply hpw2.imp
      intro a b hab e
      exact hab (by rw [e])
    apply (List.perm_ext_iff_of_nodup hkn ?_).mpr
    · intro x
      rw [List.mem_map]
      constructor
      · intro hx
        obtain ⟨β, hβ, rfl⟩ := (hgs x).mp (hsub x hx)
        obtain ⟨p, hp, e | e⟩ := (tw.cover β).mp hβ
        · refine ⟨p, hp, ?_⟩
          have : tg kG p.2 ∉ (dereplicate W kG gs).1 := fun h => hnotboth p hp ⟨by rw [← e]; exact hx, h⟩
          rw [if_neg (by simpa using this), e]
        · refine ⟨p, hp, ?_⟩
          rw [if_pos (by rw [← e]; simpa using hx), e]
      · rintro ⟨p, hp, rfl⟩
        by_cases h2 : tg kG p.2 ∈ (dereplicate W kG gs).1
        · rw [if_pos (by simpa using h2)]; exact h2
        · rw [if_neg (by simpa using h2)]
          rcases hone p hp with h | h
          · exact h
          · exact absurd h h2
    · rw [List.Nodup, List.pairwise_map]
      refine List.Pairwise.imp_of_mem ?_ (nodup_of_map _ (List.nodup_append.mp tw.pnd).1)
      intro p q hp hq hne e
      exact hne (tw.tg_inj hp hq (pick_cases _ p) (pick_cases _ q) e)
  · intro β hβ
    rw [hext, List.mem_flatMap]
    obtain ⟨p, hp, e⟩ := (tw.cover β).mp hβ
    rcases hone p hp with h | h
    · exact ⟨_, h, (tw.clash hp hp e (Or.inl rfl)).mpr rfl⟩
    · exact ⟨_, h, (tw.clash hp hp e (Or.inr rfl)).mpr rfl⟩

def bubOf (bs : List Bub) (e : Nat) : Bub := (bs.find? (fun β => β.en == e)).getD default

theorem bubOf_en {g : Graph} {bs : List Bub} (bg : BG g bs) {β : Bub} (hβ : β ∈ bs) : bubOf bs β.en = β := by
  unfold bubOf
  cases h : bs.find? (fun γ => γ.en == β.en) with
  | none =>
    rw [List.find?_eq_none] at h
    exact absurd (h β hβ) (by simp)
  | some γ =>
    have h1 := List.find?_some h
    have h2 := List.mem_of_find?_eq_some h
    simp only [beq_iff_eq] at h1
    simp only [Option.getD_some]
    exact bg.enInj γ h2 β hβ h1

theorem lo_bubbles {W kG n mNum mDen : Nat} {g : Graph} {col : Colours} {bs : List Bub}
    {pairs : List (Bub × Bub)} (bg : BG g bs) (tw : Twins W kG bs pairs) (al : ArmLen kG bs) (fr : Far kG g bs)
    (hcol : ∀ β ∈ bs, ∃ s1 s2, Assoc.lookup col (combineKmers W β.en β.ha) = some s1 ∧
      Assoc.lookup col (combineKmers W β.en β.hb) = some s2 ∧ s1 ≠ s2)
    (R : Bub → IndelRec)
    (hrec : ∀ starts ends, ∀ β ∈ bs, ∀ o,
      LOP.recOf W kG n mNum mDen col (bubVs W kG starts ends β o) = some (some (R β)))
    (ik maxDepth : Nat) :
    ∃ starts ends recs flips, identifyGoodKmers W kG g col = some (starts, ends) ∧
      analyse W kG n mNum mDen ik col (buildVariantGroups W kG g starts ends maxDepth) = some ([], recs) ∧
      flips.length = pairs.length ∧
      recs.Perm ((pairs.zip flips).map (fun (pf : (Bub × Bub) × Bool) => R (if pf.2 then pf.1.2 else pf.1.1))) := by
  obtain ⟨starts, ends, hid, ex⟩ := bg.identify hcol tw.htw tw.htw'
  obtain ⟨hIG1, hIG2, hsnp⟩ := bg.groups ex al fr W maxDepth
  have hknd := (SkaModel.LOP.groups_keys_nodup W kG g starts ends maxDepth ex.snd).2
  generalize hIG : (buildVariantGroups W kG g starts ends maxDepth).indelGroups = IG at hIG1 hIG2 hknd
  have hgs : ∀ x, x ∈ IG.map LOP.toGroup ↔ ∃ β ∈ bs, x = tg kG β := by
    intro x
    rw [List.mem_map]
    constructor
    · rintro ⟨kv, hkv, rfl⟩
      obtain ⟨β, hβ, o, rfl⟩ := hIG1 kv hkv
      exact ⟨β, hβ, toGroup_bubGroup W kG starts ends β o⟩
    · rintro ⟨β, hβ, rfl⟩
      obtain ⟨o, ho⟩ := hIG2 β hβ
      exact ⟨_, ho, toGroup_bubGroup W kG starts ends β o⟩
  obtain ⟨flips, hfl, hperm, hext⟩ := derep_twins tw (IG.map LOP.toGroup) hgs
  have hrecs : ∀ kg ∈ (dereplicate W kG (IG.map LOP.toGroup)).1.mergeSort
        (fun a b => keyLe (a.entry, a.exit) (b.entry, b.exit)),
      LOP.recOf W kG n mNum mDen col ((Assoc.lookup IG (kg.entry, kg.exit)).getD []) =
        some (some (R (bubOf bs kg.entry))) := by
    intro kg hkg
    rw [List.mem_mergeSort] at hkg
    have hin := (T18_derep W kG (IG.map LOP.toGroup)).1 kg hkg
    obtain ⟨kv, hkv, rfl⟩ := List.mem_map.mp hin
    obtain ⟨β, hβ, o, rfl⟩ := hIG1 kv hkv
    have hl : Assoc.lookup IG (β.en, β.ex) = some (bubVs W kG starts ends β o) :=
      Assoc.lookup_of_mem_nodup hknd hkv
    show LOP.recOf W kG n mNum mDen col ((Assoc.lookup IG (β.en, β.ex)).getD []) = _
    rw [hl, Option.getD_some, hrec starts ends β hβ o]
    show some (some (R β)) = some (some (R (bubOf bs β.en)))
    rw [bubOf_en bg hβ]
  have hpi : processIndels W kG n mNum mDen col IG =
      some (((dereplicate W kG (IG.map LOP.toGroup)).1.mergeSort
        (fun a b => keyLe (a.entry, a.exit) (b.entry, b.exit))).map (fun kg => R (bubOf bs kg.entry)),
        (dereplicate W kG (IG.map LOP.toGroup)).2) := by
    rw [LOP.processIndels_eq, LO.mapM_eq_map _ (fun kg => some (R (bubOf bs kg.entry))) _ hrecs]
    simp only [Option.bind_some, List.filterMap_map, Function.comp_def, id_eq, List.filterMap_eq_map']
  refine ⟨starts, ends, ((dereplicate W kG (IG.map LOP.toGroup)).1.mergeSort
    (fun a b => keyLe (a.entry, a.exit) (b.entry, b.exit))).map (fun kg => R (bubOf bs kg.entry)),
    flips, hid, ?_, hfl, ?_⟩
  · apply analyse_skip W kG n mNum mDen ik col _ _ _ (by rw [hIG]; exact hpi)
    intro kv hkv
    obtain ⟨β, hβ, e⟩ := (ex.st _).mp (hsnp kv hkv)
    rw [e]
    exact hext β hβ
  · have h1 := ((List.mergeSort_perm (dereplicate W kG (IG.map LOP.toGroup)).1
      (fun a b => keyLe (a.entry, a.exit) (b.entry, b.exit))).trans hperm).map (fun kg => R (bubOf bs kg.entry))
    refine h1.trans (List.Perm.of_eq ?_)
    rw [List.map_map]
    apply List.map_congr_left
    intro pf hpf
    have hp := (List.of_mem_zip hpf).1
    show R (bubOf bs (tg kG (if pf.2 then pf.1.2 else pf.1.1)).entry) = _
    have hm : (if pf.2 then pf.1.2 else pf.1.1) ∈ bs := (tw.cover _).mpr ⟨pf.1, hp, pick_cases pf.2 pf.1⟩
    show R (bubOf bs (if pf.2 then pf.1.2 else pf.1.1).en) = _
    rw [bubOf_en bg hm]

end SkaModel.LOE
