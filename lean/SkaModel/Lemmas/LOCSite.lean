/-
C17 completeness — the candidate loop of `groupSnps` and `groupSnpsPos` on one good group (`GG`): at a new site
the column gets the base of every sample and the four k-mers around the site are recorded, at a blocked site the
flag is cleared; the retained positions are exactly the sites of the group.  A site `q` of the group is the letter
`i + (k - 1)` of every variant, `c0 + i` being the entry coordinate of `q` (`GG.site`); the loop body (`inner_eval`)
and the windows of a variant around the site (`gg_windows`) are stated in `i`.
-/
import SkaModel.Lemmas.LOCGroupsAll
import SkaModel.Lemmas.LOColourRow
import SkaModel.Lemmas.Rows
import SkaModel.Lemmas.LOCalls

namespace SkaModel.LOC

open SkaModel SkaModel.Spec SkaModel.Props.C16 SkaModel.Skalo SkaModel.Props.C17G SkaModel.LOG

theorem getRange_win (s : List UInt8) (a m : Nat) (h : a + m ≤ s.length) :
    getRange s a (a + m) = some (win s a m) := by
  rw [LORL.getRange_some s a (a + m) (by omega) h, Nat.add_sub_cancel_left]
  rfl

/-- the last letter of a `k`-mer, as `groupSnps` reads it off -/
theorem kmerAt_last {W k : Nat} (hW : 2 * k ≤ W) (hk : 1 ≤ k) {s : List UInt8} (hb : AllBase s) {i : Nat}
    (hi : i + (k - 1) < s.length) : decodeBase (kmerAt k s i &&& 3) = s.getD (i + (k - 1)) 0 := by
  have e := win_succ hi
  rw [Nat.sub_add_cancel hk] at e
  rw [← enc_kmerAt hW, e, LORL.last_base W (Nat.le_trans (Nat.mul_le_mul_left 2 hk) hW)]
  exact decode_code_base (hb _ (getD_mem hi))

variable {k L : Nat} {T : List (List UInt8)} {PT : List Nat}

theorem inner_eval {k W : Nat} (hk : 2 ≤ k) (hW : 2 * k ≤ W) (hw : W = 64 ∨ W = 128) (col : Colours)
    (done : List Nat) (i : Nat) (st : List UInt8 × List Nat × Bool) (v : Variant)
    (hb : AllBase v.1) (hp2 : i + (k - 1) + k ≤ v.1.length) :
    LORL.inner W (k - 1) col done (i + (k - 1)) st v =
      if kmerAt k v.1 i ∉ done ∧ rcKmerAt k v.1 (i + (k - 1)) ∉ done then
        (Assoc.lookup col (kmerAt k v.1 i)).map (fun Cs =>
          (Cs.foldl (LORL.upd (v.1.getD (i + (k - 1)) 0)) st.1,
           st.2.1 ++ [kmerAt k v.1 i, rcKmerAt k v.1 i, kmerAt k v.1 (i + (k - 1)),
             rcKmerAt k v.1 (i + (k - 1))], st.2.2))
      else some (st.1, st.2.1, false) := by
  have hk0 : 1 ≤ k := Nat.le_of_succ_le hk
  have hk1 : k - 1 + 1 = k := Nat.sub_add_cancel hk0
  have h1 : i + k ≤ v.1.length := Nat.le_trans (Nat.add_le_add_right (Nat.le_add_right i (k - 1)) k) hp2
  have e1 : i + (k - 1) + 1 = i + k := by rw [Nat.add_assoc, hk1]
  have e2 : i + (k - 1) + (k - 1) + 1 = i + (k - 1) + k := by rw [Nat.add_assoc (i + (k - 1)), hk1]
  have hlast := kmerAt_last hW hk0 hb (Nat.lt_of_lt_of_le (Nat.lt_add_of_pos_right hk0) hp2)
  unfold LORL.inner
  rw [Nat.add_sub_cancel, e1, getRange_win v.1 i k h1, e2, getRange_win v.1 _ k hp2, hk1]
  simp only [Option.bind_eq_bind, Option.bind_some, enc_kmerAt hW, revComp_kmerAt hW hw h1,
    revComp_kmerAt hW hw hp2, hlast]
  by_cases hd : kmerAt k v.1 i ∉ done ∧ rcKmerAt k v.1 (i + (k - 1)) ∉ done
  · rw [if_pos hd, if_pos (by simpa using hd)]
    cases Assoc.lookup col (kmerAt k v.1 i) with
    | none => rfl
    | some Cs => rfl
  · rw [if_neg hd, if_neg (by simpa using hd)]
    rfl

theorem site_windows (pf : PFam k L T PT) (hk5 : 5 ≤ k) {q : Nat} (hq : q ∈ PT) {t t' : List UInt8}
    (ht' : t' ∈ T) (ht : t ∈ T) (h : t'.getD q 0 = t.getD q 0) :
    win t' (q - k + 1) k = win t (q - k + 1) k ∧ win t' q k = win t q k := by
  have hk0 : 0 < k := Nat.lt_of_lt_of_le (by decide) hk5
  have hk2 : k ≤ 2 * k := Nat.le_mul_of_pos_left k (by decide)
  obtain ⟨h1, h2⟩ := pf.entry_mem hk0 hq
  exact ⟨pf.win_agree_site ht' ht (pf.entry_fit hq) hk2 hq h1 h2 h,
    pf.win_agree_site ht' ht (pf.site_fit hq) hk2 hq (Nat.le_refl _) (Nat.lt_add_of_pos_right hk0) h⟩

theorem gg_windows (pf : PFam k L T PT) (hk5 : 5 ≤ k) {c0 len : Nat} {vs : List Variant}
    (hg : GG k L T PT c0 len vs) {q : Nat} (hq : q ∈ PT) {i : Nat} (hc : q - k + 1 = c0 + i)
    (hi : i + (k - 1) + k ≤ len) {v : Variant} (hv : v ∈ vs) :
    ∃ t ∈ T, win v.1 i k = win t (q - k + 1) k ∧ win v.1 (i + (k - 1)) k = win t q k ∧
      v.1.getD (i + (k - 1)) 0 = t.getD q 0 := by
  obtain ⟨hlen, _, hw⟩ := hg.hv v hv
  have hk0 : 0 < k := Nat.lt_of_lt_of_le (by decide) hk5
  have hq1 := pf.entry_add hk0 hq
  have hi1 : i + k ≤ len := Nat.le_trans (Nat.add_le_add_right (Nat.le_add_right i (k - 1)) k) hi
  obtain ⟨t, ht, hwt⟩ := hw i hi1
  obtain ⟨t', ht', hwt'⟩ := hw (i + (k - 1)) hi
  rw [← hc] at hwt
  rw [← Nat.add_assoc, ← hc, hq1] at hwt'
  -- the last letter of the one window is the first letter of the other
  have g1 := (win_eq_iff (by rw [hlen]; exact hi1) (pf.le_len ht (pf.entry_fit hq))).mp hwt (k - 1)
    (Nat.sub_lt hk0 Nat.one_pos)
  rw [hq1] at g1
  have g2 := (win_eq_iff (by rw [hlen]; exact hi) (pf.le_len ht' (pf.site_fit hq))).mp hwt' 0 hk0
  refine ⟨t, ht, hwt, ?_, g1⟩
  rw [hwt']
  exact (site_windows pf hk5 hq ht' ht (g2.symm.trans g1)).2

/-- the four k-mers recorded for a sample at a site: the k-mer ending at the site, the k-mer starting at
it, and their reverse complements -/
def Blk (k : Nat) (T : List (List UInt8)) (q : Nat) (x : Nat) : Prop :=
  ∃ t ∈ T, x = kmerAt k t (q - k + 1) ∨ x = rcKmerAt k t (q - k + 1) ∨ x = kmerAt k t q ∨ x = rcKmerAt k t q

theorem same_end_iff (pf : PFam k L T PT) (hk5 : 5 ≤ k) {q : Nat} (hq : q ∈ PT) {t t' : List UInt8}
    (ht : t ∈ T) (ht' : t' ∈ T) :
    win t' (q - k + 1) k = win t (q - k + 1) k ↔ t'.getD q 0 = t.getD q 0 := by
  have hk0 : 0 < k := Nat.lt_of_lt_of_le (by decide) hk5
  have hL := pf.entry_fit hq
  obtain ⟨h1, h2⟩ := pf.entry_mem hk0 hq
  refine ⟨fun h => ?_, fun h => (site_windows pf hk5 hq ht' ht h).1⟩
  exact win_getD (pf.le_len ht' hL) (pf.le_len ht hL) h h1 h2

theorem inner_site (pf : PFam k L T PT) (hk5 : 5 ≤ k) {W : Nat} (hW : 2 * k ≤ W) (hw : W = 64 ∨ W = 128)
    (col : Colours) (done : List Nat) {c0 len : Nat} {vs : List Variant} (hg : GG k L T PT c0 len vs) {q : Nat}
    (hq : q ∈ PT) (h1 : c0 ≤ q) (h2 : q < c0 + len) {v : Variant} (hv : v ∈ vs)
    (st : List UInt8 × List Nat × Bool) :
    ∃ t ∈ T, v.1.getD (q - c0) 0 = t.getD q 0 ∧
      LORL.inner W (k - 1) col done (q - c0) st v =
        if kmerAt k t (q - k + 1) ∉ done ∧ rcKmerAt k t q ∉ done then
          (Assoc.lookup col (kmerAt k t (q - k + 1))).map (fun Cs =>
            (Cs.foldl (LORL.upd (t.getD q 0)) st.1,
             st.2.1 ++ [kmerAt k t (q - k + 1), rcKmerAt k t (q - k + 1), kmerAt k t q, rcKmerAt k t q], st.2.2))
        else some (st.1, st.2.1, false) := by
  obtain ⟨i, e1, hc, hi⟩ := hg.site pf (Nat.le_trans (by decide) hk5) hq h1 h2
  obtain ⟨hlen, hbase, _⟩ := hg.hv v hv
  obtain ⟨t, ht, hwe, hws, hlet⟩ := gg_windows pf hk5 hg hq hc hi hv
  have heval := inner_eval (Nat.le_trans (by decide) hk5) hW hw col done i st v hbase (by rw [hlen]; exact hi)
  rw [(kmerAt_congr hwe).1, (kmerAt_congr hwe).2, (kmerAt_congr hws).1, (kmerAt_congr hws).2, hlet] at heval
  rw [e1]
  exact ⟨t, ht, hlet, heval⟩

/-- the state of the inner loop at a new site `q` after variants showing the bases `B`: the samples with a
base in `B` have their entry, the others '-'; the k-mers recorded are blocking k-mers of `q`, among them
those of the samples with a base in `B` -/
structure SiteInv (k : Nat) (T : List (List UInt8)) (q : Nat) (B : List UInt8)
    (st : List UInt8 × List Nat × Bool) : Prop where
  flag : st.2.2 = true
  len : st.1.length = T.length
  col : ∀ i (hi : i < T.length), st.1.getD i 0 = if (T[i]).getD q 0 ∈ B then (T[i]).getD q 0 else 45
  blk : ∀ x ∈ st.2.1, Blk k T q x
  has : ∀ t ∈ T, t.getD q 0 ∈ B → kmerAt k t (q - k + 1) ∈ st.2.1 ∧ rcKmerAt k t q ∈ st.2.1

theorem SiteInv.step (pf : PFam k L T PT) (hk5 : 5 ≤ k) {q : Nat} (hq : q ∈ PT) {B : List UInt8}
    {st : List UInt8 × List Nat × Bool} (hI : SiteInv k T q B st) {t : List UInt8} (ht : t ∈ T) {Cs : List Nat}
    (hCs : ∀ i, i ∈ Cs ↔ ∃ t', T[i]? = some t' ∧ win t' (q - k + 1) k = win t (q - k + 1) k) :
    SiteInv k T q (t.getD q 0 :: B) (Cs.foldl (LORL.upd (t.getD q 0)) st.1,
      st.2.1 ++ [kmerAt k t (q - k + 1), rcKmerAt k t (q - k + 1), kmerAt k t q, rcKmerAt k t q], st.2.2) := by
  have hn78 : t.getD q 0 ≠ 78 := by
    rcases isBase_cases (pf.getD_base ht (pf.site_lt hq)) with h | h | h | h <;> rw [h] <;> decide
  refine ⟨hI.flag, by rw [LORL.foldl_upd_length]; exact hI.len, fun i hi => ?_, fun x hx => ?_, fun t' ht' hb => ?_⟩
  · have hiCs : i ∈ Cs ↔ (T[i]).getD q 0 = t.getD q 0 := by
      rw [hCs]
      constructor
      · rintro ⟨t', ht', hw'⟩
        obtain rfl := Option.some.inj ((List.getElem?_eq_getElem hi).symm.trans ht')
        exact (same_end_iff pf hk5 hq ht (List.getElem_mem hi)).mp hw'
      · intro h
        exact ⟨T[i], List.getElem?_eq_getElem hi, (same_end_iff pf hk5 hq ht (List.getElem_mem hi)).mpr h⟩
    show (Cs.foldl (LORL.upd (t.getD q 0)) st.1).getD i 0 = _
    rw [LORL.foldl_upd_getD _ hn78 Cs st.1 i (by rw [hI.len]; exact hi), hI.col i hi]
    by_cases e : (T[i]).getD q 0 = t.getD q 0
    · -- the entry was '-' or this base
      rw [if_pos (hiCs.mpr e), e, if_pos List.mem_cons_self]
      unfold LORL.updF
      split <;> simp
    · rw [if_neg (fun h => e (hiCs.mp h))]
      simp only [List.mem_cons, e, false_or]
  · rcases List.mem_append.mp hx with h | h
    · exact hI.blk x h
    · simp only [List.mem_cons, List.not_mem_nil, or_false] at h
      exact ⟨t, ht, h⟩
  · rcases List.mem_cons.mp hb with e | hB
    · obtain ⟨w1, w2⟩ := site_windows pf hk5 hq ht' ht e
      rw [(kmerAt_congr w1).1, (kmerAt_congr w2).2]
      exact ⟨List.mem_append_right _ (by simp), List.mem_append_right _ (by simp)⟩
    · exact ⟨List.mem_append_left _ (hI.has t' ht' hB).1, List.mem_append_left _ (hI.has t' ht' hB).2⟩

theorem inner_new (pf : PFam k L T PT) (hk5 : 5 ≤ k) {W : Nat} (hW : 2 * k ≤ W) (hw : W = 64 ∨ W = 128)
    {col : Colours} (hc : ColOK k L col T) {done : List Nat} {c0 len : Nat} {vs : List Variant}
    (hg : GG k L T PT c0 len vs) {q : Nat} (hq : q ∈ PT) (h1 : c0 ≤ q) (h2 : q < c0 + len)
    (hnew : ∀ t ∈ T, kmerAt k t (q - k + 1) ∉ done ∧ rcKmerAt k t q ∉ done) :
    ∃ tmp, vs.foldlM (LORL.inner W (k - 1) col done (q - c0)) (List.replicate T.length 45, [], true) =
        some (T.map (fun t => t.getD q 0), tmp, true) ∧
      (∀ x ∈ tmp, Blk k T q x) ∧
      ∀ t ∈ T, kmerAt k t (q - k + 1) ∈ tmp ∧ rcKmerAt k t q ∈ tmp := by
  have hqk := pf.entry_fit hq
  -- the bases `B` shown so far grow with every variant
  obtain ⟨B', st', hfold, hI, _, hall⟩ := foldlM_grow (LORL.inner W (k - 1) col done (q - c0)) (SiteInv k T q)
    (fun v B => v.1.getD (q - c0) 0 ∈ B) (fun _ _ _ hsub h => hsub _ h) vs
    (fun v hv B st hI => by
      obtain ⟨t, ht, hb, heval⟩ := inner_site pf hk5 hW hw col done hg hq h1 h2 hv st
      obtain ⟨Cs, hlk, _, hCs⟩ := hc t ht (q - k + 1) hqk
      have hlk' : Assoc.lookup col (kmerAt k t (q - k + 1)) = some Cs := hlk
      rw [if_pos (hnew t ht), hlk', Option.map_some] at heval
      exact ⟨t.getD q 0 :: B, _, heval, hI.step pf hk5 hq ht hCs, fun b hb => List.mem_cons_of_mem _ hb, by
        rw [hb]; exact List.mem_cons_self⟩)
    [] (List.replicate T.length 45, [], true)
    ⟨rfl, List.length_replicate, fun i hi => by simp [List.getD_eq_getElem?_getD, hi], nofun, nofun⟩
  -- every base shown by a sample is shown by a variant
  have hB : ∀ t ∈ T, t.getD q 0 ∈ B' := fun t ht => by
    obtain ⟨v, hv, hvl⟩ := hg.cov q hq h1 h2 t ht
    rw [← hvl]
    exact hall v hv
  have hcol : st'.1 = T.map (fun t => t.getD q 0) := by
    apply Rows.ext_getD 0 _ _ (by rw [hI.len, List.length_map])
    intro i hi'
    have hi : i < T.length := by rw [← hI.len]; exact hi'
    rw [hI.col i hi, if_pos (hB _ (List.getElem_mem hi))]
    simp [List.getD_eq_getElem?_getD, List.getElem?_map, List.getElem?_eq_getElem hi]
  exact ⟨st'.2.1, by rw [hfold, ← hcol, ← hI.flag], hI.blk, fun t ht => hI.has t ht (hB t ht)⟩

theorem inner_old (pf : PFam k L T PT) (hk5 : 5 ≤ k) {W : Nat} (hW : 2 * k ≤ W) (hw : W = 64 ∨ W = 128)
    {col : Colours} {done : List Nat} {c0 len : Nat} {vs : List Variant}
    (hg : GG k L T PT c0 len vs) (hne : vs ≠ []) {q : Nat} (hq : q ∈ PT) (h1 : c0 ≤ q) (h2 : q < c0 + len)
    (hold : ∀ t ∈ T, kmerAt k t (q - k + 1) ∈ done) (st : List UInt8 × List Nat × Bool) :
    vs.foldlM (LORL.inner W (k - 1) col done (q - c0)) st = some (st.1, st.2.1, false) := by
  have step : ∀ (rest : List Variant) (st : List UInt8 × List Nat × Bool), (∀ v ∈ rest, v ∈ vs) → rest ≠ [] →
      rest.foldlM (LORL.inner W (k - 1) col done (q - c0)) st = some (st.1, st.2.1, false) := by
    intro rest
    induction rest with
    | nil => intro st _ h; exact absurd rfl h
    | cons v rest ih =>
      intro st hsub _
      obtain ⟨t, ht, _, heval⟩ := inner_site pf hk5 hW hw col done hg hq h1 h2 (hsub v List.mem_cons_self) st
      rw [if_neg (fun h => h.1 (hold t ht))] at heval
      rw [List.foldlM_cons, heval]
      simp only [Option.bind_eq_bind, Option.bind_some]
      cases rest with
      | nil => rfl
      | cons u rest' =>
        exact ih (st.1, st.2.1, false) (fun u hu => hsub u (List.mem_cons_of_mem _ hu)) (by simp)
  exact step vs st (fun v hv => hv) hne

def colT (T : List (List UInt8)) (q : Nat) : List UInt8 := T.map (fun t => t.getD q 0)

theorem colT_base (pf : PFam k L T PT) {q : Nat} (hq : q < L) : ∀ b ∈ colT T q, isBase b = true := by
  intro b hb
  obtain ⟨t, ht, rfl⟩ := List.mem_map.mp hb
  exact pf.getD_base ht hq

theorem check_colT (pf : PFam k L T PT) {q : Nat} (hq : q ∈ PT) :
    checkMissingData (colT T q) = (true, 0) := by
  have hbase : ∀ b ∈ colT T q, isACGT b = true := colT_base pf (pf.site_lt hq)
  apply Prod.ext
  · obtain ⟨s, hs, s', hs', hne⟩ := pf.poly q hq
    exact (LO.check_fst_exists _).mpr ⟨_, _, hne, hbase _ (List.mem_map.mpr ⟨s, hs, rfl⟩),
      hbase _ (List.mem_map.mpr ⟨s', hs', rfl⟩), List.mem_map.mpr ⟨s, hs, rfl⟩, List.mem_map.mpr ⟨s', hs', rfl⟩⟩
  · rw [LO.check_snd]
    have : (colT T q).filter isACGT = colT T q := List.filter_eq_self.mpr hbase
    rw [this]
    simp

theorem colT_mirror (pf : PFam k L T PT) {q q' : Nat} (h : q + q' + 1 = L) :
    colT (rcFam T) q' = complCol (colT T q) := by
  unfold colT complCol rcFam
  rw [List.map_map, List.map_map]
  apply List.map_congr_left
  intro s hs
  simp only [Function.comp]
  exact pf.getD_mirror hs h

theorem gg_positions (pf : PFam k L T PT) (hk5 : 5 ≤ k) {c0 len : Nat} {vs : List Variant}
    (hg : GG k L T PT c0 len vs) (pos : Nat) : pos ∈ getPotentialSnp vs ↔ c0 + pos ∈ PT ∧ pos < len := by
  rw [LO.mem_getPotentialSnp]
  constructor
  · -- two variants differ at `pos`, so two samples differ at `c0 + pos`
    rintro ⟨_, a, b, hab, _, _, ⟨v, hv, hva⟩, ⟨v', hv', hvb⟩⟩
    have hpos : pos < len := by rw [← (hg.hv v hv).1]; exact (List.getElem?_eq_some_iff.mp hva).1
    have hk1 : 1 ≤ k := Nat.le_trans (by decide) hk5
    obtain ⟨t, ht, e⟩ := hg.letter pf hk1 hv hpos
    obtain ⟨t', ht', e'⟩ := hg.letter pf hk1 hv' hpos
    rw [List.getD_eq_getElem?_getD, hva] at e
    rw [List.getD_eq_getElem?_getD, hvb] at e'
    refine ⟨Classical.byContradiction fun hno => ?_, hpos⟩
    exact hab (e.trans ((pf.off t ht t' ht' (c0 + pos)
      (Nat.lt_of_lt_of_le (Nat.add_lt_add_left hpos c0) hg.hL) hno).trans e'.symm))
  · rintro ⟨hq, hpos⟩
    have h1 := Nat.le_add_right c0 pos
    have h2 := Nat.add_lt_add_left hpos c0
    obtain ⟨s, hs, s', hs', hne⟩ := pf.poly _ hq
    obtain ⟨v, hv, hvl⟩ := hg.cov _ hq h1 h2 s hs
    obtain ⟨v', hv', hvl'⟩ := hg.cov _ hq h1 h2 s' hs'
    have hm := hg.mark _ hq h1 h2
    rw [Nat.add_sub_cancel_left] at hvl hvl' hm
    have hqL : c0 + pos < L := Nat.lt_of_lt_of_le h2 hg.hL
    have hget : ∀ u ∈ vs, u.1[pos]? = some (u.1.getD pos 0) := by
      intro u hu
      rw [List.getD_eq_getElem?_getD, List.getElem?_eq_getElem (by rw [(hg.hv u hu).1]; exact hpos)]
      rfl
    exact ⟨hm, s.getD (c0 + pos) 0, s'.getD (c0 + pos) 0, hne,
      pf.getD_base hs hqL, pf.getD_base hs' hqL,
      ⟨v, hv, by rw [hget v hv, hvl]⟩, ⟨v', hv', by rw [hget v' hv', hvl']⟩⟩

def newSite (k : Nat) (T : List (List UInt8)) (done : List Nat) (q : Nat) : Bool :=
  decide (∀ t ∈ T, kmerAt k t (q - k + 1) ∉ done)

/-- `emit` is the entry kept for a site: the column in `groupSnps`, position and column in `groupSnpsPos`.
`hdich`: every site of the group is either blocked or untouched. -/
theorem siteFold_good {γ : Type} (emit : Nat → List UInt8 → γ) (pf : PFam k L T PT) (hk5 : 5 ≤ k) {W : Nat}
    (hW : 2 * k ≤ W) (hw : W = 64 ∨ W = 128) {col : Colours} (hc : ColOK k L col T) (done : List Nat)
    (mNum mDen : Nat) {c0 len : Nat} {vs : List Variant} (hg : GG k L T PT c0 len vs) (hne : vs ≠ [])
    (hdich : ∀ q ∈ PT, c0 ≤ q → q < c0 + len →
      (∀ t ∈ T, kmerAt k t (q - k + 1) ∈ done) ∨
      (∀ t ∈ T, kmerAt k t (q - k + 1) ∉ done ∧ rcKmerAt k t q ∉ done)) :
    ∃ (Qn : List Nat) (save : List Nat),
      (getPotentialSnp vs).foldlM (LOP.siteStep emit W (k - 1) T.length mNum mDen col done vs) ([], []) =
        some (Qn.map (fun q => emit (q - c0) (colT T q)), save) ∧
      Qn.Nodup ∧
      (∀ q, q ∈ Qn ↔ q ∈ PT ∧ c0 ≤ q ∧ q < c0 + len ∧ ∀ t ∈ T, kmerAt k t (q - k + 1) ∉ done) ∧
      (∀ x ∈ save, ∃ q ∈ Qn, Blk k T q x) ∧
      (∀ q ∈ Qn, ∀ t ∈ T, kmerAt k t (q - k + 1) ∈ save ∧ rcKmerAt k t q ∈ save) := by
  obtain ⟨t0, ht0⟩ := List.exists_mem_of_ne_nil T pf.ne
  -- the loop over the positions of a list of sites of the group: the new ones are called
  have loop : ∀ (qs : List Nat), (∀ q ∈ qs, q ∈ PT ∧ c0 ≤ q ∧ q < c0 + len) →
      ∀ acc : List γ × List Nat, ∃ save : List Nat,
        (qs.map (· - c0)).foldlM (LOP.siteStep emit W (k - 1) T.length mNum mDen col done vs) acc =
          some (acc.1 ++ (qs.filter (newSite k T done)).map (fun q => emit (q - c0) (colT T q)), acc.2 ++ save) ∧
        (∀ x ∈ save, ∃ q ∈ qs.filter (newSite k T done), Blk k T q x) ∧
        (∀ q ∈ qs.filter (newSite k T done), ∀ t ∈ T,
          kmerAt k t (q - k + 1) ∈ save ∧ rcKmerAt k t q ∈ save) := by
    intro qs
    induction qs with
    | nil => intro _ acc; exact ⟨[], by simp, nofun, nofun⟩
    | cons q rest ih =>
      intro hqs acc
      obtain ⟨hq, h1, h2⟩ := hqs q List.mem_cons_self
      have hrest := ih (fun p hp => hqs p (List.mem_cons_of_mem _ hp))
      have hpos : ¬ q - c0 < k - 1 := Nat.not_lt.mpr (by
        obtain ⟨i, e1, -⟩ := hg.site pf (Nat.le_trans (by decide) hk5) hq h1 h2
        rw [e1]
        exact Nat.le_add_left ..)
      rw [List.map_cons, List.foldlM_cons]
      rcases hdich q hq h1 h2 with hold | hnew
      · have hn : ¬ newSite k T done q = true := fun h => of_decide_eq_true h t0 ht0 (hold t0 ht0)
        have hs : LOP.siteStep emit W (k - 1) T.length mNum mDen col done vs acc (q - c0) = some acc := by
          unfold LOP.siteStep
          rw [if_neg hpos, LOP.siteCol, inner_old pf hk5 hW hw hg hne hq h1 h2 hold]
          rfl
        rw [hs, List.filter_cons_of_neg hn]
        exact hrest acc
      · have hy : newSite k T done q = true := decide_eq_true fun t ht => (hnew t ht).1
        obtain ⟨tmp, hfold, htmp1, htmp2⟩ := inner_new pf hk5 hW hw hc hg hq h1 h2 hnew
        have hcheck : checkMissingData (List.map (fun t => t.getD q 0) T) = (true, 0) := check_colT pf hq
        have hr : ratioLe 0 T.length mNum mDen = true := by unfold ratioLe; simp
        have hs : LOP.siteStep emit W (k - 1) T.length mNum mDen col done vs acc (q - c0) =
            some (acc.1 ++ [emit (q - c0) (colT T q)], acc.2 ++ tmp) := by
          unfold LOP.siteStep
          rw [if_neg hpos, LOP.siteCol, hfold]
          simp only [Option.bind_some, if_true, hcheck, hr, Bool.and_self]
          rfl
        obtain ⟨save, hf, hS1, hS2⟩ := hrest (acc.1 ++ [emit (q - c0) (colT T q)], acc.2 ++ tmp)
        rw [hs, List.filter_cons_of_pos hy]
        refine ⟨tmp ++ save, ?_, fun x hx => ?_, fun q' hq' t ht => ?_⟩
        · simpa using hf
        · rcases List.mem_append.mp hx with h | h
          · exact ⟨q, List.mem_cons_self, htmp1 x h⟩
          · obtain ⟨q', hq', hb⟩ := hS1 x h
            exact ⟨q', List.mem_cons_of_mem _ hq', hb⟩
        · rcases List.mem_cons.mp hq' with rfl | h
          · exact ⟨List.mem_append_left _ (htmp2 t ht).1, List.mem_append_left _ (htmp2 t ht).2⟩
          · exact ⟨List.mem_append_right _ (hS2 q' h t ht).1, List.mem_append_right _ (hS2 q' h t ht).2⟩
  have hqs : ∀ q ∈ (getPotentialSnp vs).map (c0 + ·), q ∈ PT ∧ c0 ≤ q ∧ q < c0 + len := by
    intro q hq
    obtain ⟨pos, hp, rfl⟩ := List.mem_map.mp hq
    obtain ⟨hq', hpos⟩ := (gg_positions pf hk5 hg pos).mp hp
    exact ⟨hq', Nat.le_add_right .., Nat.add_lt_add_left hpos c0⟩
  have hmap : ((getPotentialSnp vs).map (c0 + ·)).map (· - c0) = getPotentialSnp vs := by
    rw [List.map_map]
    exact (List.map_congr_left (g := id) fun p _ => Nat.add_sub_cancel_left c0 p).trans (List.map_id _)
  obtain ⟨save, hf, hS1, hS2⟩ := loop _ hqs ([], [])
  rw [hmap] at hf
  refine ⟨_, save, by simpa using hf, ?_, fun q => ?_, hS1, hS2⟩
  · exact List.Pairwise.filter _ (List.pairwise_map.mpr
      ((LO.getPotentialSnp_sorted vs).imp fun h => Nat.ne_of_lt (Nat.add_lt_add_left h c0)))
  · rw [List.mem_filter]
    constructor
    · rintro ⟨hq, hn⟩
      obtain ⟨a, b, c⟩ := hqs q hq
      exact ⟨a, b, c, of_decide_eq_true hn⟩
    · rintro ⟨a, b, c, hn⟩
      have hpos := (gg_positions pf hk5 hg (q - c0)).mpr
        ⟨by rw [Nat.add_sub_of_le b]; exact a, Nat.sub_lt_left_of_lt_add b c⟩
      exact ⟨List.mem_map.mpr ⟨q - c0, hpos, Nat.add_sub_of_le b⟩, decide_eq_true hn⟩

end SkaModel.LOC
