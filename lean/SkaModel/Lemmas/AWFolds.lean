/-
The array passes of `AlnWriter`, position by position: `copyRef`, and the middle-base and
repeat-mask passes of `finalise`.
-/
import SkaModel.Lemmas.AWSpec

namespace SkaModel.AW

open SkaModel SkaModel.Spec

theorem getD_setIfInBounds (a : Array UInt8) (i j : Nat) (v d : UInt8) :
    (a.setIfInBounds i v).getD j d = if i = j ∧ j < a.size then v else a.getD j d := by
  rw [Array.getD_eq_getD_getElem?, Array.getD_eq_getD_getElem?, Array.getElem?_setIfInBounds]
  by_cases hij : i = j
  · subst hij
    by_cases hi : i < a.size
    · simp [hi]
    · simp [hi]
  · simp [hij]

section
variable {α : Type} (f : α → Nat) (g : α → UInt8)

/-- `copyRef` and the middle-base pass of `finalise` are folds of this form. -/
theorem foldl_set_size (l : List α) (out : Array UInt8) :
    (l.foldl (fun o x => o.setIfInBounds (f x) (g x)) out).size = out.size := by
  induction l generalizing out with
  | nil => rfl
  | cons t l ih => rw [List.foldl_cons, ih, Array.size_setIfInBounds]

theorem foldl_set_none (l : List α) (a : Array UInt8) (i : Nat) (d : UInt8)
    (hno : ∀ x ∈ l, f x ≠ i) :
    (l.foldl (fun o x => o.setIfInBounds (f x) (g x)) a).getD i d = a.getD i d := by
  induction l generalizing a with
  | nil => rfl
  | cons x l ih =>
    simp only [List.foldl_cons]
    rw [ih _ (fun y hy => hno y (List.mem_cons_of_mem _ hy)), getD_setIfInBounds]
    have := hno x List.mem_cons_self
    rw [if_neg (fun h => this h.1)]

theorem foldl_set_some (l : List α) (a : Array UInt8) (i : Nat) (d b : UInt8)
    (hi : i < a.size) (hex : ∃ x ∈ l, f x = i) (hall : ∀ x ∈ l, f x = i → g x = b) :
    (l.foldl (fun o x => o.setIfInBounds (f x) (g x)) a).getD i d = b := by
  induction l generalizing a with
  | nil => obtain ⟨x, hx, _⟩ := hex; cases hx
  | cons x l ih =>
    simp only [List.foldl_cons]
    by_cases hl : ∃ y ∈ l, f y = i
    · exact ih _ (by simpa using hi) hl (fun y hy => hall y (List.mem_cons_of_mem _ hy))
    · have hx : f x = i := by
        obtain ⟨y, hy, hyi⟩ := hex
        rcases List.mem_cons.1 hy with rfl | hy'
        · exact hyi
        · exact absurd ⟨y, hy', hyi⟩ hl
      rw [foldl_set_none f g _ _ _ _ (fun y hy hyi => hl ⟨y, hy, hyi⟩), getD_setIfInBounds,
        if_pos ⟨hx, hi⟩]
      exact hall x List.mem_cons_self hx

end

theorem copyRef_size (out contig : Array UInt8) (off start stop : Nat) :
    (AlnWriter.copyRef out contig off start stop).size = out.size :=
  foldl_set_size _ _ _ out

theorem copyRef_empty (out contig : Array UInt8) (off start stop : Nat) (hle : stop ≤ start) :
    AlnWriter.copyRef out contig off start stop = out := by
  rw [AlnWriter.copyRef, Nat.sub_eq_zero_of_le hle]
  rfl

theorem copyRef_getD_in (out contig : Array UInt8) (off start stop q : Nat) (d : UInt8)
    (h1 : start ≤ q) (h2 : q < stop) (hi : off + q < out.size) :
    (AlnWriter.copyRef out contig off start stop).getD (off + q) d = contig.getD q 0 := by
  obtain ⟨t, rfl⟩ := Nat.exists_eq_add_of_le h1
  refine foldl_set_some (fun t => off + start + t) _ _ _ _ _ _ hi
    ⟨t, List.mem_range.2 (Nat.lt_sub_iff_add_lt'.2 h2), Nat.add_assoc ..⟩ (fun t' _ ht => ?_)
  exact congrArg (contig.getD · 0) (Nat.add_left_cancel ((Nat.add_assoc ..).symm.trans ht))

theorem copyRef_getD_out (out contig : Array UInt8) (off start stop i : Nat) (d : UInt8)
    (h : ¬ (off + start ≤ i ∧ i < off + stop)) :
    (AlnWriter.copyRef out contig off start stop).getD i d = out.getD i d := by
  refine foldl_set_none (fun t => off + start + t) _ _ _ _ _ (fun t ht => ?_)
  rintro rfl
  exact h ⟨Nat.le_add_right _ _, Nat.add_assoc off start t ▸
    Nat.add_lt_add_left (Nat.lt_sub_iff_add_lt'.1 (List.mem_range.1 ht)) _⟩

theorem copyRef_query (ref : List (Array UInt8)) (out : Array UInt8) {c c' p : Nat}
    (start stop : Nat) (hsize : out.size = contigOffset ref ref.length)
    (hc' : c' < ref.length) (hp : p < csize ref c') (hstop : stop ≤ csize ref c) :
    (AlnWriter.copyRef out (ref.getD c #[]) (contigOffset ref c) start stop).getD
        (contigOffset ref c' + p) GAP =
      if c' = c ∧ start ≤ p ∧ p < stop then (ref.getD c' #[]).getD p 0
      else out.getD (contigOffset ref c' + p) GAP := by
  by_cases hr : c' = c ∧ start ≤ p ∧ p < stop
  · rw [if_pos hr]
    obtain ⟨rfl, h1, h2⟩ := hr
    exact copyRef_getD_in _ _ _ _ _ _ _ h1 h2 (hsize ▸ abs_lt_total ref hc' hp)
  · rw [if_neg hr]
    exact copyRef_getD_out _ _ _ _ _ _ _ fun h => hr ((region_iff ref hp hstop).1 h)

/-- the repeat-mask pass of `finalise` -/
theorem repFold_size (reps : List Nat) (a : Array UInt8) :
    (reps.foldl (fun o r => if o.getD r GAP != GAP then o.setIfInBounds r 78 else o) a).size
      = a.size := by
  induction reps generalizing a with
  | nil => rfl
  | cons r reps ih =>
    simp only [List.foldl_cons]; rw [ih]
    split <;> simp

theorem repStep_getD (a : Array UInt8) (r i : Nat) :
    (if a.getD r GAP != GAP then a.setIfInBounds r 78 else a).getD i GAP
      = if r = i ∧ a.getD i GAP ≠ GAP then 78 else a.getD i GAP := by
  by_cases hg : a.getD r GAP = GAP
  · have : (a.getD r GAP != GAP) = false := by rw [hg]; decide
    rw [this, if_neg (by decide)]
    by_cases hri : r = i
    · subst hri; rw [if_neg (fun h => h.2 hg)]
    · rw [if_neg (fun h => hri h.1)]
  · have : (a.getD r GAP != GAP) = true := bne_iff_ne.2 hg
    rw [this, if_pos rfl, getD_setIfInBounds]
    by_cases hri : r = i
    · subst hri
      have hsz : r < a.size := by
        apply Classical.byContradiction
        intro hsz
        apply hg
        unfold Array.getD
        rw [dif_neg hsz]
      rw [if_pos ⟨rfl, hsz⟩, if_pos ⟨rfl, hg⟩]
    · rw [if_neg (fun h => hri h.1), if_neg (fun h => hri h.1)]

theorem repFold_getD (reps : List Nat) (a : Array UInt8) (i : Nat) :
    (reps.foldl (fun o r => if o.getD r GAP != GAP then o.setIfInBounds r 78 else o) a).getD i GAP
      = if a.getD i GAP != GAP && reps.contains i then 78 else a.getD i GAP := by
  induction reps generalizing a with
  | nil => simp
  | cons r reps ih =>
    rw [List.foldl_cons, ih, repStep_getD]
    have h78 : (78 : UInt8) ≠ GAP := by decide
    generalize a.getD i GAP = x
    by_cases hri : r = i
    · subst hri
      by_cases hg : x = GAP
      · simp [hg]
      · simp [hg, h78]
    · have hir : ¬ i = r := fun h => hri h.symm
      by_cases hg : x = GAP
      · simp [hg, hri]
      · simp [hg, hri, hir]

end SkaModel.AW
