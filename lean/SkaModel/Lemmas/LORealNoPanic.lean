/-
`ska lo`: nothing in the caller panics on the groups of a table's graph
(`T17_snp_group_shape` … `T17_lo_no_panic` in `SkaModel/Props/C17Real.lean`).

A reported sequence spells a walk of the table's graph (`Spelled`), so each of its k-mers is the
k-mer of an edge and hence coloured; the variants of an SNP group have equal length and share their
first and last (k-1)-mer, so the retained positions leave room for both k-mers (`Roomy`).  With that
`identifyGoodKmers`, `processIndels`, `groupSnps` and `analyse` return `some`.
-/
import SkaModel.Lemmas.LORealColumns
import SkaModel.Lemmas.LORealColours
import SkaModel.Props.C17Paths
import SkaModel.Lemmas.LOCalls

namespace SkaModel.LORL

open SkaModel SkaModel.Skalo SkaModel.Spec SkaModel.Props.C16 SkaModel.Props.C17G SkaModel.LOG

theorem inner_some (W kGraph : Nat) (col : Colours) (done : List Nat) (pos : Nat) (v : Variant)
    (st : List UInt8 × List Nat × Bool) (hk : kGraph ≤ pos) (hlen : pos + kGraph + 1 ≤ v.1.length)
    (hcol : ∃ S, Assoc.lookup col (encodeKmer W ((v.1.drop (pos - kGraph)).take (kGraph + 1))) = some S) :
    ∃ st', inner W kGraph col done pos st v = some st' := by
  obtain ⟨S, hS⟩ := hcol
  -- `pos = i + kGraph`: both slices have `kGraph + 1` letters, one starts at `i`, the other at `pos`
  obtain ⟨i, rfl⟩ := Nat.exists_eq_add_of_le' hk
  rw [Nat.add_assoc (i + kGraph)] at hlen
  rw [Nat.add_sub_cancel] at hS
  unfold inner
  rw [Nat.add_assoc (i + kGraph), getRange_add, if_pos hlen, Nat.add_sub_cancel, Nat.add_assoc i, getRange_add,
    if_pos (by omega)]
  simp only [Option.bind_eq_bind, Option.bind_some]
  split
  · rw [hS]
    exact ⟨_, rfl⟩
  · exact ⟨_, rfl⟩

/-- the hypothesis under which `groupSnps` cannot panic -/
def Roomy (W kGraph : Nat) (col : Colours) (vs : List Variant) : Prop :=
  ∀ pos ∈ getPotentialSnp vs, kGraph ≤ pos ∧ ∀ v ∈ vs, pos + kGraph + 1 ≤ v.1.length ∧
    ∃ S, Assoc.lookup col (encodeKmer W ((v.1.drop (pos - kGraph)).take (kGraph + 1))) = some S

theorem groupSnps_some (W kGraph n mNum mDen : Nat) (col : Colours) (done : List Nat) (vs : List Variant)
    (h : Roomy W kGraph col vs) : ∃ r, groupSnps W kGraph n mNum mDen col done vs = some r := by
  rw [LOP.groupSnps_eq]
  apply LO.foldlM_some
  intro pos hpos acc
  obtain ⟨hk, hv⟩ := h pos hpos
  unfold LOP.siteStep
  rw [if_neg (by omega), LOP.siteCol]
  refine LO.bind_some _ _ ?_ ?_
  · exact LO.foldlM_some (inner W kGraph col done pos) vs
      (fun v hv' st => inner_some W kGraph col done pos v st hk (hv v hv').1 (hv v hv').2) _
  · intro st
    split
    · split <;> exact ⟨_, rfl⟩
    · exact ⟨_, rfl⟩

theorem groupsFrom_lengths {W kGraph : Nat} {g' : Graph} {comp : List (Nat × List Nat)}
    {starts ends : List Nat} {maxDepth kmer : Nat} {grp : (Nat × Nat) × List Variant}
    (h : grp ∈ groupsFrom W kGraph g' comp starts ends maxDepth kmer) :
    grp.2.length = 2 ∨ ∃ m, ∀ var ∈ grp.2, var.1.length = m := by
  obtain ⟨_, e, paths, _, _, _, rfl⟩ := (LOC.mem_groupsFrom ..).mp h
  dsimp only
  split
  · rename_i h2
    exact Or.inl (by rw [List.length_map]; exact eq_of_beq h2)
  · refine Or.inr ⟨kGraph + (mostCommonLength paths - 1), fun var hvar => ?_⟩
    obtain ⟨p, hp, rfl⟩ := List.mem_map.1 hvar
    rw [buildVariant_length, eq_of_beq (List.mem_filter.1 hp).2]

/-- an SNP group is a group of some entry node (`groupsFrom_lengths`); of the two-variant groups
the classification `clsSnp` keeps those of equal length (any graph) -/
theorem snp_equal_length (W kGraph : Nat) (g : Graph) (starts ends : List Nat) (maxDepth : Nat)
    (kv : (Nat × Nat) × List Variant)
    (h : kv ∈ (buildVariantGroups W kGraph g starts ends maxDepth).snpGroups) :
    ∀ v ∈ kv.2, ∀ v' ∈ kv.2, v.1.length = v'.1.length := by
  rw [LOP.buildVariantGroups_eq] at h
  obtain ⟨hm, hc⟩ := List.mem_filter.mp h
  obtain ⟨kmer, _, hm⟩ := List.mem_flatMap.mp hm
  rcases groupsFrom_lengths hm with h2 | ⟨m, hm⟩
  · unfold LOP.clsSnp at hc
    match hvs : kv.2, h2 with
    | [v0, v1], _ =>
      rw [hvs] at hc
      simp at hc
      intro v hv v' hv'
      simp only [List.mem_cons, List.not_mem_nil, or_false] at hv hv'
      rcases hv with rfl | rfl <;> rcases hv' with rfl | rfl <;> simp [hc]
  · intro v hv v' hv'
    rw [hm v hv, hm v' hv']

/-- the sequence of `var` spells the walk `path` of `n` edges of `g` that ends in `key.2`: it has `n + kGraph`
letters A/C/G/T, begins with the letters of `key.1`, and window `i` of `kGraph` letters encodes to node `i` -/
structure Spelled (W kGraph : Nat) (g : Graph) (key : Nat × Nat) (var : Variant) (path : List Nat) (n : Nat) :
    Prop where
  base : LOC.AllBase var.1
  walk : Walk g path
  nodes : path.length = n + 1
  last : path[n]? = some key.2
  two : 2 ≤ n
  len : var.1.length = n + kGraph
  take : var.1.take kGraph = skaloDecode W key.1 kGraph
  win : ∀ (i x : Nat), path[i]? = some x → encodeKmer W ((var.1.drop i).take kGraph) = x

def VarSpec (W kGraph : Nat) (g : Graph) (key : Nat × Nat) (var : Variant) : Prop :=
  ∃ path n, Spelled W kGraph g key var path n

theorem var_spec (W : Nat) (a : Arr) (hk : ValidK a.k) (hw : WidthOk W a.k)
    (hkeys : ∀ key ∈ a.kmers, key < 4 ^ (a.k - 1)) (starts ends : List Nat) (maxDepth : Nat)
    (grp : (Nat × Nat) × List Variant)
    (hgrp : grp ∈ (buildVariantGroups W (a.k - 1) (buildGraph W a).1 starts ends maxDepth).snpGroups ++
        (buildVariantGroups W (a.k - 1) (buildGraph W a).1 starts ends maxDepth).indelGroups)
    (var : Variant) (hvar : var ∈ grp.2) : VarSpec W (a.k - 1) (buildGraph W a).1 grp.1 var := by
  obtain ⟨hk1, hkW, _⟩ := kGraph_bounds hk hw
  obtain ⟨_, _, h⟩ := T17_paths_real W (a.k - 1) (buildGraph W a).1 starts ends maxDepth grp hgrp
  obtain ⟨path, rfl, hwalk, hhead, hlast, hlen⟩ := h var hvar
  obtain ⟨hlt, hov⟩ := walk_nodes (buildGraph_edges_overlap W a hk hw hkeys) hwalk (Nat.le_of_succ_le hlen)
  have h2 := (buildVariant_spells W (a.k - 1) starts ends grp.1.1 path hkW hhead hlt hov).2
  cases path with
  | nil => simp at hhead
  | cons a0 rest =>
    obtain rfl : a0 = grp.1.1 := by simpa using hhead
    exact ⟨grp.1.1 :: rest, rest.length,
      { base := buildVariant_base W (a.k - 1) starts ends grp.1.1 rest (hlt _ (List.mem_cons_self ..)) (by omega)
        walk := hwalk
        nodes := rfl
        last := by rw [← hlast, List.getLast?_eq_getElem?]; rfl
        two := Nat.le_of_succ_le_succ hlen
        len := by rw [buildVariant_length, Nat.add_comm]; rfl
        take := buildVariant_take _ _ _ _ _ _
        win := h2 }⟩

theorem spelled_window {W kGraph : Nat} {g : Graph} {key : Nat × Nat} {var : Variant} {path : List Nat}
    {n : Nat} (h : Spelled W kGraph g key var path n) (hk1 : 1 ≤ kGraph) (hW : 2 * (kGraph + 1) ≤ W) (i : Nat)
    (hi : i + kGraph + 1 ≤ var.1.length) :
    ∃ x y, Edge g x y ∧ encodeKmer W ((var.1.drop i).take (kGraph + 1)) = combineKmers W x y := by
  have hi1 : i + 1 < path.length := by rw [h.nodes]; rw [h.len] at hi; omega
  obtain ⟨x, hx⟩ : ∃ x, path[i]? = some x := ⟨_, List.getElem?_eq_getElem (Nat.lt_of_succ_lt hi1)⟩
  obtain ⟨y, hy⟩ : ∃ y, path[i + 1]? = some y := ⟨_, List.getElem?_eq_getElem hi1⟩
  exact ⟨x, y, chainR_getElem? path i x y ((walk_eq_chainR g path).1 h.walk) hx hy,
    window_combine W kGraph hk1 hW var.1 i x y hi (h.win i x hx) (h.win (i + 1) y hy)⟩

theorem var_windows_coloured (W : Nat) (a : Arr) (hk : ValidK a.k) (hw : WidthOk W a.k)
    (hkeys : ∀ key ∈ a.kmers, key < 4 ^ (a.k - 1)) (key : Nat × Nat) (var : Variant)
    (hs : VarSpec W (a.k - 1) (buildGraph W a).1 key var) (i : Nat) (hi : i + (a.k - 1 + 1) ≤ var.1.length) :
    ∃ S, Assoc.lookup (buildGraph W a).2 (encodeKmer W ((var.1.drop i).take (a.k - 1 + 1))) = some S ∧
      S ≠ [] := by
  obtain ⟨hk1, hkW, _⟩ := kGraph_bounds hk hw
  obtain ⟨path, n, h⟩ := hs
  obtain ⟨x, y, hedge, e⟩ := spelled_window h hk1 hkW i hi
  rw [e]
  exact edge_coloured W a hk hw hkeys x y hedge

theorem spelled_last {W kGraph : Nat} {g : Graph} {key : Nat × Nat} {var : Variant} {path : List Nat}
    {n : Nat} (h : Spelled W kGraph g key var path n) : encodeKmer W (var.1.drop n) = key.2 := by
  have := h.win n key.2 h.last
  rwa [List.take_of_length_le (by rw [List.length_drop, h.len, Nat.add_sub_cancel_left]; exact Nat.le_refl _)]
    at this

/-- both ends are determined by the entry and the exit node -/
theorem var_shared (W kGraph : Nat) (hW : 2 * kGraph ≤ W) (g : Graph) (key : Nat × Nat) (v v' : Variant)
    (hv : VarSpec W kGraph g key v) (hv' : VarSpec W kGraph g key v') (hl : v.1.length = v'.1.length) :
    v.1.take kGraph = v'.1.take kGraph ∧
    v.1.drop (v.1.length - kGraph) = v'.1.drop (v.1.length - kGraph) := by
  obtain ⟨path, n, h⟩ := hv
  obtain ⟨path', n', h'⟩ := hv'
  obtain rfl : n = n' := Nat.add_right_cancel (h.len.symm.trans (hl.trans h'.len))
  refine ⟨h.take.trans h'.take.symm, ?_⟩
  rw [h.len, Nat.add_sub_cancel]
  exact LOC.enc_inj W (h.base.drop n) (h'.base.drop n) (by rw [List.length_drop, List.length_drop, hl])
    (by rw [List.length_drop, h.len, Nat.add_sub_cancel_left]; exact hW)
    ((spelled_last h).trans (spelled_last h').symm)

theorem le_of_take_eq {α : Type} {s t : List α} {m pos : Nat} (h : s.take m = t.take m)
    (hne : s[pos]? ≠ t[pos]?) : m ≤ pos := by
  apply Nat.le_of_not_lt
  intro hlt
  rw [← List.getElem?_take_of_lt hlt, h, List.getElem?_take_of_lt hlt] at hne
  exact hne rfl

theorem lt_of_drop_eq {α : Type} {s t : List α} {d pos : Nat} (h : s.drop d = t.drop d)
    (hne : s[pos]? ≠ t[pos]?) : pos < d := by
  apply Nat.lt_of_not_le
  intro hle
  obtain ⟨j, rfl⟩ := Nat.exists_eq_add_of_le hle
  rw [← List.getElem?_drop, h, List.getElem?_drop] at hne
  exact hne rfl

theorem roomy_of_shared (W kGraph : Nat) (col : Colours) (vs : List Variant)
    (hlen : ∀ v ∈ vs, ∀ v' ∈ vs, v.1.length = v'.1.length)
    (hsh : ∀ v ∈ vs, ∀ v' ∈ vs, v.1.take kGraph = v'.1.take kGraph ∧
      v.1.drop (v.1.length - kGraph) = v'.1.drop (v.1.length - kGraph))
    (hcol : ∀ v ∈ vs, ∀ i, i + (kGraph + 1) ≤ v.1.length →
      ∃ S, Assoc.lookup col (encodeKmer W ((v.1.drop i).take (kGraph + 1))) = some S) :
    Roomy W kGraph col vs := by
  intro pos hpos
  obtain ⟨_, x, y, hxy, _, _, ⟨v, hv, hvx⟩, ⟨v', hv', hvy⟩⟩ := (LO.mem_getPotentialSnp vs pos).mp hpos
  have hne : v.1[pos]? ≠ v'.1[pos]? := by rw [hvx, hvy]; exact fun e => hxy (Option.some.inj e)
  have h1 := le_of_take_eq (hsh v hv v' hv').1 hne
  have h2 : pos + kGraph + 1 ≤ v.1.length := Nat.add_lt_of_lt_sub (lt_of_drop_eq (hsh v hv v' hv').2 hne)
  refine ⟨h1, fun u hu => ?_⟩
  rw [hlen u hu v hv]
  -- the window of `kGraph + 1` letters at `pos - kGraph` ends with letter `pos`
  exact ⟨h2, hcol u hu (pos - kGraph) (by
    rw [hlen u hu v hv, ← Nat.add_assoc, Nat.sub_add_cancel h1]
    exact Nat.le_trans (Nat.succ_le_succ (Nat.le_add_right pos kGraph)) h2)⟩

theorem recOf_some (W kGraph n mNum mDen : Nat) (col : Colours) (v0 v1 : Variant)
    (h0 : ∃ S, Assoc.lookup col (encodeKmer W (v0.1.take (kGraph + 1))) = some S)
    (h1 : ∃ S, Assoc.lookup col (encodeKmer W (v1.1.take (kGraph + 1))) = some S) :
    ∃ o, LOP.recOf W kGraph n mNum mDen col [v0, v1] = some o := by
  obtain ⟨S0, h0⟩ := h0
  obtain ⟨S1, h1⟩ := h1
  rw [LOP.recOf_eq]
  simp only [List.filterMap_cons, h0, h1, List.filterMap_nil, List.getElem?_cons_zero,
    List.getElem?_cons_succ, Option.bind_some]
  split <;> exact ⟨_, rfl⟩

theorem processIndels_some (W kGraph n mNum mDen : Nat) (col : Colours)
    (ig : List ((Nat × Nat) × List Variant))
    (h : ∀ kv ∈ ig, ∃ v0 v1, kv.2 = [v0, v1] ∧
      (∃ S, Assoc.lookup col (encodeKmer W (v0.1.take (kGraph + 1))) = some S) ∧
      (∃ S, Assoc.lookup col (encodeKmer W (v1.1.take (kGraph + 1))) = some S)) :
    ∃ r, processIndels W kGraph n mNum mDen col ig = some r := by
  rw [LOP.processIndels_eq]
  have hm := LO.mapM_some
    (fun (kg : IndelGroup) => LOP.recOf W kGraph n mNum mDen col ((Assoc.lookup ig (kg.entry, kg.exit)).getD []))
    ((dereplicate W kGraph (ig.map LOP.toGroup)).1.mergeSort
      (fun a b => keyLe (a.entry, a.exit) (b.entry, b.exit))) ?_
  · obtain ⟨recs, hrecs⟩ := hm
    rw [hrecs]
    exact ⟨_, rfl⟩
  · intro kg hkg
    have hkg' := (List.mergeSort_perm _ _).mem_iff.mp hkg
    obtain ⟨vs, hvs, hmem⟩ := LOP.kept_lookup W kGraph ig kg hkg'
    obtain ⟨v0, v1, e, h0, h1⟩ := h _ hmem
    simp only at e
    rw [hvs, Option.getD_some, e]
    exact recOf_some W kGraph n mNum mDen col v0 v1 h0 h1

/-- `Roomy` is asked of every sub-list of the variants: `analyse` filters them by the internal-indel
test, which depends on what `processIndels` returned -/
theorem analyse_some (W kGraph n mNum mDen ik : Nat) (col : Colours) (gr : Groups)
    (hi : ∃ r, processIndels W kGraph n mNum mDen col gr.indelGroups = some r)
    (hs : ∀ kv ∈ gr.snpGroups, ∀ p : Variant → Bool, Roomy W kGraph col (kv.2.filter p)) :
    ∃ r, analyse W kGraph n mNum mDen ik col gr = some r := by
  obtain ⟨⟨recs, ext⟩, hpi⟩ := hi
  rw [LOP.analyse_eq, hpi, Option.bind_some]
  refine LO.bind_some _ _ ?_ (fun s => ⟨_, rfl⟩)
  apply LO.foldlM_some
  intro kv hkv acc
  obtain ⟨kv0, hkv0, rfl⟩ := LOP.mem_sortedGroups hkv
  unfold LOP.snpStep
  split
  · split
    · exact ⟨_, rfl⟩
    · exact LO.bind_some _ _ (groupSnps_some W kGraph n mNum mDen col _ _ (hs kv0 hkv0 _)) (fun cs => ⟨_, rfl⟩)
  · exact ⟨_, rfl⟩

theorem mem_pairsOf {α : Type} : ∀ (l : List α) (p : α × α), p ∈ pairsOf l → p.1 ∈ l ∧ p.2 ∈ l
  | [], p, h => by simp [pairsOf] at h
  | x :: xs, p, h => by
    unfold pairsOf at h
    rcases List.mem_append.mp h with h | h
    · obtain ⟨y, hy, rfl⟩ := List.mem_map.mp h
      exact ⟨List.mem_cons_self .., List.mem_cons_of_mem _ hy⟩
    · obtain ⟨h1, h2⟩ := mem_pairsOf xs p h
      exact ⟨List.mem_cons_of_mem _ h1, List.mem_cons_of_mem _ h2⟩

theorem identifyGo_some (W : Nat) (col : Colours) (kn : Nat × List Nat) :
    ∀ ps : List (Nat × Nat),
      (∀ p ∈ ps, (∃ s, Assoc.lookup col (combineKmers W kn.1 p.1) = some s) ∧
        (∃ s, Assoc.lookup col (combineKmers W kn.1 p.2) = some s)) →
      ∃ b, identifyGoodKmers.go W col kn ps = some b := by
  intro ps
  induction ps with
  | nil => intro _; exact ⟨false, by rw [identifyGoodKmers.go]⟩
  | cons p rest ih =>
    intro h
    obtain ⟨⟨s1, h1⟩, ⟨s2, h2⟩⟩ := h p (List.mem_cons_self ..)
    rw [identifyGoodKmers.go, h1, h2]
    simp only []
    split
    · exact ⟨true, rfl⟩
    · exact ih (fun q hq => h q (List.mem_cons_of_mem _ hq))

theorem identifyGoodKmers_some (W kGraph : Nat) (g : Graph) (col : Colours)
    (h : ∀ kn ∈ g, ∀ y ∈ kn.2, ∃ s, Assoc.lookup col (combineKmers W kn.1 y) = some s) :
    ∃ r, identifyGoodKmers W kGraph g col = some r := by
  unfold identifyGoodKmers
  simp only [Option.bind_eq_bind]
  refine LO.bind_some _ _ (LO.mapM_some _ _ ?_) (fun s => ⟨_, rfl⟩)
  intro kn hkn
  split
  · exact identifyGo_some W col kn _ (fun p hp =>
      ⟨h kn hkn p.1 (mem_pairsOf kn.2 p hp).1, h kn hkn p.2 (mem_pairsOf kn.2 p hp).2⟩)
  · exact ⟨false, rfl⟩

theorem identifyGoodKmers_table_some (W : Nat) (a : Arr) (hk : ValidK a.k) (hw : WidthOk W a.k)
    (hkeys : ∀ key ∈ a.kmers, key < 4 ^ (a.k - 1)) (kGraph : Nat) :
    ∃ r, identifyGoodKmers W kGraph (buildGraph W a).1 (buildGraph W a).2 = some r := by
  apply identifyGoodKmers_some
  intro kn hkn y hy
  have hl : Assoc.lookup (buildGraph W a).1 kn.1 = some kn.2 :=
    Assoc.lookup_of_mem_nodup (LOP.buildGraph_keys_nodup W a) hkn
  have he : Edge (buildGraph W a).1 kn.1 y := by
    unfold Edge succs
    rw [hl]
    exact hy
  obtain ⟨S, hS, _⟩ := edge_coloured W a hk hw hkeys kn.1 y he
  exact ⟨S, hS⟩

theorem table_indels_ok (W : Nat) (a : Arr) (hk : ValidK a.k) (hw : WidthOk W a.k)
    (hkeys : ∀ key ∈ a.kmers, key < 4 ^ (a.k - 1)) (starts ends : List Nat) (maxDepth : Nat) :
    ∀ kv ∈ (buildVariantGroups W (a.k - 1) (buildGraph W a).1 starts ends maxDepth).indelGroups,
      ∃ v0 v1, kv.2 = [v0, v1] ∧
      (∃ S, Assoc.lookup (buildGraph W a).2 (encodeKmer W (v0.1.take (a.k - 1 + 1))) = some S) ∧
      (∃ S, Assoc.lookup (buildGraph W a).2 (encodeKmer W (v1.1.take (a.k - 1 + 1))) = some S) := by
  intro kv hkv
  have first : ∀ v ∈ kv.2,
      ∃ S, Assoc.lookup (buildGraph W a).2 (encodeKmer W (v.1.take (a.k - 1 + 1))) = some S := by
    intro v hv
    obtain ⟨path, n, h⟩ := var_spec W a hk hw hkeys starts ends maxDepth kv (List.mem_append_right _ hkv) v hv
    -- the sequence has `n + (a.k - 1)` letters and `2 ≤ n`
    obtain ⟨S, hS, _⟩ := var_windows_coloured W a hk hw hkeys kv.1 v ⟨path, n, h⟩ 0
      (by rw [h.len, Nat.zero_add, Nat.add_comm]; exact Nat.add_le_add_right (Nat.le_of_succ_le h.two) _)
    exact ⟨S, by rwa [List.drop_zero] at hS⟩
  have hkv' := hkv
  rw [LOP.buildVariantGroups_eq] at hkv'
  obtain ⟨v0, v1, e, _, _⟩ := LOP.clsIndel_spec (a.k - 1) kv.2 (List.mem_filter.mp hkv').2
  exact ⟨v0, v1, e, first v0 (by rw [e]; simp), first v1 (by rw [e]; simp)⟩

theorem table_snps_roomy (W : Nat) (a : Arr) (hk : ValidK a.k) (hw : WidthOk W a.k)
    (hkeys : ∀ key ∈ a.kmers, key < 4 ^ (a.k - 1)) (starts ends : List Nat) (maxDepth : Nat) :
    ∀ kv ∈ (buildVariantGroups W (a.k - 1) (buildGraph W a).1 starts ends maxDepth).snpGroups,
      ∀ p : Variant → Bool, Roomy W (a.k - 1) (buildGraph W a).2 (kv.2.filter p) := by
  intro kv hkv p
  have hspec : ∀ v ∈ kv.2.filter p, VarSpec W (a.k - 1) (buildGraph W a).1 kv.1 v := fun v hv =>
    var_spec W a hk hw hkeys starts ends maxDepth kv (List.mem_append_left _ hkv) v (List.mem_filter.mp hv).1
  have hlen : ∀ v ∈ kv.2.filter p, ∀ v' ∈ kv.2.filter p, v.1.length = v'.1.length := fun v hv v' hv' =>
    snp_equal_length W (a.k - 1) _ starts ends maxDepth kv hkv v (List.mem_filter.mp hv).1 v'
      (List.mem_filter.mp hv').1
  refine roomy_of_shared W (a.k - 1) _ _ hlen ?_ ?_
  · intro v hv v' hv'
    exact var_shared W (a.k - 1) (Nat.le_trans (Nat.mul_le_mul_left 2 (Nat.le_succ _)) (kGraph_bounds hk hw).2.1) _
      kv.1 v v' (hspec v hv) (hspec v' hv') (hlen v hv v' hv')
  · intro v hv i hi
    obtain ⟨S, hS, _⟩ := var_windows_coloured W a hk hw hkeys kv.1 v (hspec v hv) i hi
    exact ⟨S, hS⟩

theorem analyse_table_some (W : Nat) (a : Arr) (hk : ValidK a.k) (hw : WidthOk W a.k)
    (hkeys : ∀ key ∈ a.kmers, key < 4 ^ (a.k - 1)) (starts ends : List Nat)
    (maxDepth n mNum mDen ik : Nat) :
    ∃ r, analyse W (a.k - 1) n mNum mDen ik (buildGraph W a).2
      (buildVariantGroups W (a.k - 1) (buildGraph W a).1 starts ends maxDepth) = some r :=
  analyse_some W (a.k - 1) n mNum mDen ik _ _
    (processIndels_some W (a.k - 1) n mNum mDen _ _
      (table_indels_ok W a hk hw hkeys starts ends maxDepth))
    (table_snps_roomy W a hk hw hkeys starts ends maxDepth)

end SkaModel.LORL
