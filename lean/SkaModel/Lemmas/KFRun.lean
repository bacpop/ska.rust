/-
C12 helper: the count filter driven by a list of hash values. `runFilter`; under the
no-false-positive hypothesis `NoFP` its flags are the specified ones (`runFilter_fresh`, through the
invariant `Inv`); without it, the table value stays within one of the occurrence count (`Bounds`),
so no hash that occurs often enough is lost (`crossing`, `two_pass`; put together in
`C12.T12_nofn_filter`).
-/
import SkaModel.Lemmas.KFBloom
import SkaModel.Lemmas.KFSpec

namespace SkaModel.KF

open SkaModel SkaModel.KmerFilter

def runFilter (f : KmerFilter) : List Nat → KmerFilter × List Bool
  | [] => (f, [])
  | h :: hs => ((runFilter (f.filter h).1 hs).1, (f.filter h).2 :: (runFilter (f.filter h).1 hs).2)

@[simp] theorem runFilter_nil (f : KmerFilter) : runFilter f [] = (f, []) := rfl

@[simp] theorem runFilter_cons (f : KmerFilter) (h : Nat) (hs : List Nat) :
    runFilter f (h :: hs) =
      ((runFilter (f.filter h).1 hs).1, (f.filter h).2 :: (runFilter (f.filter h).1 hs).2) := rfl

@[simp] theorem runFilter_length (f : KmerFilter) (hs : List Nat) :
    (runFilter f hs).2.length = hs.length := by
  induction hs generalizing f with
  | nil => rfl
  | cons h hs ih => rw [runFilter_cons, List.length_cons, List.length_cons, ih]

@[simp] theorem runFilter_minCount (f : KmerFilter) (hs : List Nat) :
    (runFilter f hs).1.minCount = f.minCount := by
  induction hs generalizing f with
  | nil => rfl
  | cons h hs ih => rw [runFilter_cons, ih, filter_minCount]

theorem runFilter_append (f : KmerFilter) (as bs : List Nat) :
    runFilter f (as ++ bs) =
      ((runFilter (runFilter f as).1 bs).1, (runFilter f as).2 ++ (runFilter (runFilter f as).1 bs).2) := by
  induction as generalizing f with
  | nil => rfl
  | cons a as ih => simp only [List.cons_append, runFilter_cons, ih]

theorem runFilter_getElem? (hs : List Nat) (f : KmerFilter) (i : Nat) (h : Nat)
    (hi : hs[i]? = some h) :
    (runFilter f hs).2[i]? = some ((runFilter f (hs.take i)).1.filter h).2 := by
  induction hs generalizing f i with
  | nil => simp at hi
  | cons x xs ih =>
    cases i with
    | zero =>
      simp only [List.getElem?_cons_zero, Option.some.injEq] at hi
      subst hi; rfl
    | succ i => exact ih _ i hi

theorem runFilter_flag_le_one (f : KmerFilter) (hm : f.minCount ≤ 1) (hs : List Nat) (i h : Nat)
    (hi : hs[i]? = some h) : (runFilter f hs).2[i]? = some true := by
  rw [runFilter_getElem? hs f i h hi, filter_snd, if_pos (by rwa [runFilter_minCount])]

theorem runFilter_flag_above (f : KmerFilter) (hm : 65535 < f.minCount) (hs : List Nat) (i h : Nat)
    (hi : hs[i]? = some h) : (runFilter f hs).2[i]? = some false := by
  rw [runFilter_getElem? hs f i h hi, filter_snd, runFilter_minCount, if_neg (by omega),
    if_neg (by omega),
    beq_eq_false_iff_ne.2 (Nat.ne_of_gt (Nat.lt_of_le_of_lt (Nat.min_le_right _ _) hm)),
    Bool.and_false]

/-- `NoFPFrom f pre hs`: running `hs` from `f`, whose earlier observations were `pre`, the
Bloom check reports "seen" only for hashes that did occur earlier -/
def NoFPFrom (f : KmerFilter) (pre : List Nat) : List Nat → Prop
  | [] => True
  | h :: hs => (BloomHas f h → h ∈ pre) ∧ NoFPFrom (f.filter h).1 (h :: pre) hs

/-- no Bloom false positive among the observed hashes, for a fresh filter -/
def NoFP (m : Nat) (hs : List Nat) : Prop := NoFPFrom { minCount := m } [] hs

/-- core's `Nat.and_forall_add_one` with the bound carried along, as a statement that indexes a
list by `hs[i]` needs it -/
theorem forall_lt_succ {n : Nat} {P : ∀ i, i < n + 1 → Prop} :
    (∀ i hi, P i hi) ↔ P 0 (Nat.succ_pos n) ∧ ∀ i (hi : i < n), P (i + 1) (Nat.succ_lt_succ hi) :=
  ⟨fun h => ⟨h 0 _, fun i _ => h (i + 1) _⟩, fun h i hi => by
    cases i with
    | zero => exact h.1
    | succ i => exact h.2 i (Nat.lt_of_succ_lt_succ hi)⟩

theorem noFPFrom_iff (f : KmerFilter) (pre hs : List Nat) :
    NoFPFrom f pre hs ↔
      ∀ i (hi : i < hs.length),
        ((runFilter f (hs.take i)).1.bloomAddAndCheck hs[i]).2 = true →
          hs[i] ∈ pre ∨ hs[i] ∈ hs.take i := by
  induction hs generalizing f pre with
  | nil => simp [NoFPFrom]
  | cons x xs ih =>
    -- index `0` is the condition on the head; index `i + 1` is the condition of the tail at `i`,
    -- where `x` has moved from the earlier observations into the prefix
    rw [NoFPFrom, ih]
    refine Iff.trans (and_congr ?_ (forall_congr' fun i => forall_congr' fun hi => ?_))
      forall_lt_succ.symm
    · simp only [List.take_zero, runFilter_nil, List.getElem_cons_zero, bloom_snd_true,
        List.not_mem_nil, or_false]
    · simp only [List.take_succ_cons, runFilter_cons, List.getElem_cons_succ, List.mem_cons,
        or_assoc, or_left_comm]

theorem noFPFrom_of_mem (hs : List Nat) (f : KmerFilter) (pre : List Nat)
    (h : ∀ x ∈ hs, x ∈ pre) : NoFPFrom f pre hs := by
  induction hs generalizing f pre with
  | nil => trivial
  | cons x xs ih =>
    refine ⟨fun _ => h x (by simp), ih _ _ ?_⟩
    intro y hy
    exact List.mem_cons_of_mem _ (h y (by simp [hy]))

theorem noFP_replicate (m h n : Nat) : NoFP m (List.replicate n h) := by
  cases n with
  | zero => trivial
  | succ n =>
    refine ⟨fun hb => absurd hb (not_bloomHas_empty _ rfl h), noFPFrom_of_mem _ _ _ ?_⟩
    intro x hx
    simp [(List.mem_replicate.1 hx).2]

theorem bloomHas_filter_cons (f : KmerFilter) (pre : List Nat) (h : Nat) (hm : 2 ≤ f.minCount)
    (hB : ∀ x ∈ pre, BloomHas f x) : ∀ x ∈ h :: pre, BloomHas (f.filter h).1 x := by
  intro x hx
  rcases List.mem_cons.1 hx with rfl | hx
  · exact bloomHas_filter_self f x hm
  · exact bloomHas_filter f x h (hB x hx)

/-- a step changes count and table value of the filtered hash only, so a relation `P` between
the two has to be re-established for that hash alone -/
theorem val_inv_step {P : Nat → Nat → Prop} (f : KmerFilter) (pre : List Nat) (h : Nat)
    (hinv : ∀ x, P (pre.count x) (val f x))
    (hstep : P (pre.count h + 1) (val (f.filter h).1 h)) :
    ∀ x, P ((h :: pre).count x) (val (f.filter h).1 x) := by
  intro x
  by_cases hx : h = x
  · subst hx
    rw [List.count_cons_self]
    exact hstep
  · rw [List.count_cons_of_ne hx, val_filter, if_neg (fun hc => hx hc.2.2)]
    exact hinv x

theorem val_filter_self (f : KmerFilter) (h : Nat) (hm : 3 ≤ f.minCount) :
    val (f.filter h).1 h = if BloomHas f h then min (val f h + 1) 65535 else val f h := by
  rw [val_filter]
  simp only [hm, and_true, true_and]

def Inv (f : KmerFilter) (pre : List Nat) : Prop :=
  (2 ≤ f.minCount → ∀ x ∈ pre, BloomHas f x) ∧
  (3 ≤ f.minCount → ∀ x, val f x = max 1 (min (pre.count x) 65535))

theorem inv_fresh (m : Nat) : Inv { minCount := m } [] := by
  refine ⟨fun _ x hx => absurd hx List.not_mem_nil, fun _ x => ?_⟩
  simp [val]

/-- the flag `filter` computes, when the Bloom check is exact (`0 < n`) and the table value `v`
is the exact one, is the specified one -/
theorem passSpec_eq (m n v : Nat) (hv : 3 ≤ m → v = max 1 (min n 65535)) :
    passSpec m n =
      if m ≤ 1 then true
      else if m = 2 then decide (0 < n)
      else (decide (0 < n) && (m == min (v + 1) 65535)) := by
  unfold passSpec
  split
  · rfl
  · split
    · rfl
    · have hm : 3 ≤ m := by omega
      rw [Bool.eq_iff_iff]
      simp only [decide_eq_true_eq, Bool.and_eq_true, beq_iff_eq]
      constructor
      · intro h
        -- the first observation gives `min 1 65535 = 1 < m`
        have hn : 0 < n := Nat.pos_of_ne_zero (by rintro rfl; exact absurd (h ▸ hm) (by decide))
        rw [hv hm, sat_pos hn, sat_succ]
        exact ⟨hn, h.symm⟩
      · rintro ⟨hn, h⟩
        rw [h, hv hm, sat_pos hn, sat_succ]

theorem exact_val_step (n v : Nat) (hv : v = max 1 (min n 65535)) :
    (if 0 < n then min (v + 1) 65535 else v) = max 1 (min (n + 1) 65535) := by
  subst hv
  rcases Nat.eq_zero_or_pos n with rfl | hn
  · rfl
  · rw [if_pos hn, sat_pos hn, sat_succ, sat_pos (Nat.succ_pos n)]

theorem inv_step (f : KmerFilter) (pre : List Nat) (h : Nat) (hinv : Inv f pre)
    (hfp : BloomHas f h → h ∈ pre) :
    Inv (f.filter h).1 (h :: pre) ∧ (f.filter h).2 = passSpec f.minCount (pre.count h) := by
  obtain ⟨hB, hC⟩ := hinv
  -- without false positive the Bloom check is exact
  have hiff : 2 ≤ f.minCount → (BloomHas f h ↔ 0 < pre.count h) := fun hm =>
    ⟨fun hb => List.count_pos_iff.2 (hfp hb), fun hc => hB hm h (List.count_pos_iff.1 hc)⟩
  refine ⟨⟨?_, ?_⟩, ?_⟩
  · intro hm
    rw [filter_minCount] at hm
    exact bloomHas_filter_cons f pre h hm (hB hm)
  · intro hm
    rw [filter_minCount] at hm
    refine val_inv_step (P := fun n v => v = max 1 (min n 65535)) f pre h (hC hm) ?_
    rw [val_filter_self f h hm, ← exact_val_step _ _ (hC hm h)]
    simp only [hiff (by omega)]
  · rw [filter_snd, passSpec_eq _ _ _ (fun hm => hC hm h)]
    by_cases h1 : f.minCount ≤ 1
    · rw [if_pos h1, if_pos h1]
    · rw [if_neg h1, if_neg h1, decide_eq_decide.2 (hiff (by omega))]

theorem runFilter_eq_specRun (hs : List Nat) (f : KmerFilter) (pre : List Nat)
    (hinv : Inv f pre) (hfp : NoFPFrom f pre hs) :
    (runFilter f hs).2 = specRun f.minCount pre hs := by
  induction hs generalizing f pre with
  | nil => rfl
  | cons h hs ih =>
    obtain ⟨h0, hrest⟩ := hfp
    obtain ⟨hinv', hpass⟩ := inv_step f pre h hinv h0
    rw [runFilter_cons, specRun, hpass, ih _ _ hinv' hrest, filter_minCount]

theorem runFilter_fresh (m : Nat) (hs : List Nat) (hfp : NoFP m hs) :
    (runFilter { minCount := m } hs).2 = specRun m [] hs :=
  runFilter_eq_specRun hs _ [] (inv_fresh m) hfp

/-- without a hypothesis on Bloom false positives the table value lies between the saturated number
of occurrences and one more: a Bloom false positive can start the count one occurrence early -/
structure Bounds (f : KmerFilter) (pre : List Nat) : Prop where
  minCount : 3 ≤ f.minCount
  seen : ∀ x ∈ pre, BloomHas f x
  within : ∀ x,
    1 ≤ val f x ∧ val f x ≤ pre.count x + 1 ∧ (pre.count x ≤ val f x ∨ 65535 ≤ val f x)

theorem bounds_step (f : KmerFilter) (pre : List Nat) (h : Nat) (hinv : Bounds f pre) :
    Bounds (f.filter h).1 (h :: pre) := by
  obtain ⟨hm, hB, hC⟩ := hinv
  refine ⟨by rwa [filter_minCount], bloomHas_filter_cons f pre h (by omega) hB, ?_⟩
  refine val_inv_step (P := fun n v => 1 ≤ v ∧ v ≤ n + 1 ∧ (n ≤ v ∨ 65535 ≤ v)) f pre h hC ?_
  have hCh := hC h
  rw [val_filter_self f h hm]
  split
  · rw [Nat.min_def]
    split <;> omega
  · next hb =>
    -- not in the Bloom filter: not observed before
    have : pre.count h = 0 := List.count_eq_zero.2 (fun hmem => hb (hB h hmem))
    omega

theorem bounds_run (hs : List Nat) (f : KmerFilter) (pre : List Nat) (hinv : Bounds f pre) :
    Bounds (runFilter f hs).1 (hs.reverse ++ pre) := by
  induction hs generalizing f pre with
  | nil => exact hinv
  | cons h hs ih =>
    rw [List.reverse_cons, List.append_assoc]
    exact ih (f.filter h).1 (h :: pre) (bounds_step f pre h hinv)

theorem val_run_of_empty (f : KmerFilter) (hm : 3 ≤ f.minCount) (hc : f.counts = {})
    (hs : List Nat) (h : Nat) :
    val (runFilter f hs).1 h ≤ hs.count h + 1 ∧
      (hs.count h ≤ val (runFilter f hs).1 h ∨ 65535 ≤ val (runFilter f hs).1 h) := by
  have h0 : Bounds f [] := by
    refine ⟨hm, fun x hx => absurd hx List.not_mem_nil, fun x => ?_⟩
    rw [val_of_counts_empty f hc x]
    exact ⟨Nat.le_refl 1, Nat.le_add_left 1 _, Or.inl (Nat.zero_le 1)⟩
  have := ((bounds_run hs f [] h0).within h).2
  rwa [List.append_nil, List.count_reverse] at this

theorem val_lt_of_not_pass (f : KmerFilter) (h x : Nat) (hm : 3 ≤ f.minCount)
    (hlo : val f h < f.minCount) (hp : ¬ (x = h ∧ (f.filter x).2 = true)) :
    val (f.filter x).1 h < f.minCount := by
  rw [val_filter]
  split
  · next hc =>
    obtain ⟨_, hb, rfl⟩ := hc
    have hne : min (val f x + 1) 65535 ≠ f.minCount :=
      fun e => hp ⟨rfl, (filter_pass_iff f x hm).2 ⟨hb, e.symm⟩⟩
    exact Nat.lt_of_le_of_ne (Nat.le_trans (Nat.min_le_left _ _) hlo) hne
  · exact hlo

/-- the table value only moves in unit steps, and each step is compared with `minCount`:
if it starts below `minCount` and ends at or above it, some observation of `h` passed -/
theorem crossing (hs : List Nat) (f : KmerFilter) (h : Nat) (hm : 3 ≤ f.minCount)
    (hlo : val f h < f.minCount) (hhi : f.minCount ≤ val (runFilter f hs).1 h) :
    PassesIn h hs (runFilter f hs).2 := by
  induction hs generalizing f with
  | nil => exact absurd hhi (Nat.not_le.2 hlo)
  | cons x xs ih =>
    by_cases hp : x = h ∧ (f.filter x).2 = true
    · exact ⟨0, by rw [hp.1]; rfl, by rw [runFilter_cons, ← hp.2]; rfl⟩
    · obtain ⟨i, hi, hpi⟩ := ih (f.filter x).1 (by rwa [filter_minCount])
        (by rw [filter_minCount]; exact val_lt_of_not_pass f h x hm hlo hp)
        (by rw [filter_minCount]; exact hhi)
      exact ⟨i + 1, hi, hpi⟩

theorem two_pass (hs : List Nat) (f : KmerFilter) (hm : f.minCount = 2) (i : Nat) (h : Nat)
    (hi : hs[i]? = some h) (hprev : h ∈ hs.take i ∨ BloomHas f h) :
    (runFilter f hs).2[i]? = some true := by
  induction hs generalizing f i with
  | nil => simp at hi
  | cons x xs ih =>
    cases i with
    | zero =>
      simp only [List.getElem?_cons_zero, Option.some.injEq] at hi
      subst hi
      simp only [List.take_zero, List.not_mem_nil, false_or] at hprev
      simp [filter_snd, hm, hprev]
    | succ i =>
      apply ih (f.filter x).1 (by rwa [filter_minCount]) i hi
      rw [List.take_succ_cons, List.mem_cons] at hprev
      rcases hprev with (rfl | hmem) | hb
      · exact Or.inr (bloomHas_filter_self f h (by omega))
      · exact Or.inl hmem
      · exact Or.inr (bloomHas_filter f h x hb)

end SkaModel.KF
