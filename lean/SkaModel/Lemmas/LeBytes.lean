/-
Little-endian byte fields: `leNat` (decoder side) against `leBytes` (format side).
-/
import SkaModel.Spec.SnappyFormat
namespace SkaModel.LE
open SkaModel SkaModel.SnappyFormat

theorem toNat_ofNat_lt (k : Nat) (h : k < 256) : (UInt8.ofNat k).toNat = k := by
  rw [UInt8.toNat_ofNat']; omega

theorem leBytes_length (n v : Nat) : (leBytes n v).length = n := by
  induction n generalizing v with
  | zero => rfl
  | succ n ih => simp [leBytes, ih]

theorem leNat_cons (b : UInt8) (bs : List UInt8) : leNat (b :: bs) = b.toNat + 256 * leNat bs := rfl

theorem leNat_leBytes (n v : Nat) (h : v < 256 ^ n) : leNat (leBytes n v) = v := by
  induction n generalizing v with
  | zero => simp at h; subst h; rfl
  | succ n ih =>
    rw [Nat.pow_succ, Nat.mul_comm] at h
    rw [leBytes, leNat_cons, ih _ (Nat.div_lt_of_lt_mul h), toNat_ofNat_lt _ (Nat.mod_lt _ (by decide))]
    exact Nat.mod_add_div v 256

theorem take_leBytes (n v : Nat) (r : List UInt8) : (leBytes n v ++ r).take n = leBytes n v :=
  List.take_left' (leBytes_length n v)
theorem drop_leBytes (n v : Nat) (r : List UInt8) : (leBytes n v ++ r).drop n = r :=
  List.drop_left' (leBytes_length n v)

theorem leBytes_leNat (bs : List UInt8) : leBytes bs.length (leNat bs) = bs := by
  induction bs with
  | nil => rfl
  | cons b bs ih =>
    have hb : b.toNat < 256 := UInt8.toNat_lt b
    rw [leNat_cons, List.length_cons, leBytes, Nat.add_mul_mod_self_left, Nat.mod_eq_of_lt hb,
      Nat.add_mul_div_left _ _ (by decide), Nat.div_eq_of_lt hb, Nat.zero_add, ih, UInt8.ofNat_toNat]

theorem leNat_lt (bs : List UInt8) : leNat bs < 256 ^ bs.length := by
  induction bs with
  | nil => simp [leNat]
  | cons b bs ih =>
    have hb : b.toNat < 256 := UInt8.toNat_lt b
    rw [leNat_cons, List.length_cons, Nat.pow_succ]
    omega

theorem leNat_take_lt (n : Nat) (l : List UInt8) : leNat (l.take n) < 256 ^ n :=
  Nat.lt_of_lt_of_le (leNat_lt _) (Nat.pow_le_pow_right (by decide) (List.length_take_le n l))

theorem leBytes_take_drop {n : Nat} {l : List UInt8} (h : n ≤ l.length) :
    leBytes n (leNat (l.take n)) ++ l.drop n = l := by
  have := leBytes_leNat (l.take n)
  rw [List.length_take, Nat.min_eq_left h] at this
  rw [this, List.take_append_drop]

end SkaModel.LE
