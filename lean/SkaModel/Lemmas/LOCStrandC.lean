/-
C17 completeness — the compacted graph of a pair of strands: entry and exit nodes keep their successors; the
successor of an entry or exit node jumps to the end of its chain, so that along a strand the arm of a site leads to
its exit node and the node after that to the entry node of the next site.  (What lies behind the last site is never
looked at: no exit node stands there, `reachF_above` in `LOCReach`.)
-/
import SkaModel.Lemmas.LOCIdent
import SkaModel.Lemmas.LOPathExplore
import SkaModel.Props.C17Paths

namespace SkaModel.LOC

open SkaModel SkaModel.Spec SkaModel.Props.C16 SkaModel.Skalo SkaModel.Props.C17G SkaModel.LOG

def chainN (k : Nat) (t : List UInt8) (a n : Nat) : List Nat := (List.range' a n).map (fN k t)

theorem chainN_succ (k : Nat) (t : List UInt8) (a n : Nat) :
    chainN k t a (n + 1) = fN k t a :: chainN k t (a + 1) n :=
  rfl

theorem chainN_snoc (k : Nat) (t : List UInt8) (a n : Nat) :
    chainN k t a (n + 1) = chainN k t a n ++ [fN k t (a + n)] := by
  unfold chainN
  rw [List.range'_1_concat, List.map_append]
  rfl

theorem chainN_dropLast (k : Nat) (t : List UInt8) (a n : Nat) :
    (chainN k t a (n + 1)).dropLast = chainN k t a n := by
  rw [chainN_snoc, List.dropLast_concat]

theorem chainN_getLastD (k : Nat) (t : List UInt8) (a n : Nat) :
    (chainN k t a (n + 1)).getLastD 0 = fN k t (a + n) := by
  rw [chainN_snoc]
  simp

namespace Strand

variable {k L : Nat} {g : Graph} {T T' : List (List UInt8)} {PT PT' : List Nat}

theorem chainN_nodup (st : Strand k L g T PT T' PT') {t : List UInt8} (ht : t ∈ T) (a n : Nat)
    (h : a + n + (k - 1) ≤ L + 1) : (chainN k t a n).Nodup := by
  unfold chainN
  rw [List.Nodup, List.pairwise_map]
  refine List.Pairwise.imp_of_mem ?_ (List.nodup_range' (s := a) (n := n))
  intro j j' hj hj' hne e
  rw [List.mem_range'_1] at hj hj'
  exact hne (st.node_level ht ht (by omega) (by omega) e).1

theorem chain1_levels (st : Strand k L g T PT T' PT') {t : List UInt8} (ht : t ∈ T) :
    ∀ (n a : Nat), (∀ j, a ≤ j → j < a + n → j + k ≤ L ∧ j + k - 1 ∉ PT) → Chain1 g (chainN k t a (n + 1)) := by
  intro n
  induction n with
  | zero => intro a _; rw [chainN_succ]; trivial
  | succ n ih =>
    intro a h
    rw [chainN_succ, chainN_succ]
    refine ⟨?_, ?_⟩
    · rw [st.lookup_some_iff]
      obtain ⟨h1, h2⟩ := h a (by omega) (by omega)
      exact ⟨st.succs_single ht h1 h2, by simp⟩
    · rw [← chainN_succ]
      exact ih (a + 1) (fun j hj1 hj2 => h j (by omega) (by omega))

theorem ext_no_pred (st : Strand k L g T PT T' PT') {starts ends : List Nat}
    (ex : Ext k starts ends T PT T' PT') {t : List UInt8} (ht : t ∈ T) {c : Nat} (hcl : c + (k - 1) ≤ L)
    (hc : fN k t c ∈ starts ++ ends) : ∀ e' ∈ starts ++ ends, ¬ Edge g e' (fN k t c) := by
  have hk5 := st.k5
  obtain ⟨p, hp, hcp⟩ := (st.mem_ext_iff ex ht hcl).mp hc
  intro e' he' hedge
  obtain ⟨t', ht', c', rfl, rfl, _⟩ := st.pred_level ht hcl hedge
  obtain ⟨r, hr, hcr⟩ := (st.mem_ext_iff ex ht' (Nat.le_trans (Nat.add_le_add_right (Nat.le_succ c') _) hcl)).mp he'
  have := st.pf.sep' hp hr
  omega

theorem compact_ext (st : Strand k L g T PT T' PT') {starts ends : List Nat}
    (ex : Ext k starts ends T PT T' PT') {t : List UInt8} (ht : t ∈ T) {c : Nat} (hcl : c + (k - 1) ≤ L)
    (hc : fN k t c ∈ starts ++ ends) :
    succs (compactGraph g starts ends).1 (fN k t c) = succs g (fN k t c) ∧
      Assoc.lookup (compactGraph g starts ends).2 (fN k t c) = none :=
  compact_keep (Or.inr ⟨hc, st.ext_no_pred ex ht hcl hc⟩)

theorem compact_entry (st : Strand k L g T PT T' PT') {starts ends : List Nat}
    (ex : Ext k starts ends T PT T' PT') {t : List UInt8} (ht : t ∈ T) {p : Nat} (hp : p ∈ PT) :
    succs (compactGraph g starts ends).1 (fN k t (p - k + 1)) = succs g (fN k t (p - k + 1)) :=
  (st.compact_ext ex ht (add_pred_le (st.pf.entry_fit hp)) (List.mem_append_left _ (ex.entry_mem ht hp))).1

/-- `hmid`: the entry node of a site `r` (it stands at `r + 1 - k`) and its exit node (at `r + 1`) do not stand strictly
between `c` and `b` -/
theorem compact_jump (st : Strand k L g T PT T' PT') {starts ends : List Nat}
    (ex : Ext k starts ends T PT T' PT') {t : List UInt8} (ht : t ∈ T) {c b : Nat}
    (hc : fN k t c ∈ starts ++ ends) (hcb : c + 2 ≤ b) (hb : b + (k - 1) ≤ L)
    (hmid : ∀ r ∈ PT, (r + 1 ≤ c + k ∨ b + k ≤ r + 1) ∧ (r + 1 ≤ c ∨ b ≤ r + 1))
    (hstop : fN k t b ∈ starts ++ ends) :
    succs (compactGraph g starts ends).1 (fN k t (c + 1)) = [fN k t b] := by
  have hk5 := st.k5
  obtain ⟨n, rfl⟩ : ∃ n, b = c + 1 + 1 + n := Nat.exists_eq_add_of_le hcb
  have hck : c + k ≤ L := by omega
  have hcP : c ∉ PT := by
    obtain ⟨p, hp, hcp⟩ := (st.mem_ext_iff ex ht (add_pred_le hck)).mp hc
    intro h
    have := st.pf.sep' hp h
    omega
  have hsing : ∀ j, c + 1 ≤ j → j < c + 1 + (n + 1) → j + k ≤ L ∧ j + k - 1 ∉ PT := by
    intro j h1 h2
    refine ⟨by omega, fun hr => ?_⟩
    have := (hmid _ hr).1
    omega
  have := LOC.compact_jump st.lk (starts := starts) (ends := ends) (e := fN k t c) (s := fN k t (c + 1))
    (cs := chainN k t (c + 1 + 1) (n + 1)) hc
    ((st.mem_succs ht (add_pred_le hck) _).mpr ⟨hck, t, ht, rfl, rfl⟩)
    (fun y hy => st.pred_unique ht hck hcP (by
      show fN k t (c + 1) ∈ succs g y
      rw [((st.lookup_some_iff _ _).mp hy).1]
      exact List.mem_singleton.mpr rfl))
    (Or.inr (st.ext_no_pred ex ht (add_pred_le hck) hc))
    (by rw [chainN_succ]; exact List.cons_ne_nil _ _)
    (by rw [← chainN_succ]; exact st.chain1_levels ht (n + 1) (c + 1) hsing)
    (by rw [← chainN_succ]; exact st.chainN_nodup ht _ _ (by omega))
    (fun x hx => by
      rw [chainN_dropLast] at hx
      obtain ⟨j, hj, rfl⟩ := List.mem_map.mp hx
      rw [List.mem_range'_1] at hj
      have hn := mt (st.mem_ext_iff ex ht (j := j) (by omega)).mp (by
        rintro ⟨r, hr, e⟩
        have := hmid r hr
        omega)
      exact ⟨fun h => hn (List.mem_append_left _ h), fun h => hn (List.mem_append_right _ h)⟩)
    (by rw [chainN_getLastD]; exact Or.inl hstop)
  rw [chainN_getLastD] at this
  exact this.1

theorem cg_arm (st : Strand k L g T PT T' PT') {starts ends : List Nat}
    (ex : Ext k starts ends T PT T' PT') {t : List UInt8} (ht : t ∈ T) {p : Nat} (hp : p ∈ PT) :
    succs (compactGraph g starts ends).1 (fN k t (p - k + 2)) = [fN k t (p + 1)] := by
  have hk5 := st.k5
  have hen := ex.entry_mem ht hp
  obtain ⟨a, rfl, ha, hL⟩ := st.pf.site_add hp
  rw [Nat.add_sub_cancel] at hen ⊢
  exact st.compact_jump ex ht (c := a + 1) (b := a + k + 1) (List.mem_append_left _ hen) (by omega) (by omega)
    (fun r hr => by have := st.pf.sep' hp hr; omega)
    (List.mem_append_right _ (ex.exit_mem ht hp))

theorem cg_exit (st : Strand k L g T PT T' PT') {starts ends : List Nat}
    (ex : Ext k starts ends T PT T' PT') {t : List UInt8} (ht : t ∈ T) {p : Nat} (hp : p ∈ PT) :
    succs (compactGraph g starts ends).1 (fN k t (p + 1)) = [fN k t (p + 2)] := by
  have hk5 := st.k5
  rw [(st.compact_ext ex ht (add_pred_le (st.pf.exit_fit hp)) (List.mem_append_right _ (ex.exit_mem ht hp))).1,
    st.succs_single ht (st.pf.exit_fit hp)]
  intro hq
  have := st.pf.sep' hp hq
  omega

theorem cg_after_next (st : Strand k L g T PT T' PT') {starts ends : List Nat}
    (ex : Ext k starts ends T PT T' PT') {t : List UInt8} (ht : t ∈ T) {p q : Nat} (hp : p ∈ PT)
    (hn : IsNext PT p q) :
    succs (compactGraph g starts ends).1 (fN k t (p + 2)) = [fN k t (q - k + 1)] := by
  have hk5 := st.k5
  have hsep := st.pf.next_far hp hn
  have hen := ex.entry_mem ht hn.1
  obtain ⟨b, rfl, -, hL⟩ := st.pf.site_add hn.1
  rw [Nat.add_sub_cancel] at hen ⊢
  exact st.compact_jump ex ht (c := p + 1) (b := b + 1) (List.mem_append_right _ (ex.exit_mem ht hp))
    (by omega) (by omega)
    (fun r hr => by have := hn.2.2 r hr; omega)
    (List.mem_append_left _ hen)

end Strand

end SkaModel.LOC
