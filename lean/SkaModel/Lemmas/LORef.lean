/-
Lemmas on the model of `ska lo -r` (`SkaModel/Impl/SkaloRef.lean`): `mostFrequentPosition`,
`scanVariants`, `groupSnpsPos` / `analyseRef`, `genomicKmers`.
-/
import SkaModel.Impl.SkaloRef
import SkaModel.Lemmas.LOPipe
import SkaModel.Lemmas.AssocFold
import SkaModel.Props.C17

namespace SkaModel.LOR
open SkaModel SkaModel.Skalo

def best (xs : List Nat) : Nat := (xs.eraseDups.map (fun v => xs.count v)).foldl max 0

def top (xs : List Nat) : List Nat := xs.eraseDups.filter (fun v => xs.count v == best xs)

theorem mfp_eq (xs : List Nat) :
    mostFrequentPosition xs =
      match top xs with
      | [p] => if best xs < 10 then (0, 0) else (p, best xs)
      | _ => (0, 0) := by
  unfold mostFrequentPosition top best
  simp only [← List.count_eq_length_filter]
  rfl

theorem foldl_max_ge (l : List Nat) : ∀ i, i ≤ l.foldl max i ∧ (∀ x ∈ l, x ≤ l.foldl max i) ∧
    (l.foldl max i = i ∨ l.foldl max i ∈ l) :=
  LO.foldl_select (R := fun x y => y ≤ x) Nat.le_refl (fun _ _ _ h1 h2 => Nat.le_trans h2 h1) Nat.le_max_left
    Nat.le_max_right (fun a b => (Nat.le_total b a).imp Nat.max_eq_left Nat.max_eq_right) l

theorem count_le_best (xs : List Nat) (v : Nat) (hv : v ∈ xs) : xs.count v ≤ best xs := by
  unfold best
  apply (foldl_max_ge _ 0).2.1
  exact List.mem_map.mpr ⟨v, List.mem_eraseDups.mpr hv, rfl⟩

theorem best_attained (xs : List Nat) (h : xs ≠ []) : ∃ v ∈ xs, xs.count v = best xs := by
  rcases (foldl_max_ge (xs.eraseDups.map (fun v => xs.count v)) 0).2.2 with h0 | h0
  · cases xs with
    | nil => exact absurd rfl h
    | cons a l =>
      refine ⟨a, List.mem_cons_self, ?_⟩
      have := count_le_best (a :: l) a List.mem_cons_self
      unfold best
      rw [h0]
      unfold best at this
      rw [h0] at this
      omega
  · obtain ⟨v, hv, hc⟩ := List.mem_map.mp h0
    exact ⟨v, List.mem_eraseDups.mp hv, hc⟩

theorem mem_top (xs : List Nat) (v : Nat) : v ∈ top xs ↔ v ∈ xs ∧ xs.count v = best xs := by
  unfold top
  rw [List.mem_filter, List.mem_eraseDups, beq_iff_eq]

theorem mfp_some (xs : List Nat) (p c : Nat) (h : mostFrequentPosition xs = (p, c)) (hc : c ≠ 0) :
    top xs = [p] ∧ c = best xs ∧ 10 ≤ c := by
  rw [mfp_eq] at h
  split at h
  · rename_i q hq
    split at h
    · simp only [Prod.mk.injEq] at h; omega
    · simp only [Prod.mk.injEq] at h
      obtain ⟨h1, h2⟩ := h
      subst h1
      exact ⟨hq, h2.symm, by omega⟩
  · simp only [Prod.mk.injEq] at h; omega

theorem mfp_some_spec (xs : List Nat) (p c : Nat) (h : mostFrequentPosition xs = (p, c)) (hc : c ≠ 0) :
    p ∈ xs ∧ c = xs.count p ∧ 10 ≤ c ∧ ∀ q ∈ xs, q ≠ p → xs.count q < c := by
  obtain ⟨ht, hb, h10⟩ := mfp_some xs p c h hc
  have hp : p ∈ top xs := by rw [ht]; exact List.mem_singleton.mpr rfl
  obtain ⟨hpx, hpc⟩ := (mem_top xs p).mp hp
  refine ⟨hpx, by rw [hb, hpc], h10, ?_⟩
  intro q hq hne
  have hle := count_le_best xs q hq
  have hneq : xs.count q ≠ best xs := by
    intro he
    have : q ∈ top xs := (mem_top xs q).mpr ⟨hq, he⟩
    rw [ht] at this
    exact hne (List.mem_singleton.mp this)
  omega

theorem mfp_complete (xs : List Nat) (p : Nat) (hp : 10 ≤ xs.count p)
    (hmax : ∀ q ∈ xs, q ≠ p → xs.count q < xs.count p) :
    mostFrequentPosition xs = (p, xs.count p) := by
  have hpx : p ∈ xs := List.count_pos_iff.mp (by omega)
  have huniq : ∀ v ∈ xs, xs.count v = best xs → v = p := by
    intro v hv hc
    apply Classical.byContradiction
    intro hne
    have := hmax v hv hne
    have := count_le_best xs p hpx
    omega
  obtain ⟨v, hv, hvc⟩ := best_attained xs (List.ne_nil_of_mem hpx)
  have hb : best xs = xs.count p := by rw [← hvc, huniq v hv hvc]
  have ht : top xs = [p] := LO.eq_singleton ((List.filter_sublist).nodup (Dedup.eraseDups_nodup xs)) ((mem_top xs p).mpr ⟨hpx, hb.symm⟩)
    (fun v hv => huniq v ((mem_top xs v).mp hv).1 ((mem_top xs v).mp hv).2)
  rw [mfp_eq, ht, hb]
  exact if_neg (by omega)

/-- a winner is determined by the counts, so it is the winner of every rearrangement -/
theorem mfp_perm_of_ne {xs ys : List Nat} (hp : xs.Perm ys) (h0 : (mostFrequentPosition xs).2 ≠ 0) :
    mostFrequentPosition ys = mostFrequentPosition xs := by
  obtain ⟨_, hpc, h10, hmax⟩ :=
    mfp_some_spec xs (mostFrequentPosition xs).1 (mostFrequentPosition xs).2 rfl h0
  rw [mfp_complete ys (mostFrequentPosition xs).1 (by rw [← hp.count_eq, ← hpc]; exact h10)
    (fun q hq hne => by rw [← hp.count_eq, ← hp.count_eq, ← hpc]; exact hmax q (hp.mem_iff.mpr hq) hne),
    ← hp.count_eq, ← hpc]

/-- the decision of `scan_variants` from the votes of the two strands -/
def scanOf (F R : List Nat) : Bool × Nat × Bool :=
  let f := mostFrequentPosition F
  let r := mostFrequentPosition R
  let fo := if F.isEmpty || f.2 == 0 then none else some f
  let ro := if R.isEmpty || r.2 == 0 then none else some r
  match fo, ro with
  | some (pf, cf), some (pr, cr) =>
    if cf == cr then (false, 0, true) else if cf > cr then (true, pf, true) else (true, pr, false)
  | some (pf, _), none => (true, pf, true)
  | none, some (pr, _) => (true, pr, false)
  | none, none => (false, 0, true)

theorem scan_eq (W k : Nat) (kmap : List (Nat × List Nat)) (vs : List Variant) :
    scanVariants W k kmap vs =
      (vs.mapM (fun v => revComplStr v.1)).bind (fun rcs =>
        some (scanOf (vs.flatMap (fun v => strandVotes W k kmap v.1))
          (rcs.flatMap (fun s => strandVotes W k kmap s)))) := rfl

theorem scan_eq_some {W k : Nat} {kmap : List (Nat × List Nat)} {vs : List Variant} {r : Bool × Nat × Bool}
    (h : scanVariants W k kmap vs = some r) :
    ∃ rcs, vs.mapM (fun v => revComplStr v.1) = some rcs ∧
      scanOf (vs.flatMap (fun v => strandVotes W k kmap v.1)) (rcs.flatMap (fun s => strandVotes W k kmap s)) = r := by
  rw [scan_eq] at h
  obtain ⟨rcs, hr, h⟩ := Option.bind_eq_some_iff.mp h
  exact ⟨rcs, hr, Option.some.inj h⟩

theorem mfp_nil : mostFrequentPosition [] = (0, 0) := rfl

theorem winner_eq (F : List Nat) :
    (if F.isEmpty || (mostFrequentPosition F).2 == 0 then none else some (mostFrequentPosition F)) =
      if (mostFrequentPosition F).2 = 0 then none else some (mostFrequentPosition F) := by
  cases F with
  | nil => simp [mfp_nil]
  | cons a l => simp

theorem scanOf_eq (F R : List Nat) :
    scanOf F R =
      if (mostFrequentPosition F).2 = 0 then
        if (mostFrequentPosition R).2 = 0 then (false, 0, true) else (true, (mostFrequentPosition R).1, false)
      else if (mostFrequentPosition R).2 = 0 then (true, (mostFrequentPosition F).1, true)
      else if (mostFrequentPosition F).2 = (mostFrequentPosition R).2 then (false, 0, true)
      else if (mostFrequentPosition F).2 > (mostFrequentPosition R).2 then (true, (mostFrequentPosition F).1, true)
      else (true, (mostFrequentPosition R).1, false) := by
  unfold scanOf
  simp only [winner_eq]
  by_cases hf : (mostFrequentPosition F).2 = 0 <;> by_cases hr : (mostFrequentPosition R).2 = 0
  · simp [hf, hr]
  · simp [hf, hr]
  · simp [hf, hr]
  · simp only [hf, hr, if_false, beq_iff_eq]

theorem scanOf_cmp (F R : List Nat) :
    scanOf F R =
      if (mostFrequentPosition F).2 = (mostFrequentPosition R).2 then (false, 0, true)
      else if (mostFrequentPosition R).2 < (mostFrequentPosition F).2 then (true, (mostFrequentPosition F).1, true)
      else (true, (mostFrequentPosition R).1, false) := by
  rw [scanOf_eq]
  by_cases hf : (mostFrequentPosition F).2 = 0
  · by_cases hr : (mostFrequentPosition R).2 = 0
    · rw [if_pos hf, if_pos hr, if_pos (hf.trans hr.symm)]
    · rw [if_pos hf, if_neg hr, if_neg (fun e => hr (e.symm.trans hf)), if_neg (by omega)]
  · by_cases hr : (mostFrequentPosition R).2 = 0
    · rw [if_neg hf, if_pos hr, if_neg (fun e => hf (e.trans hr)), if_pos (by omega)]
    · rw [if_neg hf, if_neg hr]

theorem scanOf_true (F R : List Nat) (p : Nat) (fwd : Bool) (h : scanOf F R = (true, p, fwd)) :
    (fwd = true → ∃ c, mostFrequentPosition F = (p, c) ∧ 10 ≤ c ∧ (mostFrequentPosition R).2 < c) ∧
    (fwd = false → ∃ c, mostFrequentPosition R = (p, c) ∧ 10 ≤ c ∧ (mostFrequentPosition F).2 < c) := by
  have h10 : ∀ X : List Nat, (mostFrequentPosition X).2 ≠ 0 → 10 ≤ (mostFrequentPosition X).2 :=
    fun X hX => (mfp_some X _ _ rfl hX).2.2
  rw [scanOf_cmp] at h
  by_cases he : (mostFrequentPosition F).2 = (mostFrequentPosition R).2
  · rw [if_pos he] at h
    exact absurd (Prod.mk.inj h).1 Bool.false_ne_true
  · rw [if_neg he] at h
    by_cases hlt : (mostFrequentPosition R).2 < (mostFrequentPosition F).2
    · rw [if_pos hlt] at h
      have h1 := (Prod.mk.inj (Prod.mk.inj h).2).1
      have h2 := (Prod.mk.inj (Prod.mk.inj h).2).2
      subst h1; subst h2
      exact ⟨fun _ => ⟨(mostFrequentPosition F).2, rfl, h10 F (Nat.ne_of_gt (Nat.lt_of_le_of_lt (Nat.zero_le _) hlt)), hlt⟩, nofun⟩
    · rw [if_neg hlt] at h
      have h1 := (Prod.mk.inj (Prod.mk.inj h).2).1
      have h2 := (Prod.mk.inj (Prod.mk.inj h).2).2
      subst h1; subst h2
      exact ⟨nofun, fun _ => ⟨(mostFrequentPosition R).2, rfl, h10 R (by omega), by omega⟩⟩

theorem scanOf_false (F R : List Nat) (p : Nat) (fwd : Bool) (h : scanOf F R = (false, p, fwd)) :
    p = 0 ∧ fwd = true ∧
    (((mostFrequentPosition F).2 = 0 ∧ (mostFrequentPosition R).2 = 0) ∨
     ((mostFrequentPosition F).2 ≠ 0 ∧ (mostFrequentPosition F).2 = (mostFrequentPosition R).2)) := by
  rw [scanOf_cmp] at h
  by_cases he : (mostFrequentPosition F).2 = (mostFrequentPosition R).2
  · rw [if_pos he] at h
    refine ⟨(Prod.mk.inj (Prod.mk.inj h).2).1.symm, (Prod.mk.inj (Prod.mk.inj h).2).2.symm, ?_⟩
    by_cases hf : (mostFrequentPosition F).2 = 0
    · exact Or.inl ⟨hf, he ▸ hf⟩
    · exact Or.inr ⟨hf, he⟩
  · rw [if_neg he] at h
    split at h <;> exact absurd (Prod.mk.inj h).1 (by decide)

theorem revComplStr_none_iff (s : List UInt8) : revComplStr s = none ↔ ∃ b ∈ s, isACGT b = false := by
  have key : ∀ b : UInt8, (if b == 65 then some (84 : UInt8) else if b == 67 then some 71
      else if b == 84 then some 65 else if b == 71 then some 67 else none) = none ↔ isACGT b = false := by
    intro b
    unfold isACGT
    by_cases h1 : (b == 65) = true
    · simp [h1]
    · by_cases h2 : (b == 67) = true
      · simp [h1, h2]
      · by_cases h3 : (b == 84) = true
        · simp [h1, h2, h3]
        · by_cases h4 : (b == 71) = true <;> simp [h1, h2, h3, h4]
  unfold revComplStr
  rw [LO.mapM_eq_none_iff]
  simp only [key, List.mem_reverse]

theorem groupSnpsPos_eq (W kGraph nSamples mNum mDen : Nat) (col : Colours) (done : List Nat) (vs : List Variant) :
    groupSnpsPos W kGraph nSamples mNum mDen col done vs =
      (getPotentialSnp vs).foldlM (LOP.siteStep (fun p c => (p, c)) W kGraph nSamples mNum mDen col done vs) ([], []) := rfl

theorem groupSnpsPos_cols (W kGraph n mNum mDen : Nat) (col : Colours) (done : List Nat)
    (vs : List Variant) (r : List (Nat × List UInt8) × List Nat)
    (h : groupSnpsPos W kGraph n mNum mDen col done vs = some r) :
    ∀ pc ∈ r.1, LOP.ColOk n mNum mDen pc.2 :=
  LOP.siteFold_cols (fun p c => (p, c)) (fun pc => LOP.ColOk n mNum mDen pc.2) (fun _ _ hc => hc) _ r h

/-- the column as reported for the strand the group lies on -/
def colOn (fwd : Bool) (c : List UInt8) : Option (List UInt8) := if fwd then some c else complementSnp c

/-- the reported position of the column at offset `off` of a group of length `seqLen` positioned at `p` -/
def finalPos (kGraph p seqLen : Nat) (fwd : Bool) (off : Nat) : Nat :=
  if fwd then (p + (off - kGraph)) % U32 else (p + (seqLen - off - kGraph - 1)) % U32

/-- the first claim of a position wins -/
def claim (m : List (Nat × List UInt8)) (x : Nat × List UInt8) : List (Nat × List UInt8) :=
  if m.any (·.1 == x.1) then m else m ++ [x]

/-- placing one column of a positioned group; in the shape the `do` block of `analyseRef` elaborates to -/
def placeStep (kGraph p seqLen : Nat) (fwd : Bool) (m : List (Nat × List UInt8)) (pc : Nat × List UInt8) :
    Option (List (Nat × List UInt8)) :=
  if fwd then
    if m.any (·.1 == finalPos kGraph p seqLen fwd pc.1) then some m
    else some (m ++ [(finalPos kGraph p seqLen fwd pc.1, pc.2)])
  else (complementSnp pc.2).bind fun c =>
    if m.any (·.1 == finalPos kGraph p seqLen fwd pc.1) then some m
    else some (m ++ [(finalPos kGraph p seqLen fwd pc.1, c)])

/-- what `analyseRef` does with one group -/
def refStep (W kGraph n mNum mDen : Nat) (col : Colours) (kmap : List (Nat × List Nat)) (ext : List Nat)
    (acc : List (Nat × List UInt8) × List Nat) (kv : (Nat × Nat) × List Variant) :
    Option (List (Nat × List UInt8) × List Nat) :=
  if !ext.contains kv.1.1 && !ext.contains (revComp W kv.1.2 kGraph) then
    if kv.2.length < 2 then some acc
    else (groupSnpsPos W kGraph n mNum mDen col acc.2 kv.2).bind fun fs =>
      if fs.1.isEmpty then some (acc.1, acc.2 ++ fs.2)
      else (scanVariants 128 kGraph kmap kv.2).bind fun sc =>
        if !sc.1 then some (acc.1, acc.2 ++ fs.2)
        else (fs.1.foldlM (placeStep kGraph sc.2.1 (kv.2.headD ([], [])).1.length sc.2.2) acc.1).bind fun pl =>
          some (pl, acc.2 ++ fs.2)
  else some acc

theorem analyseRef_eq (W kGraph n mNum mDen ik : Nat) (col : Colours) (gr : Groups) (genome : List UInt8) :
    analyseRef W kGraph n mNum mDen ik col gr genome =
      (processIndels W kGraph n mNum mDen col gr.indelGroups).bind fun re =>
        ((LOP.sortedGroups W kGraph ik re.2 gr.snpGroups).foldlM
          (refStep W kGraph n mNum mDen col (genomicKmers 128 kGraph genome) re.2) ([], [])).bind fun res =>
          some (res.1, re.1) := rfl

theorem placeStep_eq (kGraph p seqLen : Nat) (fwd : Bool) (m : List (Nat × List UInt8)) (pc : Nat × List UInt8) :
    placeStep kGraph p seqLen fwd m pc =
      (colOn fwd pc.2).map fun c => claim m (finalPos kGraph p seqLen fwd pc.1, c) := by
  unfold placeStep colOn claim
  cases fwd with
  | true => exact (apply_ite some _ _ _).symm
  | false =>
    cases complementSnp pc.2 with
    | none => rfl
    | some c => exact (apply_ite some _ _ _).symm

theorem mem_claim {m : List (Nat × List UInt8)} {x y : Nat × List UInt8} (h : y ∈ claim m x) :
    y ∈ m ∨ y = x := by
  unfold claim at h
  split at h
  · exact Or.inl h
  · exact (List.mem_append.mp h).imp_right List.mem_singleton.mp

theorem claim_keys_nodup {m : List (Nat × List UInt8)} (x : Nat × List UInt8) (h : (m.map (·.1)).Nodup) :
    ((claim m x).map (·.1)).Nodup := by
  unfold claim
  split
  · exact h
  · rename_i hany
    rw [List.map_append, List.nodup_append]
    refine ⟨h, List.pairwise_singleton _ _, ?_⟩
    intro a ha b hb e
    obtain ⟨y, hy, rfl⟩ := List.mem_map.mp ha
    rw [List.map_singleton, List.mem_singleton] at hb
    exact hany (List.any_eq_true.mpr ⟨y, hy, by rw [e, hb]; exact beq_self_eq_true _⟩)

theorem refStep_some {W kGraph n mNum mDen : Nat} {col : Colours} {kmap : List (Nat × List Nat)} {ext : List Nat}
    {acc acc' : List (Nat × List UInt8) × List Nat} {kv : (Nat × Nat) × List Variant}
    (h : refStep W kGraph n mNum mDen col kmap ext acc kv = some acc') :
    acc'.1 = acc.1 ∨ ∃ found save p fwd,
      groupSnpsPos W kGraph n mNum mDen col acc.2 kv.2 = some (found, save) ∧
      scanVariants 128 kGraph kmap kv.2 = some (true, p, fwd) ∧
      found.foldlM (placeStep kGraph p (kv.2.headD ([], [])).1.length fwd) acc.1 = some acc'.1 := by
  rcases LO.gate_some h with rfl | h
  · exact Or.inl rfl
  · obtain ⟨⟨found, save⟩, hg, h⟩ := Option.bind_eq_some_iff.mp h
    split at h
    · exact Or.inl (by rw [← Option.some.inj h])
    · obtain ⟨⟨ok, p, fwd⟩, hs, h⟩ := Option.bind_eq_some_iff.mp h
      cases ok with
      | false => exact Or.inl (by rw [← Option.some.inj h])
      | true =>
        obtain ⟨pl, hpl, h⟩ := Option.bind_eq_some_iff.mp h
        exact Or.inr ⟨found, save, p, fwd, hg, hs, by rw [← Option.some.inj h]; exact hpl⟩

/-- the (position, column) pair `x` is the placement of column `pc` of the group `vs` -/
def Origin (W kGraph n mNum mDen : Nat) (col : Colours) (kmap : List (Nat × List Nat)) (vs : List Variant)
    (x : Nat × List UInt8) : Prop :=
  ∃ (done : List Nat) (found : List (Nat × List UInt8)) (save : List Nat) (p : Nat) (fwd : Bool),
    ∃ pc ∈ found,
      groupSnpsPos W kGraph n mNum mDen col done vs = some (found, save) ∧
      scanVariants 128 kGraph kmap vs = some (true, p, fwd) ∧
      x.1 = finalPos kGraph p (vs.headD ([], [])).1.length fwd pc.1 ∧
      colOn fwd pc.2 = some x.2

theorem refFold_inv {W kGraph n mNum mDen : Nat} {col : Colours} {kmap : List (Nat × List Nat)} {ext : List Nat}
    (P : List (Nat × List UInt8) → Prop) (gs : List ((Nat × Nat) × List Variant))
    (hP : ∀ kv ∈ gs, ∀ x, Origin W kGraph n mNum mDen col kmap kv.2 x → ∀ m, P m → P (claim m x))
    (acc res : List (Nat × List UInt8) × List Nat) (hacc : P acc.1)
    (h : gs.foldlM (refStep W kGraph n mNum mDen col kmap ext) acc = some res) : P res.1 := by
  refine LO.foldlM_inv _ (fun acc => P acc.1) gs ?_ acc res hacc h
  intro acc kv acc' hkv hacc hstep
  rcases refStep_some hstep with e | ⟨found, save, p, fwd, hg, hs, hpl⟩
  · exact e ▸ hacc
  · refine LO.foldlM_inv _ P found ?_ acc.1 acc'.1 hacc hpl
    intro m pc m' hpc hm hm'
    rw [placeStep_eq] at hm'
    obtain ⟨c, hc, rfl⟩ := Option.map_eq_some_iff.mp hm'
    exact hP kv hkv _ ⟨_, found, save, p, fwd, pc, hpc, hg, hs, rfl, hc⟩ m hm

theorem analyseRef_origin (W kGraph n mNum mDen ik : Nat) (col : Colours) (gr : Groups)
    (genome : List UInt8) (placed : List (Nat × List UInt8)) (recs : List IndelRec)
    (h : analyseRef W kGraph n mNum mDen ik col gr genome = some (placed, recs)) :
    ∃ ext, processIndels W kGraph n mNum mDen col gr.indelGroups = some (recs, ext) ∧
      ∀ x ∈ placed, ∃ kv ∈ gr.snpGroups,
        Origin W kGraph n mNum mDen col (genomicKmers 128 kGraph genome)
          (kv.2.filter (fun v => !(internalIndels W kGraph ext v.1 > ik))) x := by
  rw [analyseRef_eq] at h
  obtain ⟨ext, res, hpi, hres, rfl⟩ := LOP.run_some h
  refine ⟨ext, hpi, refFold_inv (fun m => ∀ x ∈ m, ∃ kv ∈ gr.snpGroups,
    Origin W kGraph n mNum mDen col (genomicKmers 128 kGraph genome)
      (kv.2.filter (fun v => !(internalIndels W kGraph ext v.1 > ik))) x) _ ?_ _ _
    (fun _ hx => (List.not_mem_nil hx).elim) hres⟩
  intro kv hkv x hx m hm y hy
  obtain ⟨kv0, hkv0, rfl⟩ := LOP.mem_sortedGroups hkv
  rcases mem_claim hy with hy | rfl
  · exact hm y hy
  · exact ⟨kv0, hkv0, hx⟩

theorem colOk_complement (n mNum mDen : Nat) (c c' : List UInt8) (h : complementSnp c = some c')
    (hc : LOP.ColOk n mNum mDen c) : LOP.ColOk n mNum mDen c' := by
  obtain ⟨⟨hl, hb⟩, h1, h2⟩ := hc
  have hchk := LO.check_complement c c' h
  obtain ⟨hok, he⟩ := (LO.complementSnp_eq_some c c').1 h
  refine ⟨⟨by rw [he, List.length_map]; exact hl, ?_⟩, by rw [hchk]; exact h1, by rw [hchk]; exact h2⟩
  intro b hb'
  rw [he] at hb'
  obtain ⟨a, ha, rfl⟩ := List.mem_map.mp hb'
  have := LO.okBase_compl a (hok a ha)
  unfold LO.okBase at this
  unfold LOP.okB
  rcases this with h | h | h | h | h | h <;> simp [h]

theorem finalPos_lt (kGraph p seqLen : Nat) (fwd : Bool) (off : Nat) : finalPos kGraph p seqLen fwd off < U32 := by
  unfold finalPos
  split <;> exact Nat.mod_lt _ (Nat.two_pow_pos 32)

theorem Origin.colOk {W kGraph n mNum mDen : Nat} {col : Colours} {kmap : List (Nat × List Nat)}
    {vs : List Variant} {x : Nat × List UInt8} (h : Origin W kGraph n mNum mDen col kmap vs x) :
    LOP.ColOk n mNum mDen x.2 ∧ x.1 < U32 := by
  obtain ⟨done, found, save, p, fwd, pc, hpc, hg, _, hx1, hx2⟩ := h
  have hok := groupSnpsPos_cols W kGraph n mNum mDen col done vs _ hg pc hpc
  refine ⟨?_, hx1 ▸ finalPos_lt _ _ _ _ _⟩
  cases fwd with
  | true => exact Option.some.inj hx2 ▸ hok
  | false => exact colOk_complement n mNum mDen _ _ hx2 hok

/-- no base of the k-mer is N (or n): low nibble 14 -/
def noN (kmer : List UInt8) : Bool := kmer.all (fun b => (b &&& 15) != 14)

/-- all end positions of the N-free occurrences of the k-mer with code `x`, increasing -/
def allEnds (W k : Nat) (g : List UInt8) (x : Nat) : List Nat :=
  ((List.range (g.length - k + 1)).filter
    (fun n => noN ((g.drop n).take k) && encodeKmer W ((g.drop n).take k) == x)).map (· + k)

/-- `extract_genomic_kmers` skips the k-mers with an N and enters the others: a fold of `upsert` -/
theorem genomicKmers_eq (W k : Nat) (g : List UInt8) :
    genomicKmers W k g = if g.length < k then [] else
      ((List.range (g.length - k + 1)).filter (fun n => noN ((g.drop n).take k))).foldl (fun c n =>
        Assoc.upsert c (encodeKmer W ((g.drop n).take k)) [n + k]
          (fun l => if l.length < 3 then l ++ [n + k] else l)) [] := by
  rw [List.foldl_filter]
  rfl

theorem lookup_genomicKmers (W k : Nat) (g : List UInt8) (hk : k ≤ g.length) (x : Nat) :
    Assoc.lookup (genomicKmers W k g) x =
      if allEnds W k g x = [] then none else some ((allEnds W k g x).take 3) := by
  rw [genomicKmers_eq, if_neg (Nat.not_lt.2 hk), Assoc.lookup_foldl_upsert,
    Assoc.foldl_hit_default [] _ _ ?_, Assoc.lookup_nil, Option.getD_none,
    Assoc.foldl_pushUpTo 3 (· + k) _ [] (Nat.zero_le 3)]
  · unfold Assoc.entriesAt allEnds
    rw [List.filter_filter, List.filter_congr fun _ _ => Bool.and_comm _ _, List.nil_append]
    simp only [List.map_eq_nil_iff]
  · -- the inserted `[n + k]` is what the modification makes of the default `[]`
    exact fun _ => rfl

theorem genomicKmers_keys_nodup (W k : Nat) (g : List UInt8) : (Assoc.keys (genomicKmers W k g)).Nodup := by
  rw [genomicKmers_eq]
  split
  · exact List.nodup_nil
  · exact Assoc.nodup_keys_foldl_upsert _ _ _ _ _ List.nodup_nil

theorem mem_allEnds (W k : Nat) (g : List UInt8) (hk : k ≤ g.length) (x p : Nat) :
    p ∈ allEnds W k g x ↔ k ≤ p ∧ p ≤ g.length ∧ noN ((g.drop (p - k)).take k) = true ∧
      encodeKmer W ((g.drop (p - k)).take k) = x := by
  unfold allEnds
  -- the `g.length - k + 1` starts are the `n` with `n + k ≤ g.length`; an end is `p = n + k`
  simp only [List.mem_map, List.mem_filter, List.mem_range, Bool.and_eq_true, beq_iff_eq, Nat.lt_succ_iff,
    Nat.le_sub_iff_add_le hk]
  constructor
  · rintro ⟨n, ⟨hn, h⟩, rfl⟩
    rw [Nat.add_sub_cancel]
    exact ⟨Nat.le_add_left k n, hn, h⟩
  · rintro ⟨h1, h2, h⟩
    obtain ⟨n, rfl⟩ := Nat.exists_eq_add_of_le' h1
    rw [Nat.add_sub_cancel] at h
    exact ⟨n, ⟨h2, h⟩, rfl⟩

theorem allEnds_sorted (W k : Nat) (g : List UInt8) (x : Nat) : (allEnds W k g x).Pairwise (· < ·) := by
  unfold allEnds
  rw [List.pairwise_map]
  exact (List.pairwise_lt_range.imp fun h => Nat.add_lt_add_right h k).filter _

theorem take_lt_of_not_mem {l : List Nat} (hs : l.Pairwise (· < ·)) (m q : Nat) (hq : q ∈ l) (hn : q ∉ l.take m) :
    (l.take m).length = m ∧ ∀ p ∈ l.take m, p < q := by
  rw [← List.take_append_drop m l] at hq hs
  have hqd : q ∈ l.drop m := (List.mem_append.mp hq).resolve_left hn
  exact ⟨List.length_take_of_le (Nat.le_of_not_le fun h => List.not_mem_nil (List.drop_eq_nil_of_le h ▸ hqd)),
    fun p hp => (List.pairwise_append.mp hs).2.2 p hp q hqd⟩

end SkaModel.LOR

