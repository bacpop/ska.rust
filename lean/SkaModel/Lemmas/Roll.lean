/-
Number-level lemmas for the rolling split k-mer updates: each `roll_fwd`
assignment and `update_rc`, phrased over packed lists of codes. An assignment
that shifts left takes the one size hypothesis `2 * (2 * h + 1) ≤ W` (the window
fits the word); an arm of `h` bases is given as its first or last base and the
`h - 1` others.
-/
import SkaModel.Lemmas.RevComp

namespace SkaModel

open SkaModel.Spec

/-- `upper = (upper << 2 | middle << 2h) & upper_mask` -/
theorem roll_upper (W h a0 m : Nat) (A' : List Nat) (ha0 : a0 < 4) (hA : Codes A') (hm : m < 4)
    (hlen : A'.length + 1 = h) (hW : 2 * (2 * h + 1) ≤ W) :
    (shl W (packL (a0 :: A') * 4 ^ h) 2 ||| shl W m (h * 2)) &&& ((4 ^ h - 1) * 4 ^ h)
      = packL (A' ++ [m]) * 4 ^ h := by
  subst hlen
  have hAm : Codes (A' ++ [m]) := hA.append (Codes.cons hm Codes.nil)
  have := packL_append_mod (a := [a0]) hAm
  rw [List.length_append, List.length_singleton] at this
  rw [shl_packL_or_scaled (hA.cons ha0) hm (by rw [List.length_cons]; omega), and_upMask,
    Nat.mul_div_cancel _ (Nat.pow_pos (by decide)), List.cons_append, ← List.singleton_append, this]

/-- `middle_base = (lower >> 2(h-1)) as u8` -/
theorem roll_mid (h b0 : Nat) (L' : List Nat) (hb0 : b0 < 4) (hL : Codes L')
    (hlen : L'.length + 1 = h) :
    (packL (b0 :: L') >>> (2 * (h - 1))) % 256 = b0 := by
  subst hlen
  rw [Nat.add_sub_cancel, shr_four_pow, ← List.singleton_append, packL_append_div hL,
    packL_singleton]
  exact Nat.mod_eq_of_lt (Nat.lt_trans hb0 (by decide))

/-- the base leaving the window, as `roll_fwd` hands it to the hash: `(upper >> 2(k-2)) as u8` -/
theorem roll_leaving (h k a0 : Nat) (A' : List Nat) (ha0 : a0 < 4) (hA : Codes A')
    (hlen : A'.length + 1 = h) (hk : k = 2 * h + 1) :
    ((packL (a0 :: A') * 4 ^ h) >>> ((k - 2) * 2)) % 256 = a0 := by
  subst hlen hk
  have e : (2 * (A'.length + 1) + 1 - 2) * 2 = 2 * (A'.length + 1) + 2 * A'.length := by omega
  have := roll_mid _ a0 A' ha0 hA rfl
  rw [Nat.add_sub_cancel] at this
  rwa [e, Nat.shiftRight_add, shr_four_pow _ (A'.length + 1),
    Nat.mul_div_cancel _ (Nat.pow_pos (by decide))]

/-- `lower = ((lower << 2) | new_base) & lower_mask` -/
theorem roll_lower (W h b0 nb : Nat) (L' : List Nat) (hb0 : b0 < 4) (hL : Codes L') (hnb : nb < 4)
    (hlen : L'.length + 1 = h) (hW : 2 * (2 * h + 1) ≤ W) :
    (shl W (packL (b0 :: L')) 2 ||| nb) &&& (4 ^ h - 1) = packL (L' ++ [nb]) := by
  subst hlen
  have hLn : Codes (L' ++ [nb]) := hL.append (Codes.cons hnb Codes.nil)
  have := packL_append_mod (a := [b0]) hLn
  rw [List.length_append, List.length_singleton] at this
  rw [shl_packL_or (hL.cons hb0) hnb (by rw [List.length_cons]; omega), and_lowMask,
    List.cons_append, ← List.singleton_append, this]

/-- `rc_lower = (rc_lower >> 2 | rc_middle << 2(h-1)) & lower_mask` -/
theorem roll_rcLower (W h a0 m : Nat) (A' : List Nat) (ha0 : a0 < 4) (hA : Codes A') (hm : m < 4)
    (hlen : A'.length + 1 = h) (hW : 2 * (2 * h + 1) ≤ W) :
    ((packL (rcCodes (a0 :: A')) >>> 2) ||| shl W (m ^^^ 2) (2 * (h - 1))) &&& (4 ^ h - 1)
      = packL (rcCodes (A' ++ [m])) := by
  subst hlen
  have hR : Codes (rcCodes A') := rcCodes_codes hA
  have hRl : (rcCodes A').length = A'.length := rcCodes_length _
  rw [Nat.add_sub_cancel, rcCodes_cons, packL_snoc_shr _ (xor2_lt ha0),
    packL_or_shl hR (xor2_lt hm) hRl (by omega), and_lowMask, rcCodes_snoc]
  exact Nat.mod_eq_of_lt (packL_lt_of_length (hR.cons (xor2_lt hm))
    (by rw [List.length_cons, hRl]))

/-- `rc_upper = (rc_upper >> 2 | rc(new_base) << 2(2h-1)) & upper_mask` -/
theorem roll_rcUpper (W h b0 nb : Nat) (L' : List Nat) (hb0 : b0 < 4) (hL : Codes L')
    (hnb : nb < 4) (hlen : L'.length + 1 = h) (hW : 2 * (2 * h + 1) ≤ W) :
    (((packL (rcCodes (b0 :: L')) * 4 ^ h) >>> 2) ||| shl W (nb ^^^ 2) (2 * (h * 2 - 1)))
        &&& ((4 ^ h - 1) * 4 ^ h)
      = packL (rcCodes (L' ++ [nb])) * 4 ^ h := by
  subst hlen
  have hR : Codes (rcCodes L') := rcCodes_codes hL
  have hRl : (rcCodes L').length = L'.length := rcCodes_length _
  -- the low `h` digits after the shift: the old last digit, then zeros
  have hD : Codes ([b0 ^^^ 2] ++ List.replicate L'.length 0) :=
    (Codes.cons (xor2_lt hb0) Codes.nil).append (Codes.replicate _ (by decide))
  have hDl : ([b0 ^^^ 2] ++ List.replicate L'.length 0).length = L'.length + 1 := by
    rw [List.length_append, List.length_singleton, List.length_replicate, Nat.add_comm]
  have hy : (packL (rcCodes (b0 :: L')) * 4 ^ (L'.length + 1)) >>> 2
      = packL (rcCodes L' ++ ([b0 ^^^ 2] ++ List.replicate L'.length 0)) := by
    rw [← packL_append_zeros, List.replicate_succ', rcCodes_cons, ← List.append_assoc,
      packL_snoc_shr _ (by decide), List.append_assoc]
  rw [hy, packL_or_shl (hR.append hD) (xor2_lt hnb)
      (by rw [List.length_append, hRl, hDl]; omega) (by omega),
    and_upMask, ← List.cons_append]
  have hdiv := packL_append_div (a := (nb ^^^ 2) :: rcCodes L') hD
  rw [hDl] at hdiv
  rw [hdiv, rcCodes_snoc]
  congr 1
  exact Nat.mod_eq_of_lt (packL_lt_of_length (hR.cons (xor2_lt hnb))
    (by rw [List.length_cons, hRl]))

/-- `rc_upper = lower.rev_comp(k - 1) & upper_mask` -/
theorem updateRc_upper (W h : Nat) (hW : W = 64 ∨ W = 128) (L : List Nat) (hL : Codes L)
    (hlen : L.length = h) (hh : 2 * h ≤ W / 2) :
    revComp W (packL L) (2 * h) &&& ((4 ^ h - 1) * 4 ^ h) = packL (rcCodes L) * 4 ^ h := by
  have hc : Codes (List.replicate h 0 ++ L) := (Codes.replicate _ (by omega)).append hL
  rw [← packL_zeros_append L h, revComp_packL W hW _ hc (2 * h)
    (by rw [List.length_append, List.length_replicate, hlen]; omega) hh]
  rw [rcCodes_append, rcCodes_replicate_zero, and_upMask]
  have h2 : Codes (List.replicate h 2) := Codes.replicate _ (by omega)
  have hdiv := packL_append_div (a := rcCodes L) h2
  rw [List.length_replicate] at hdiv
  rw [hdiv]
  congr 1
  exact Nat.mod_eq_of_lt (packL_lt_of_length (rcCodes_codes hL) (by rw [rcCodes_length, hlen]))

/-- `rc_lower = upper.rev_comp(k - 1) & lower_mask` -/
theorem updateRc_lower (W h : Nat) (hW : W = 64 ∨ W = 128) (A : List Nat) (hA : Codes A)
    (hlen : A.length = h) (hh : 2 * h ≤ W / 2) :
    revComp W (packL A * 4 ^ h) (2 * h) &&& (4 ^ h - 1) = packL (rcCodes A) := by
  have hc : Codes (A ++ List.replicate h 0) := hA.append (Codes.replicate _ (by omega))
  rw [← packL_append_zeros A h, revComp_packL W hW _ hc (2 * h)
    (by rw [List.length_append, List.length_replicate, hlen]; omega) hh]
  rw [rcCodes_append, rcCodes_replicate_zero, and_lowMask]
  have := packL_append_mod (a := List.replicate h 2) (rcCodes_codes hA)
  rwa [rcCodes_length, hlen] at this

end SkaModel
