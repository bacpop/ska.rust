/-
Windows of a record (`Spec/Windows.lean`): when a position starts one, how the
start, the last and the middle position of a window determine each other, the
codes of a run of bases, the two arms and the middle base, and the canonical key
and palindrome flag of a window in terms of its packed arms.
-/
import SkaModel.Spec.Windows
import SkaModel.Lemmas.Pack

namespace SkaModel

open SkaModel.Spec

theorem validStart_iff (k len : Nat) (ok : Nat → Bool) (j : Nat) :
    validStart k len ok j = true ↔ (j + k ≤ len ∧ ∀ t, t < k → ok (j + t) = true) := by
  unfold validStart
  simp only [Bool.and_eq_true, decide_eq_true_eq, List.all_eq_true, List.mem_range]

theorem validStart_false_of_len (k len : Nat) (ok : Nat → Bool) (j : Nat) (h : len < j + k) :
    validStart k len ok j = false := by
  cases hv : validStart k len ok j with
  | false => rfl
  | true =>
    have := ((validStart_iff k len ok j).1 hv).1
    omega

theorem validStart_false_of_bad (k len : Nat) (ok : Nat → Bool) (j p : Nat)
    (hp : ok p = false) (h1 : j ≤ p) (h2 : p < j + k) :
    validStart k len ok j = false := by
  cases hv : validStart k len ok j with
  | false => rfl
  | true =>
    have := ((validStart_iff k len ok j).1 hv).2 (p - j) (by omega)
    rw [show j + (p - j) = p by omega, hp] at this
    exact absurd this (by decide)

theorem validStart_succ (k len : Nat) (ok : Nat → Bool) (j : Nat)
    (hv : validStart k len ok j = true) (hlen : j + k < len) (hok : ok (j + k) = true) :
    validStart k len ok (j + 1) = true := by
  obtain ⟨_, hj⟩ := (validStart_iff k len ok j).1 hv
  refine (validStart_iff k len ok (j + 1)).2 ⟨by omega, fun t ht => ?_⟩
  by_cases htk : t + 1 < k
  · rw [Nat.add_assoc, Nat.add_comm 1 t]
    exact hj (t + 1) htk
  · rw [show j + 1 + t = j + k by omega]
    exact hok

theorem mem_windowsBy (k len : Nat) (ok : Nat → Bool) (j : Nat) :
    j ∈ windowsBy k len ok ↔ j + k ≤ len ∧ ∀ t, t < k → ok (j + t) = true := by
  unfold windowsBy
  rw [List.mem_filter, List.mem_range, validStart_iff]
  constructor
  · rintro ⟨_, h⟩; exact h
  · rintro h; exact ⟨by omega, h⟩

theorem mem_windows (k : Nat) (seq : Array UInt8) (j : Nat) :
    j ∈ windows k seq ↔ j + k ≤ seq.size ∧ ∀ t, t < k → validBase (seq.getD (j + t) 0) = true :=
  mem_windowsBy k seq.size _ j

/-! The iterator names a window of `k` bases by the index `ix` of its last base, `ix = j + k - 1`, and
recovers the start as `ix + 1 - k`. Both are read once here as the additive `ix + 1 = j + k`, which is
the form the proofs about the iterator work with. -/

theorem last_iff {k ix j : Nat} (hk : 0 < k) : ix = j + k - 1 ↔ ix + 1 = j + k := by omega

theorem start_of_last {k ix j : Nat} (h : ix + 1 = j + k) : ix + 1 - k = j := by
  rw [h, Nat.add_sub_cancel]

theorem mid_of_last {h ix j : Nat} (hix : ix = j + (2 * h + 1) - 1) : ix - h = j + h := by
  rw [hix, ← Nat.add_assoc, Nat.add_sub_cancel, Nat.two_mul, ← Nat.add_assoc, Nat.add_sub_cancel]

theorem codesAt_length (seq : Array UInt8) (a n : Nat) : (codesAt seq a n).length = n := by
  simp [codesAt]

theorem codesAt_codes (seq : Array UInt8) (a n : Nat) : Codes (codesAt seq a n) :=
  Codes.map_of _ _ (fun _ => code_lt _)

theorem codesAt_zero (seq : Array UInt8) (a : Nat) : codesAt seq a 0 = [] := rfl

theorem codesAt_getElem (r : Array UInt8) (s m i : Nat) (h : i < (codesAt r s m).length) :
    (codesAt r s m)[i] = code (r.getD (s + i) 0) := by
  simp [codesAt]

theorem codesAt_succ_snoc (seq : Array UInt8) (a n : Nat) :
    codesAt seq a (n + 1) = codesAt seq a n ++ [code (seq.getD (a + n) 0)] := by
  simp [codesAt, List.range_succ]

theorem map_range_succ_cons {α : Type} (f : Nat → α) (a n : Nat) :
    (List.range (n + 1)).map (fun t => f (a + t))
      = f a :: (List.range n).map (fun t => f (a + 1 + t)) := by
  simp only [List.range_succ_eq_map, List.map_cons, List.map_map, Nat.add_zero]
  congr 1
  apply List.map_congr_left
  intro t _
  simp only [Function.comp, Nat.succ_eq_add_one]
  rw [Nat.add_assoc, Nat.add_comm 1 t]

theorem codesAt_succ_cons (seq : Array UInt8) (a n : Nat) :
    codesAt seq a (n + 1) = code (seq.getD a 0) :: codesAt seq (a + 1) n :=
  map_range_succ_cons (fun p => code (seq.getD p 0)) a n

theorem packL_codesAt_lt (seq : Array UInt8) (a n : Nat) : packL (codesAt seq a n) < 4 ^ n :=
  packL_lt_of_length (codesAt_codes seq a n) (codesAt_length seq a n)

theorem armsAt_length (k : Nat) (seq : Array UInt8) (j : Nat) :
    (armsAt k seq j).length = 2 * ((k - 1) / 2) := by
  unfold armsAt
  simp only [List.length_append, codesAt_length]
  omega

theorem armsAt_codes (k : Nat) (seq : Array UInt8) (j : Nat) : Codes (armsAt k seq j) := by
  unfold armsAt
  exact Codes.append (codesAt_codes _ _ _) (codesAt_codes _ _ _)

theorem armsAt_odd (h : Nat) (r : Array UInt8) (j : Nat) :
    armsAt (2 * h + 1) r j = codesAt r j h ++ codesAt r (j + h + 1) h := by
  unfold armsAt
  simp only [Nat.add_sub_cancel, Nat.mul_div_cancel_left h (by decide : 0 < 2)]

theorem midAt_odd (h : Nat) (r : Array UInt8) (j : Nat) :
    midAt (2 * h + 1) r j = code (r.getD (j + h) 0) := by
  unfold midAt
  rw [Nat.add_sub_cancel, Nat.mul_div_cancel_left h (by decide)]

theorem midAt_lt (k : Nat) (r : Array UInt8) (j : Nat) : midAt k r j < 4 := code_lt _

theorem obs_base_lt (k : Nat) (rc : Bool) (r : Array UInt8) (j : Nat) : (obs k rc r j).2.1 < 4 := by
  unfold obs
  simp only
  split
  · exact xor2_lt (midAt_lt k r j)
  · exact midAt_lt k r j

theorem obs_key (k : Nat) (rc : Bool) (seq : Array UInt8) (j : Nat) :
    (obs k rc seq j).1
      = if rc = true ∧ packL (armsAt k seq j) > packL (rcCodes (armsAt k seq j))
        then packL (rcCodes (armsAt k seq j)) else packL (armsAt k seq j) := by
  unfold obs
  simp only
  by_cases h : rc = true ∧ packL (armsAt k seq j) > packL (rcCodes (armsAt k seq j))
  · rw [if_pos h, if_pos (by simpa using h)]
  · rw [if_neg h, if_neg (by simpa using h)]

theorem isPalin_iff (k : Nat) (rc : Bool) (seq : Array UInt8) (j : Nat) :
    isPalin k rc seq j = true ↔ rc = true ∧ rcCodes (armsAt k seq j) = armsAt k seq j := by
  unfold isPalin
  simp only [Bool.and_eq_true, beq_iff_eq]
  constructor
  · rintro ⟨h1, h2⟩
    refine ⟨h1, ?_⟩
    exact (packL_inj (armsAt_codes k seq j) (rcCodes_codes (armsAt_codes k seq j))
      (rcCodes_length _).symm h2).symm
  · rintro ⟨h1, h2⟩
    exact ⟨h1, by rw [h2]⟩

/-- one direction of `palin_of_key` -/
theorem palin_of_key_aux (k : Nat) (rc : Bool) (r r' : Array UInt8) (j j' : Nat)
    (hkey : (obs k rc r j).1 = (obs k rc r' j').1) (hp : isPalin k rc r j = true) :
    isPalin k rc r' j' = true := by
  rw [isPalin_iff] at hp ⊢
  obtain ⟨hrc, hself⟩ := hp
  refine ⟨hrc, ?_⟩
  rw [obs_key, obs_key, hself] at hkey
  have hlen : (armsAt k r j).length = (armsAt k r' j').length := by
    rw [armsAt_length, armsAt_length]
  have hc := armsAt_codes k r j
  have hc' := armsAt_codes k r' j'
  rw [if_neg (by omega)] at hkey
  by_cases h : rc = true ∧ packL (armsAt k r' j') > packL (rcCodes (armsAt k r' j'))
  · rw [if_pos h] at hkey
    have e : armsAt k r j = rcCodes (armsAt k r' j') :=
      packL_inj hc (rcCodes_codes hc') (by rw [rcCodes_length]; exact hlen) hkey
    have e' : armsAt k r' j' = armsAt k r j := by
      rw [← rcCodes_rcCodes (armsAt k r' j'), ← e, hself]
    rw [e', hself]
  · rw [if_neg h] at hkey
    have e : armsAt k r j = armsAt k r' j' := packL_inj hc hc' hlen hkey
    rw [← e, hself]

end SkaModel
