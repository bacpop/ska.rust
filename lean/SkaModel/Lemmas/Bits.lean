/-
Arithmetic view of the W-bit shift/mask operations: a shift that fits is a
multiplication by a power of four, `|||` of disjoint fields is a sum, a mask of
`h` base pairs is a remainder.
-/
import SkaModel.Impl.Bits

namespace SkaModel

theorem k_eq_of_odd {k : Nat} (hodd : k % 2 = 1) : k = 2 * halfK k + 1 := by
  unfold halfK; omega

theorem four_pow (n : Nat) : 4 ^ n = 2 ^ (2 * n) := by
  rw [Nat.pow_mul]

theorem four_pow_le_of {n W : Nat} (h : 2 * n ≤ W) : 4 ^ n ≤ 2 ^ W := by
  rw [four_pow]; exact Nat.pow_le_pow_right (by omega) h

theorem mul_add_inj {a a' b b' P : Nat} (hb : b < P) (hb' : b' < P)
    (h : a * P + b = a' * P + b') : a = a' ∧ b = b' := by
  have hP : 0 < P := by omega
  have h1 : (a * P + b) / P = (a' * P + b') / P := by rw [h]
  rw [Nat.mul_comm a, Nat.mul_comm a', Nat.mul_add_div hP, Nat.mul_add_div hP,
    Nat.div_eq_of_lt hb, Nat.div_eq_of_lt hb'] at h1
  have : a = a' := by omega
  subst this
  exact ⟨rfl, by omega⟩

theorem shl_of_lt {W x n : Nat} (h : x <<< n < 2 ^ W) : shl W x n = x <<< n := by
  unfold shl
  exact Nat.mod_eq_of_lt h

theorem shl_eq_mul {W x n : Nat} (h : x * 2 ^ n < 2 ^ W) : shl W x n = x * 2 ^ n := by
  rw [shl_of_lt (by rwa [Nat.shiftLeft_eq]), Nat.shiftLeft_eq]

theorem shl_one (W n : Nat) (h : n < W) : shl W 1 n = 2 ^ n := by
  rw [shl_eq_mul, Nat.one_mul]
  rw [Nat.one_mul]
  exact Nat.pow_lt_pow_right (by omega) h

theorem shl_two {W x m : Nat} (hx : x < 4 ^ m) (hW : 2 * (m + 1) ≤ W) : shl W x 2 = 4 * x := by
  rw [shl_eq_mul]
  · omega
  · have : 4 ^ (m + 1) ≤ 2 ^ W := four_pow_le_of hW
    rw [Nat.pow_succ] at this
    omega

theorem shl_four_pow {W x h m : Nat} (hx : x < 4 ^ m) (hW : 2 * (m + h) ≤ W) :
    shl W x (h * 2) = x * 4 ^ h := by
  rw [four_pow, Nat.mul_comm 2 h]
  apply shl_eq_mul
  rw [Nat.mul_comm h 2, ← four_pow]
  calc x * 4 ^ h < 4 ^ m * 4 ^ h := Nat.mul_lt_mul_of_pos_right hx (Nat.pow_pos (by omega))
    _ = 4 ^ (m + h) := (Nat.pow_add _ _ _).symm
    _ ≤ 2 ^ W := four_pow_le_of hW

theorem shr_four_pow (x h : Nat) : x >>> (2 * h) = x / 4 ^ h := by
  rw [Nat.shiftRight_eq_div_pow, four_pow]

theorem shr_two (x : Nat) : x >>> 2 = x / 4 := by
  rw [Nat.shiftRight_eq_div_pow]

theorem or_code {a c : Nat} (hc : c < 4) : 4 * a ||| c = 4 * a + c := by
  rw [show 4 * a = a <<< 2 by rw [Nat.shiftLeft_eq]; omega,
    ← Nat.shiftLeft_add_eq_or_of_lt (i := 2) (by omega)]

theorem mul_pow_or {a b n : Nat} (hb : b < 2 ^ n) : a * 2 ^ n ||| b = a * 2 ^ n + b := by
  rw [← Nat.shiftLeft_eq, ← Nat.shiftLeft_add_eq_or_of_lt hb]

theorem mul_four_pow_or {a b n : Nat} (hb : b < 4 ^ n) : a * 4 ^ n ||| b = a * 4 ^ n + b := by
  rw [four_pow] at *
  exact mul_pow_or hb

theorem or_mul_four_pow (a b h : Nat) : a * 4 ^ h ||| b * 4 ^ h = (a ||| b) * 4 ^ h := by
  rw [four_pow, ← Nat.shiftLeft_eq, ← Nat.shiftLeft_eq, ← Nat.shiftLeft_eq,
    Nat.shiftLeft_or_distrib]

theorem and_three (x : Nat) : x &&& 3 = x % 4 :=
  Nat.and_two_pow_sub_one_eq_mod x 2

theorem and_lowMask (x h : Nat) : x &&& (4 ^ h - 1) = x % 4 ^ h := by
  rw [four_pow]; exact Nat.and_two_pow_sub_one_eq_mod x _

theorem and_upMask (x h : Nat) :
    x &&& ((4 ^ h - 1) * 4 ^ h) = (x / 4 ^ h % 4 ^ h) * 4 ^ h := by
  rw [four_pow]
  apply Nat.eq_of_testBit_eq
  intro i
  rw [← Nat.shiftLeft_eq, ← Nat.shiftLeft_eq, ← Nat.shiftRight_eq_div_pow,
    ← Nat.and_two_pow_sub_one_eq_mod]
  simp only [Nat.testBit_and, Nat.testBit_shiftLeft, Nat.testBit_shiftRight]
  by_cases hi : i ≥ 2 * h
  · simp [hi, show 2 * h + (i - 2 * h) = i by omega]
  · simp [hi]

theorem shl_one_sub_one (W n : Nat) (h : n * 2 < W) : shl W 1 (n * 2) - 1 = 4 ^ n - 1 := by
  rw [shl_one W _ h, four_pow, Nat.mul_comm]

theorem lowerMask_eq (W k : Nat) (h : halfK k * 2 < W) : lowerMask W k = 4 ^ halfK k - 1 :=
  shl_one_sub_one W _ h

theorem skaloMask_eq (W n : Nat) (h : n * 2 < W) : skaloMask W n = 4 ^ n - 1 :=
  shl_one_sub_one W n h

theorem upperMask_eq (W k : Nat) (h : halfK k * 4 ≤ W) (hk : 0 < halfK k) :
    upperMask W k = (4 ^ halfK k - 1) * 4 ^ halfK k := by
  unfold upperMask
  rw [lowerMask_eq W k (by omega)]
  exact shl_four_pow (m := halfK k) (by have := Nat.pow_pos (n := halfK k) (by omega : 0 < 4); omega)
    (by omega)

end SkaModel
