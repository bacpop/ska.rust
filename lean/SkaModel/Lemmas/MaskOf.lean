/-
`Spec.maskOf`: bit by bit, on `[]`, `::` and `++`, and that it depends only on the set of
observations; membership in `Spec.observations`; records that contribute the same observations.
The general lemmas on `Spec.Pointwise` (`of_getElem`, `refl`, `mono_mem`) are here too:
`Spec/Transforms.lean` only defines the relation, and this is the lowest module that
imports it.
-/
import SkaModel.Spec.Transforms
import SkaModel.Lemmas.Windows

namespace SkaModel

open SkaModel.Spec

theorem foldl_or_testBit (l : List (Nat × Nat)) (m0 i : Nat) :
    (l.foldl (fun m o => m ||| o.2) m0).testBit i
      = (m0.testBit i || l.any (fun o => o.2.testBit i)) := by
  induction l generalizing m0 with
  | nil => simp
  | cons a l ih => simp [List.foldl_cons, ih, Nat.testBit_or, Bool.or_assoc]

theorem maskOf_testBit (obs : List (Nat × Nat)) (key i : Nat) :
    (maskOf obs key).testBit i = obs.any (fun o => o.1 == key && o.2.testBit i) := by
  unfold maskOf
  rw [foldl_or_testBit]
  simp [List.any_filter]

theorem maskOf_append (a b : List (Nat × Nat)) (key : Nat) :
    maskOf (a ++ b) key = maskOf a key ||| maskOf b key := by
  apply Nat.eq_of_testBit_eq
  intro i
  rw [Nat.testBit_or, maskOf_testBit, maskOf_testBit, maskOf_testBit, List.any_append]

theorem maskOf_congr_mem {a b : List (Nat × Nat)} (h : ∀ o, o ∈ a ↔ o ∈ b) (key : Nat) :
    maskOf a key = maskOf b key := by
  apply Nat.eq_of_testBit_eq
  intro i
  rw [maskOf_testBit, maskOf_testBit, Bool.eq_iff_iff, List.any_eq_true, List.any_eq_true]
  exact exists_congr fun o => and_congr_left' (h o)

theorem maskOf_nil (key : Nat) : maskOf [] key = 0 := rfl

theorem maskOf_singleton (o : Nat × Nat) (key : Nat) :
    maskOf [o] key = if o.1 = key then o.2 else 0 := by
  unfold maskOf
  by_cases h : o.1 = key
  · rw [if_pos h, List.filter_cons_of_pos (p := fun x : Nat × Nat => x.1 == key) (a := o)
      (beq_iff_eq.2 h)]
    exact Nat.zero_or _
  · rw [if_neg h, List.filter_cons_of_neg (p := fun x : Nat × Nat => x.1 == key) (a := o)
      (fun e => h (beq_iff_eq.1 e))]
    rfl

theorem maskOf_cons (o : Nat × Nat) (os : List (Nat × Nat)) (key : Nat) :
    maskOf (o :: os) key = if o.1 = key then o.2 ||| maskOf os key else maskOf os key := by
  rw [← List.singleton_append, maskOf_append, maskOf_singleton]
  split
  · rfl
  · exact Nat.zero_or _

theorem maskOf_snoc (os : List (Nat × Nat)) (o : Nat × Nat) (key : Nat) :
    maskOf (os ++ [o]) key = if o.1 = key then maskOf os key ||| o.2 else maskOf os key := by
  rw [maskOf_append, maskOf_singleton]
  split
  · rfl
  · exact Nat.or_zero _

theorem maskOf_ne_zero_of_mem {os : List (Nat × Nat)} {o : Nat × Nat} (hm : o ∈ os)
    (h0 : o.2 ≠ 0) : maskOf os o.1 ≠ 0 := by
  -- a bit set in `o.2` is set in the mask
  obtain ⟨i, hi⟩ := Nat.exists_testBit_of_ne_zero h0
  intro hz
  have := maskOf_testBit os o.1 i
  rw [hz, Nat.zero_testBit, eq_comm, List.any_eq_false] at this
  exact this o hm (by rw [beq_self_eq_true, hi]; rfl)

theorem maskOf_eq_zero_of_not_mem {os : List (Nat × Nat)} {key : Nat}
    (h : ∀ o ∈ os, o.1 ≠ key) : maskOf os key = 0 := by
  unfold maskOf
  rw [List.filter_eq_nil_iff.2 fun o ho => by simpa using h o ho]
  rfl

theorem observations_nil (k : Nat) (rc : Bool) : observations k rc [] = [] := rfl

theorem observations_append (k : Nat) (rc : Bool) (a b : List (Array UInt8)) :
    observations k rc (a ++ b) = observations k rc a ++ observations k rc b := by
  unfold observations
  rw [List.flatMap_append]

theorem observations_cons (k : Nat) (rc : Bool) (r : Array UInt8) (rs : List (Array UInt8)) :
    observations k rc (r :: rs) = observations k rc [r] ++ observations k rc rs :=
  observations_append k rc [r] rs

theorem observations_single (k : Nat) (rc : Bool) (r : Array UInt8) :
    observations k rc [r]
      = (windows k r).map (fun j => ((obs k rc r j).1, obsMask k rc r j)) := by
  simp [observations]

theorem mem_observations_single (k : Nat) (rc : Bool) (r : Array UInt8) (o : Nat × Nat) :
    o ∈ observations k rc [r]
      ↔ ∃ j, j ∈ windows k r ∧ ((obs k rc r j).1, obsMask k rc r j) = o := by
  rw [observations_single, List.mem_map]

theorem mem_observations (k : Nat) (rc : Bool) (recs : List (Array UInt8)) (o : Nat × Nat) :
    o ∈ observations k rc recs ↔ ∃ r, r ∈ recs ∧ o ∈ observations k rc [r] := by
  simp only [observations, List.mem_flatMap, List.flatMap_cons, List.flatMap_nil, List.append_nil]

def SameObs (k : Nat) (rc : Bool) (a b : Array UInt8) : Prop :=
  ∀ o, o ∈ observations k rc [a] ↔ o ∈ observations k rc [b]

theorem SameObs.refl (k : Nat) (rc : Bool) (a : Array UInt8) : SameObs k rc a a :=
  fun _ => Iff.rfl

theorem Spec.Pointwise.of_getElem {α β : Type} {R : α → β → Prop} :
    ∀ {l : List α} {l' : List β} (hlen : l'.length = l.length),
      (∀ i (h : i < l.length), R l[i] (l'[i]'(hlen ▸ h))) → Pointwise R l l'
  | [], [], _, _ => Pointwise.nil
  | [], _ :: _, hlen, _ => by simp at hlen
  | _ :: _, [], hlen, _ => by simp at hlen
  | a :: l, b :: l', hlen, h => by
    refine Pointwise.cons (h 0 (by simp)) (Pointwise.of_getElem (by simpa using hlen) ?_)
    intro i hi
    exact h (i + 1) (by simpa using hi)

theorem Spec.Pointwise.refl {α : Type} {R : α → α → Prop} (hrefl : ∀ a, R a a) :
    ∀ l : List α, Pointwise R l l
  | [] => Pointwise.nil
  | a :: l => Pointwise.cons (hrefl a) (Pointwise.refl hrefl l)

theorem Spec.Pointwise.mono_mem {α β : Type} {R S : α → β → Prop} {l : List α} {l' : List β}
    (h : Pointwise R l l') : (∀ a, a ∈ l → ∀ b, R a b → S a b) → Pointwise S l l' := by
  induction h with
  | nil => intro _; exact Pointwise.nil
  | cons hab _ ih =>
    intro hm
    exact Pointwise.cons (hm _ List.mem_cons_self _ hab)
      (ih (fun a ha => hm a (List.mem_cons_of_mem _ ha)))

theorem observations_mem_congr {k : Nat} {rc : Bool} {recs recs' : List (Array UInt8)}
    (h : Pointwise (SameObs k rc) recs recs') :
    ∀ o, o ∈ observations k rc recs ↔ o ∈ observations k rc recs' := by
  induction h with
  | nil => intro o; exact Iff.rfl
  | @cons a b l l' hab _ ih =>
    intro o
    rw [observations_cons k rc a l, observations_cons k rc b l',
      List.mem_append, List.mem_append, hab o, ih o]

theorem maskFor_congr {k : Nat} {rc : Bool} {recs recs' : List (Array UInt8)}
    (h : Pointwise (SameObs k rc) recs recs') (key : Nat) :
    maskFor k rc recs key = maskFor k rc recs' key :=
  maskOf_congr_mem (observations_mem_congr h) key

end SkaModel
