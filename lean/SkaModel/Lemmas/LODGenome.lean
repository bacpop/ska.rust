/-
C17 (second sentence) — the reference as the program keeps it (`genomeBytes`: whitespace removed, upper case):
an A/C/G/T sequence is kept, its lower-case copy gives the same bytes.
-/
import SkaModel.Lemmas.LODDefs
import SkaModel.Lemmas.LOCStr

namespace SkaModel.LOD

open SkaModel SkaModel.Spec SkaModel.Props.C16 SkaModel.Skalo SkaModel.LOC

theorem genomeBytes_map {A : List UInt8} (h : AllBase A) (f : UInt8 → UInt8)
    (hf : ∀ b, isBase b = true → genomeBytes [f b] = [b]) : genomeBytes (A.map f) = A := by
  induction A with
  | nil => rfl
  | cons b rest ih =>
    have e : genomeBytes (f b :: rest.map f) = genomeBytes [f b] ++ genomeBytes (rest.map f) := by
      unfold genomeBytes
      rw [← List.map_append, ← List.filter_append]
      rfl
    rw [List.map_cons, e, hf b (h b (List.mem_cons_self ..)), ih fun x hx => h x (List.mem_cons_of_mem _ hx)]
    rfl

theorem genomeBytes_base {A : List UInt8} (h : AllBase A) : genomeBytes A = A := by
  have := genomeBytes_map h id fun b hb => by rcases isBase_cases hb with rfl | rfl | rfl | rfl <;> decide
  rwa [List.map_id] at this

theorem genomeBytes_lower {A : List UInt8} (h : AllBase A) : genomeBytes (lowerSeq A) = A :=
  genomeBytes_map h _ fun b hb => by rcases isBase_cases hb with rfl | rfl | rfl | rfl <;> decide

theorem ancShown_of_B {A : List UInt8} {S : List (List UInt8)} {P : List Nat} (h : ancShownB A S P = true) :
    ∀ p ∈ P, ∃ s ∈ S, s.getD p 0 = A.getD p 0 := by
  unfold ancShownB at h
  simp only [List.all_eq_true, List.any_eq_true, beq_iff_eq] at h
  exact h

theorem refCompleteOn_of (W k n mNum mDen ik maxDepth : Nat) (a : Arr) (genome : List UInt8)
    (truth : List (Nat × List UInt8))
    (h : ∃ placed, loRef W k n mNum mDen ik maxDepth a genome = some (placed, []) ∧ placed.Perm truth) :
    refCompleteOn W k n mNum mDen ik maxDepth a genome truth = true := by
  obtain ⟨placed, h1, h2⟩ := h
  unfold refCompleteOn
  rw [h1]
  exact List.isPerm_iff.mpr h2

end SkaModel.LOD
