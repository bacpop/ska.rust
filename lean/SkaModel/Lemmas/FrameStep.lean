/-
One-chunk step function for the Snappy frame decoder `unframeFrom`: the equation relating the
two, what a step does with its input (it consumes exactly the chunk, and reading more input
changes nothing unless it had run out of input: `Reads`, shown once for the primitive `need` by
which every chunk body is read), the decoder freed of its fuel, and the decoder on a prefix of
its input.
-/
import SkaModel.Impl.Frame

namespace SkaModel.FR

open SkaModel

inductive Step where
  | done
  | err (e : FrameErr)
  | next (rest : List UInt8) (out : List UInt8)
  deriving DecidableEq

def stepSkip (len : Nat) (body : List UInt8) : Step :=
  if body.length < len then .err .eof else .next (body.drop len) []

def stepIdent (len : Nat) (body : List UInt8) : Step :=
  if len != 6 then .err .chunkLength
  else if body.length < len then .err .eof
  else if body.take 6 != STREAM_BODY then .err .headerMismatch
  else .next (body.drop 6) []

/-- data chunk (0x00 compressed, 0x01 uncompressed) -/
def stepData (decomp : List UInt8 → Option (List UInt8)) (ty len : Nat) (body : List UInt8) : Step :=
  if len < 4 then .err .chunkLength
  else if body.length < 4 then .err .eof
  else
    if ty == 0x01 then
      if len - 4 > MAX_BLOCK then .err .chunkLength
      else if (body.drop 4).length < len - 4 then .err .eof
      else if crc32cMasked ((body.drop 4).take (len - 4)) != leNat (body.take 4) then .err .checksum
      else .next ((body.drop 4).drop (len - 4)) ((body.drop 4).take (len - 4))
    else
      if (body.drop 4).length < len - 4 then .err .eof
      else match decomp ((body.drop 4).take (len - 4)) with
        | none => .err .decompress
        | some out =>
          if crc32cMasked out != leNat (body.take 4) then .err .checksum
          else .next ((body.drop 4).drop (len - 4)) out

def stepBody (decomp : List UInt8 → Option (List UInt8)) (seen : Bool) (ty len : Nat)
    (body : List UInt8) : Step :=
  if !seen && ty != 0xFF then .err .streamHeader
  else if len > MAX_COMPRESS_BLOCK then .err .chunkLength
  else if 0x02 ≤ ty && ty ≤ 0x7F then .err .chunkType
  else if (0x80 ≤ ty && ty ≤ 0xFD) || ty == 0xFE then stepSkip len body
  else if ty == 0xFF then stepIdent len body
  else stepData decomp ty len body

def step (decomp : List UInt8 → Option (List UInt8)) (seen : Bool) (input : List UInt8) : Step :=
  if input.isEmpty then .done
  else if input.length < 4 then .err .eof
  else stepBody decomp seen (input.getD 0 0).toNat (leNat ((input.drop 1).take 3)) (input.drop 4)

def Step.cont (k : List UInt8 → List UInt8 → Except FrameErr (List UInt8)) (acc : List UInt8) :
    Step → Except FrameErr (List UInt8)
  | .done => .ok acc
  | .err e => .error e
  | .next rest out => k rest (acc ++ out)

@[simp] theorem Step.cont_done (k acc) : Step.cont k acc .done = .ok acc := rfl
@[simp] theorem Step.cont_err (k acc e) : Step.cont k acc (.err e) = .error e := rfl
@[simp] theorem Step.cont_next (k acc rest out) : Step.cont k acc (.next rest out) = k rest (acc ++ out) := rfl

variable (decomp : List UInt8 → Option (List UInt8))

theorem unframeFrom_succ (fuel : Nat) (seen : Bool)
    (input acc : List UInt8) :
    unframeFrom decomp (fuel + 1) seen input acc =
      (step decomp seen input).cont (unframeFrom decomp fuel true) acc := by
  rw [unframeFrom]
  generalize unframeFrom decomp fuel true = k
  -- both sides are the same cascade of tests; `Step.cont` moves to its leaves
  cases hd : decomp (List.take (leNat (List.take 3 (List.drop 1 input)) - 4)
      (List.drop 4 (List.drop 4 input))) <;>
    simp only [step, stepBody, stepSkip, stepIdent, stepData, hd, apply_ite (Step.cont k acc),
      Step.cont_done, Step.cont_err, Step.cont_next, List.append_nil]

def Step.Chunked (len : Nat) (body : List UInt8) (s : Step) : Prop :=
  (∃ e, s = .err e) ∨ (len ≤ body.length ∧ ∃ out, s = .next (body.drop len) out)

def Step.extend (t : List UInt8) : Step → Step
  | .next rest out => .next (rest ++ t) out
  | s => s

structure Reads (n : Nat) (f : List UInt8 → Step) : Prop where
  chunked : ∀ body, (f body).Chunked n body
  append : ∀ body t, f body = .err .eof ∨ f (body ++ t) = (f body).extend t

theorem Reads.err (n : Nat) (e : FrameErr) : Reads n (fun _ => .err e) :=
  ⟨fun _ => .inl ⟨e, rfl⟩, fun _ _ => .inr rfl⟩

theorem Reads.next (out : List UInt8) : Reads 0 (fun b => .next b out) :=
  ⟨fun _ => .inr ⟨Nat.zero_le _, out, rfl⟩, fun _ _ => .inr rfl⟩

theorem Reads.ite {n : Nat} {f g : List UInt8 → Step} {c : Prop} [Decidable c]
    (hf : c → Reads n f) (hg : ¬ c → Reads n g) : Reads n (fun b => if c then f b else g b) := by
  by_cases h : c
  · simp only [if_pos h]
    exact hf h
  · simp only [if_neg h]
    exact hg h

def need (n : Nat) (k : List UInt8 → List UInt8 → Step) (b : List UInt8) : Step :=
  if b.length < n then .err .eof else k (b.take n) (b.drop n)

theorem need_exact (k : List UInt8 → List UInt8 → Step) {n : Nat} (a r : List UInt8) (h : a.length = n) :
    need n k (a ++ r) = k a r := by
  subst h
  unfold need
  rw [if_neg (by simp), List.take_left, List.drop_left]

theorem Reads.need {n m l : Nat} {k : List UInt8 → List UInt8 → Step} (h : ∀ a, Reads m (k a))
    (e : n + m = l) : Reads l (need n k) := by
  subst e
  constructor
  · intro body
    unfold FR.need
    split
    · exact .inl ⟨_, rfl⟩
    rcases (h (body.take n)).chunked (body.drop n) with he | ⟨hl, out, ho⟩
    · exact .inl he
    · rw [List.length_drop] at hl
      rw [List.drop_drop] at ho
      exact .inr ⟨by omega, out, ho⟩
  · intro body t
    unfold FR.need
    by_cases hn : body.length < n
    · exact .inl (if_pos hn)
    · have hn' : ¬ (body ++ t).length < n := by rw [List.length_append]; omega
      rw [if_neg hn, if_neg hn', List.take_append_of_le_length (Nat.le_of_not_lt hn),
        List.drop_append_of_le_length (Nat.le_of_not_lt hn)]
      exact (h _).append _ t

theorem stepSkip_reads (len : Nat) : Reads len (stepSkip len) :=
  Reads.need (k := fun _ rest => .next rest []) (fun _ => .next []) rfl

theorem stepIdent_reads (len : Nat) : Reads len (stepIdent len) := by
  by_cases h6 : len = 6
  · subst h6
    exact Reads.need (k := fun a rest => if a != STREAM_BODY then .err .headerMismatch else .next rest [])
      (fun _ => .ite (fun _ => .err _ _) fun _ => .next []) rfl
  · have : stepIdent len = fun _ => .err .chunkLength :=
      funext fun _ => if_pos (by simpa using h6)
    rw [this]
    exact .err _ _

/-- what is done with the content of a data chunk once its bytes are there -/
def checkData (crc rest : List UInt8) : Option (List UInt8) → Step
  | none => .err .decompress
  | some out => if crc32cMasked out != leNat crc then .err .checksum else .next rest out

theorem checkData_bad {crc rest out : List UInt8} (h : crc32cMasked out ≠ leNat crc) :
    checkData crc rest (some out) = .err .checksum := by
  rw [checkData, if_pos (bne_iff_ne.mpr h)]

theorem checkData_reads (crc : List UInt8) (o : Option (List UInt8)) :
    Reads 0 (fun rest => checkData crc rest o) := by
  cases o with
  | none => exact .err 0 .decompress
  | some out =>
    show Reads 0 (fun rest => if crc32cMasked out != leNat crc then .err .checksum else .next rest out)
    exact .ite (fun _ => .err _ _) fun _ => .next out

theorem stepData_eq (ty len : Nat) : stepData decomp ty len =
    fun body => if len < 4 then .err .chunkLength else
      need 4 (fun crc rest => if ty == 1 then
          if len - 4 > MAX_BLOCK then .err .chunkLength
          else need (len - 4) (fun data rest' => checkData crc rest' (some data)) rest
        else need (len - 4) (fun data rest' => checkData crc rest' (decomp data)) rest) body :=
  rfl

theorem stepData_reads (ty len : Nat) : Reads len (stepData decomp ty len) := by
  rw [stepData_eq]
  refine .ite (fun _ => .err _ _) fun h4 => Reads.need (m := len - 4) (fun crc => ?_) (by omega)
  exact .ite
    (fun _ => .ite (fun _ => .err _ _) fun _ => Reads.need (fun _ => checkData_reads crc _) rfl)
    (fun _ => Reads.need (fun _ => checkData_reads crc _) rfl)

theorem stepBody_reads (seen : Bool) (ty len : Nat) : Reads len (stepBody decomp seen ty len) :=
  .ite (fun _ => .err _ _) fun _ => .ite (fun _ => .err _ _) fun _ => .ite (fun _ => .err _ _) fun _ =>
    .ite (fun _ => stepSkip_reads len) fun _ => .ite (fun _ => stepIdent_reads len) fun _ =>
      stepData_reads decomp ty len

theorem stepBody_data {ty len : Nat}
    (hty : ty = 0 ∨ ty = 1) (hl : len ≤ MAX_COMPRESS_BLOCK) (body : List UInt8) :
    stepBody decomp true ty len body = stepData decomp ty len body := by
  unfold stepBody
  rcases hty with rfl | rfl <;>
    rw [if_neg (by decide), if_neg (Nat.not_lt.mpr hl), if_neg (by decide), if_neg (by decide),
      if_neg (by decide)]

theorem stepBody_skip {ty len : Nat}
    (h1 : 0x80 ≤ ty) (h2 : ty ≤ 0xFE) (hl : len ≤ MAX_COMPRESS_BLOCK) (body : List UInt8) :
    stepBody decomp true ty len body = stepSkip len body := by
  unfold stepBody
  rw [if_neg (by simp), if_neg (Nat.not_lt.mpr hl), if_neg (by simp; omega), if_pos (by simp; omega)]

theorem stepBody_ident (seen : Bool) (len : Nat)
    (body : List UInt8) :
    stepBody decomp seen 255 len body =
      if len > MAX_COMPRESS_BLOCK then .err .chunkLength else stepIdent len body := by
  unfold stepBody
  rw [if_neg (by simp)]
  split
  · rfl
  · rw [if_neg (by decide), if_neg (by decide), if_pos (by decide)]

theorem step_nil (seen : Bool) :
    step decomp seen [] = .done := rfl

theorem step_short (seen : Bool) {p : List UInt8}
    (h0 : p ≠ []) (h : p.length < 4) : step decomp seen p = .err .eof := by
  unfold step
  rw [if_neg (by simpa using h0), if_pos h]

theorem step_cons4 (seen : Bool) (a b c d : UInt8)
    (body : List UInt8) :
    step decomp seen (a :: b :: c :: d :: body) = stepBody decomp seen a.toNat (leNat [b, c, d]) body := by
  unfold step
  rw [if_neg (by simp), if_neg (by simp)]
  rfl

theorem step_cases (seen : Bool) (input : List UInt8) :
    (input = [] ∧ step decomp seen input = .done) ∨ (∃ e, step decomp seen input = .err e) ∨
      (4 + leNat ((input.drop 1).take 3) ≤ input.length ∧
        ∃ out, step decomp seen input = .next (input.drop (4 + leNat ((input.drop 1).take 3))) out) := by
  unfold step
  split
  · exact .inl ⟨by simpa using ‹input.isEmpty = true›, rfl⟩
  split
  · exact .inr (.inl ⟨_, rfl⟩)
  rcases (stepBody_reads decomp seen (input.getD 0 0).toNat (leNat ((input.drop 1).take 3))).chunked
    (input.drop 4) with h | ⟨hl, h⟩
  · exact .inr (.inl h)
  · rw [List.length_drop] at hl
    rw [List.drop_drop] at h
    exact .inr (.inr ⟨by omega, h⟩)

variable {decomp} in
theorem step_done_iff {seen : Bool} {input : List UInt8} :
    step decomp seen input = .done ↔ input = [] := by
  constructor
  · intro h
    rcases step_cases decomp seen input with h' | ⟨e, h'⟩ | ⟨_, out, h'⟩
    · exact h'.1
    · rw [h'] at h; cases h
    · rw [h'] at h; cases h
  · intro h; subst h; rfl

variable {decomp} in
theorem step_next_length {seen : Bool} {input rest out : List UInt8}
    (h : step decomp seen input = .next rest out) : rest.length < input.length := by
  rcases step_cases decomp seen input with h' | ⟨e, h'⟩ | ⟨hl, out', h'⟩
  · rw [h'.2] at h; cases h
  · rw [h'] at h; cases h
  · rw [h'] at h
    injection h with h1 _
    rw [← h1, List.length_drop]
    omega

theorem step_append (seen : Bool) {p : List UInt8}
    (h0 : p ≠ []) (t : List UInt8) :
    step decomp seen p = .err .eof ∨ step decomp seen (p ++ t) = (step decomp seen p).extend t := by
  by_cases h4 : p.length < 4
  · exact .inl (step_short decomp seen h0 h4)
  match p, h4 with
  | a :: b :: c :: d :: body, _ =>
    rw [List.cons_append, List.cons_append, List.cons_append, List.cons_append, step_cons4, step_cons4]
    exact (stepBody_reads decomp seen a.toNat (leNat [b, c, d])).append body t
  | [], h4 | [_], h4 | [_, _], h4 | [_, _, _], h4 => exact absurd (by simp) h4

theorem unframeFrom_fuel :
    ∀ (f1 f2 : Nat) (seen : Bool) (input acc : List UInt8),
      input.length < f1 → input.length < f2 →
      unframeFrom decomp f1 seen input acc = unframeFrom decomp f2 seen input acc := by
  intro f1
  induction f1 with
  | zero => intro f2 seen input acc h; omega
  | succ f1 ih =>
    intro f2 seen input acc h1 h2
    cases f2 with
    | zero => omega
    | succ f2 =>
      rw [unframeFrom_succ, unframeFrom_succ]
      cases hs : step decomp seen input with
      | done => rfl
      | err e => rfl
      | next rest out =>
        have := step_next_length hs
        simp only [Step.cont_next]
        exact ih f2 true rest (acc ++ out) (by omega) (by omega)

/-- the decoder with exactly the fuel `unframe` gives it -/
def run (seen : Bool) (input acc : List UInt8) :
    Except FrameErr (List UInt8) :=
  unframeFrom decomp (input.length + 1) seen input acc

theorem unframe_eq_run (file : List UInt8) :
    unframe decomp file = run decomp false file [] := rfl

theorem run_eq (seen : Bool) (input acc : List UInt8) :
    run decomp seen input acc = (step decomp seen input).cont (run decomp true) acc := by
  unfold run
  rw [unframeFrom_succ]
  cases hs : step decomp seen input with
  | done => rfl
  | err e => rfl
  | next rest out =>
    simp only [Step.cont_next]
    exact unframeFrom_fuel decomp _ _ _ _ _ (step_next_length hs) (Nat.lt_succ_self _)

section
variable {decomp}

theorem run_done {seen : Bool} {input : List UInt8} (acc : List UInt8)
    (h : step decomp seen input = .done) : run decomp seen input acc = .ok acc := by
  rw [run_eq, h]; rfl

theorem run_err {seen : Bool} {input : List UInt8} {e : FrameErr} (acc : List UInt8)
    (h : step decomp seen input = .err e) : run decomp seen input acc = .error e := by
  rw [run_eq, h]; rfl

theorem run_next {seen : Bool} {input rest out : List UInt8} (acc : List UInt8)
    (h : step decomp seen input = .next rest out) :
    run decomp seen input acc = run decomp true rest (acc ++ out) := by
  rw [run_eq, h]; rfl

end

theorem run_acc (seen : Bool) (input acc : List UInt8) :
    run decomp seen input acc = (run decomp seen input []).map (acc ++ ·) := by
  cases hs : step decomp seen input with
  | done => rw [run_done acc hs, run_done [] hs]; simp [Except.map]
  | err e => rw [run_err acc hs, run_err [] hs]; rfl
  | next rest out =>
    rw [run_next acc hs, run_next [] hs, run_acc true rest (acc ++ out),
      run_acc true rest ([] ++ out)]
    cases run decomp true rest [] with
    | error e => rfl
    | ok v => simp [Except.map]
termination_by input.length
decreasing_by all_goals exact step_next_length hs

section
variable {decomp}

theorem run_error_acc {seen : Bool} {input : List UInt8} {e : FrameErr} (acc : List UInt8)
    (h : run decomp seen input [] = .error e) : run decomp seen input acc = .error e := by
  rw [run_acc, h]; rfl

theorem run_ok_inv {seen : Bool} {input acc bytes : List UInt8}
    (h : run decomp seen input acc = .ok bytes) :
    ∃ b, run decomp seen input [] = .ok b ∧ bytes = acc ++ b := by
  rw [run_acc] at h
  cases hr : run decomp seen input [] with
  | error e => rw [hr] at h; cases h
  | ok b =>
    rw [hr] at h
    injection h with h
    exact ⟨b, rfl, h.symm⟩

end

theorem run_append (t : List UInt8) (seen : Bool) (p acc : List UInt8) :
    run decomp seen p [] = .error .eof ∨
      run decomp seen (p ++ t) acc =
        (run decomp seen p []).bind (fun b => run decomp (seen || !p.isEmpty) t (acc ++ b)) := by
  by_cases h0 : p = []
  · subst h0
    rw [run_done [] (step_nil _ _)]
    exact .inr (by simp [Except.bind])
  have hne : (seen || !p.isEmpty) = true := by
    cases p with
    | nil => exact absurd rfl h0
    | cons _ _ => simp
  rcases step_append decomp seen h0 t with he | hs
  · exact .inl (run_err [] he)
  cases hp : step decomp seen p with
  | done => exact absurd (step_done_iff.mp hp) h0
  | err e =>
    rw [hp] at hs
    rw [run_err acc hs, run_err [] hp]
    exact .inr rfl
  | next p' out =>
    rw [hp] at hs
    rw [run_next acc hs, run_next [] hp, hne]
    rcases run_append t true p' (acc ++ out) with he | h
    · exact .inl (run_error_acc _ he)
    · rw [h, run_acc decomp true p' ([] ++ out)]
      right
      cases run decomp true p' [] <;>
        simp only [Except.map, Except.bind, Bool.true_or, List.nil_append, List.append_assoc]
termination_by p.length
decreasing_by exact step_next_length hp

end SkaModel.FR
