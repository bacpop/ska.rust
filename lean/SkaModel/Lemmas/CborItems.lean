/-
Element parsers of the `.skf` CBOR layer as prefix-safe parsers: split k-mers at
both integer widths, sequences (`parseMany`, `parseArray`), row chunking, and
the UTF-8 round trip of sample names.
-/
import SkaModel.Lemmas.CborSpec

namespace SkaModel.CB

open SkaModel SkaModel.Cbor

/-- what `parseKmer W` makes of the encoding of `x < 2^128` -/
def kmerRes (W x : Nat) : Option Nat := if x < 2 ^ 64 ∨ W = 128 then some x else none

theorem parseHead_c2 (l : List UInt8) : parseHead (0xc2 :: l) = some (6, 2, l) := by
  rw [parseHead_cons]; rfl

theorem parseKmer_c2 (W : Nat) (l : List UInt8) : parseKmer W (0xc2 :: l) =
    if W != 128 then none else
    match parseHead l with
    | some (2, len, rest') =>
      if len > 16 || rest'.length < len then none
      else some (beNat (rest'.take len), rest'.drop len)
    | _ => none := by
  simp only [parseKmer, parseHead_c2]; rfl

/-- A k-mer below `2 ^ 64` is a plain integer.  A larger one is the tag byte `0xc2`, after which
the width is tested, the head of a byte string, and the bytes: two steps of `Spec.seq` down to
`spec_bytes`. -/
theorem spec_kmer (W x : Nat) (hx : x < 2 ^ 128) : Spec (parseKmer W) (kmer x) (kmerRes W x) := by
  unfold kmer kmerRes
  by_cases hs : x < 2 ^ 64
  · rw [if_pos hs, if_pos (Or.inl hs)]
    exact ⟨fun rest => by simp only [parseKmer, uint, parseHead_head 0 x rest (by decide) hs, Option.map_some],
      fun q t hq ht => by simp only [parseKmer, parseHead_prefix 0 x q t (by decide) hs hq ht]⟩
  · have hlen : (minBe x).length < 2 ^ 64 := Nat.lt_of_le_of_lt (minBe_length_le x) (by decide)
    rw [if_neg hs, List.append_assoc]
    refine Spec.seq (k := fun l => parseKmer W (0xc2 :: l)) (fun _ => rfl) (fun q a h1 h2 => ?_) ?_
    · cases q with
      | nil => rfl
      | cons c q => exact absurd (List.append_eq_nil_iff.1 (List.cons.inj h1).2).2 h2
    by_cases hW : W = 128
    · have hb := spec_bytes (minBe x) beNat
      rw [beNat_minBe x hx] at hb
      rw [if_pos (Or.inr hW)]
      refine Spec.seq (fun rest => ?_) (fun q a h1 h2 => ?_) hb
      · rw [parseKmer_c2, if_neg (by simp [hW]), parseHead_head 2 _ rest (by decide) hlen]
        simp [Nat.not_lt.2 (minBe_length_le x)]
      · rw [parseKmer_c2, parseHead_prefix 2 _ q a (by decide) hlen h1 h2, if_neg (by simp [hW])]
    · rw [if_neg (not_or.2 ⟨hs, hW⟩)]
      have hn : ∀ l, parseKmer W (0xc2 :: l) = none := fun l => by rw [parseKmer_c2, if_pos (by simpa using hW)]
      exact ⟨fun rest => hn _, fun q _ _ _ => hn q⟩

theorem mapM_ite {α : Type} (P : α → Prop) [DecidablePred P] (xs : List α) :
    xs.mapM (fun x => if P x then some x else none) = if ∀ x ∈ xs, P x then some xs else none := by
  induction xs with
  | nil => exact (if_pos (fun _ h => nomatch h)).symm
  | cons x xs ih =>
    simp only [List.mapM_cons, ih, List.forall_mem_cons]
    by_cases hx : P x
    · by_cases hxs : ∀ y ∈ xs, P y
      · rw [if_pos hx, if_pos hxs, if_pos ⟨hx, hxs⟩]
        rfl
      · rw [if_pos hx, if_neg hxs, if_neg fun h : P x ∧ _ => hxs h.2]
        rfl
    · rw [if_neg hx, if_neg fun h : P x ∧ _ => hx h.1]
      rfl

theorem Spec.many {α β : Type} {p : Parser β} {e : α → List UInt8} {r : α → Option β} (xs : List α)
    (h : ∀ x ∈ xs, Spec p (e x) (r x)) :
    Spec (parseMany p xs.length) (xs.map e).flatten (xs.mapM r) := by
  induction xs with
  | nil => exact Spec.pure (fun bs => rfl)
  | cons x xs ih =>
    have hx := h x (List.mem_cons_self ..)
    have ih' := ih (fun y hy => h y (List.mem_cons_of_mem _ hy))
    constructor
    · intro rest
      simp only [List.map_cons, List.flatten_cons, List.length_cons, parseMany, List.append_assoc,
        hx.full, List.mapM_cons]
      cases hr : r x with
      | none => rfl
      | some y =>
        simp only [Option.map_some, ih'.full]
        cases xs.mapM r <;> rfl
    · intro q t hq ht
      simp only [List.map_cons, List.flatten_cons] at hq
      rcases cut_cases hq with ⟨a, h1, h2⟩ | ⟨c, h1, h2⟩
      · simp [parseMany, hx.pre q a h1 h2]
      · subst h1
        simp only [List.length_cons, parseMany, hx.full]
        cases hr : r x with
        | none => rfl
        | some y => simp [ih'.pre c t h2 ht]

theorem Spec.array {β : Type} {p : Parser β} {n : Nat} {e : List UInt8} {r : Option (List β)}
    (hn : n < 2 ^ 64) (h : Spec (parseMany p n) e r) : Spec (parseArray p) (Cbor.head 4 n ++ e) r :=
  Spec.seq (fun rest => by simp only [parseArray, parseHead_head 4 n rest (by decide) hn])
    (fun q a h1 h2 => by simp only [parseArray, parseHead_prefix 4 n q a (by decide) hn h1 h2]) h

theorem chunkRows_flatten (rows : List (List UInt8)) (c : Nat) (h : ∀ r ∈ rows, r.length = c) :
    chunkRows rows.length c rows.flatten = rows := by
  induction rows with
  | nil => rfl
  | cons r rows ih =>
    have hr := h r (List.mem_cons_self ..)
    simp only [List.length_cons, List.flatten_cons, chunkRows]
    rw [List.take_left' hr, List.drop_left' hr, ih (fun y hy => h y (List.mem_cons_of_mem _ hy))]

theorem size_eq (b : ByteArray) : b.size = b.data.toList.length := by
  rw [Array.length_toList]; rfl

theorem toList_loop (b : ByteArray) (i : Nat) (r : List UInt8) :
    ByteArray.toList.loop b i r = r.reverse ++ b.data.toList.drop i := by
  fun_induction ByteArray.toList.loop b i r with
  | case1 i r h ih =>
    rw [ih]
    have h' : i < b.data.toList.length := by rw [← size_eq]; exact h
    have h'' : i < b.data.size := by simpa using h'
    rw [List.drop_eq_getElem_cons h']
    simp [ByteArray.get!, getElem!_pos b.data i h'']
  | case2 i r h =>
    have h' : b.data.toList.length ≤ i := by rw [← size_eq]; omega
    simp [List.drop_eq_nil_of_le h']

theorem byteArray_toList (b : ByteArray) : b.toList = b.data.toList := by
  simp [ByteArray.toList, toList_loop]

theorem fromUTF8_toUTF8 (s : String) :
    String.fromUTF8? (ByteArray.mk s.toUTF8.toList.toArray) = some s := by
  have : ByteArray.mk s.toUTF8.toList.toArray = s.toByteArray := by
    rw [byteArray_toList]; simp
  rw [this, String.fromUTF8?, dif_pos s.isValidUTF8]
  rfl

theorem toUTF8_toList_length (s : String) : s.toUTF8.toList.length = s.utf8ByteSize := by
  rw [byteArray_toList, ← size_eq]
  rfl

end SkaModel.CB
