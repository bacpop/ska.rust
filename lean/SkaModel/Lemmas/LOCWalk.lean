/-
C17 completeness — the sequences `buildVariant` spells for the walks of the graph of a pair of strands: a walk
from a node of the strand `T` climbs one coordinate per step (`walk_levels` in `LOCReach`), so every `k`-window of the
spelled sequence is the `k`-window of a sample at the corresponding coordinate.
-/
import SkaModel.Lemmas.LOCReach
import SkaModel.Lemmas.LOPathGroups
import SkaModel.Lemmas.LOSpell

namespace SkaModel.LOC

open SkaModel SkaModel.Spec SkaModel.Props.C16 SkaModel.Skalo SkaModel.Props.C17G SkaModel.LOG

namespace Strand

variable {k L : Nat} {g : Graph} {T T' : List (List UInt8)} {PT PT' : List Nat}

theorem variant_spec (st : Strand k L g T PT T' PT') {W : Nat} (hW : 2 * k ≤ W) (starts ends : List Nat)
    {path : List Nat} {t : List UInt8} {c0 : Nat} (ht : t ∈ T) (hc0 : c0 + (k - 1) ≤ L) (hw : Walk g path)
    (hh : path.head? = some (fN k t c0)) :
    (buildVariant W (k - 1) starts ends (fN k t c0) path).1.length = path.length + (k - 1) - 1 ∧
    AllBase (buildVariant W (k - 1) starts ends (fN k t c0) path).1 ∧
    (∀ i ti, ti ∈ T → path[i]? = some (fN k ti (c0 + i)) → ∀ m, m < k - 1 →
      (buildVariant W (k - 1) starts ends (fN k t c0) path).1.getD (i + m) 0 = ti.getD (c0 + i + m) 0) ∧
    (∀ i, i + k ≤ path.length + (k - 1) - 1 → ∃ t' ∈ T,
      win (buildVariant W (k - 1) starts ends (fN k t c0) path).1 i k = win t' (c0 + i) k) := by
  have hk5 := st.k5
  have hlt : ∀ n ∈ path, n < 4 ^ (k - 1) := by
    intro n hn
    obtain ⟨i, hi, rfl⟩ := List.getElem_of_mem hn
    obtain ⟨ti, hti, e, hl⟩ := st.walk_levels path t c0 ht hc0 hw hh i _ (List.getElem?_eq_getElem hi)
    rw [e]
    exact fN_lt ti (st.pf.le_len hti hl)
  have hov : ∀ (i a b : Nat), path[i]? = some a → path[i + 1]? = some b → Overlap (k - 1) a b := by
    intro i a b ha hb
    obtain ⟨t', ht', rfl, rfl, hl⟩ := st.walk_edges ht hc0 hw hh ha hb
    exact fN_overlap st.k2 (st.pf.le_len ht' hl)
  obtain ⟨h1, hbase, h3⟩ := spelled_win (W := W) (kG := k - 1) (by rwa [Nat.sub_add_cancel st.k1]) starts ends hh hlt hov
  generalize (buildVariant W (k - 1) starts ends (fN k t c0) path).1 = seq at h1 h3 hbase ⊢
  have hlet : ∀ i ti, ti ∈ T → path[i]? = some (fN k ti (c0 + i)) → ∀ m, m < k - 1 →
      seq.getD (i + m) 0 = ti.getD (c0 + i + m) 0 := by
    intro i ti hti hx
    obtain ⟨_, _, _, hl⟩ := st.walk_levels path t c0 ht hc0 hw hh i _ hx
    have hi : i < path.length := (List.getElem?_eq_some_iff.mp hx).1
    have ht' : c0 + i + (k - 1) ≤ ti.length := st.pf.le_len hti hl
    exact (win_eq_iff (h1 ▸ Nat.le_sub_one_of_lt (Nat.add_lt_add_right hi _)) ht').mp
      (h3 i ti (c0 + i) (st.pf.base hti) ht' hx)
  refine ⟨h1, hbase, hlet, ?_⟩
  intro i hi
  have hi1 : i + 1 < path.length := by omega
  obtain ⟨t', ht', hxe, hye, hl⟩ := st.walk_edges ht hc0 hw hh (List.getElem?_eq_getElem (Nat.lt_of_succ_lt hi1))
    (List.getElem?_eq_getElem hi1)
  refine ⟨t', ht', ?_⟩
  -- the window of `k` letters is made of the `(k-1)`-mers of two consecutive nodes
  have := win_glue (Nat.le_sub_of_add_le st.k2)
    (h3 i t' (c0 + i) (st.pf.base ht') (st.pf.le_len ht' (add_pred_le hl)) ((List.getElem?_eq_getElem _).trans (congrArg some hxe)))
    (h3 (i + 1) t' (c0 + i + 1) (st.pf.base ht') (st.pf.le_len ht' (succ_add_pred_le st.k1 hl))
      ((List.getElem?_eq_getElem hi1).trans (congrArg some hye)))
  rwa [Nat.sub_add_cancel st.k1] at this

theorem variant_letter (st : Strand k L g T PT T' PT') {W : Nat} (hW : 2 * k ≤ W) (starts ends : List Nat)
    {path : List Nat} {t : List UInt8} {c0 : Nat} (ht : t ∈ T) (hc0 : c0 + (k - 1) ≤ L) (hw : Walk g path)
    (hh : path.head? = some (fN k t c0)) {tq : List UInt8} (htq : tq ∈ T) {j : Nat} (hj : j + (k - 1) ≤ L)
    (hmem : fN k tq j ∈ path) {m : Nat} (hm : m < k - 1) :
    (buildVariant W (k - 1) starts ends (fN k t c0) path).1.getD (j + m - c0) 0 = tq.getD (j + m) 0 := by
  obtain ⟨i, hi, hxi⟩ := List.getElem_of_mem hmem
  have hx : path[i]? = some (fN k tq j) := by rw [List.getElem?_eq_getElem hi, hxi]
  obtain ⟨ti, hti, e, hl⟩ := st.walk_levels path t c0 ht hc0 hw hh i _ hx
  have hji := (st.node_level htq hti hj hl e).1
  subst hji
  rw [show c0 + i + m - c0 = i + m by rw [Nat.add_assoc, Nat.add_sub_cancel_left]]
  exact (st.variant_spec hW starts ends ht hc0 hw hh).2.2.1 i tq htq hx m hm

theorem variant_mark (st : Strand k L g T PT T' PT') {starts ends : List Nat}
    (ex : Ext k starts ends T PT T' PT') (W : Nat) {path : List Nat} {t : List UInt8} {c0 : Nat} (ht : t ∈ T)
    (hc0 : c0 + (k - 1) ≤ L) (hw : Walk g path) (hh : path.head? = some (fN k t c0)) {q : Nat} (hq : q ∈ PT)
    (h1 : c0 + (k - 1) ≤ q) (h2 : q - c0 ≤ path.length) :
    q - c0 ∈ (buildVariant W (k - 1) starts ends (fN k t c0) path).2 := by
  have hk5 := st.k5
  obtain ⟨i, rfl⟩ := Nat.exists_eq_add_of_le h1
  rw [Nat.add_assoc, Nat.add_sub_cancel_left, Nat.add_comm (k - 1) i] at h2 ⊢
  have hi : i < path.length := by omega
  obtain ⟨ti, hti, hxe, _⟩ := st.walk_levels path t c0 ht hc0 hw hh i _ (List.getElem?_eq_getElem hi)
  apply mark_of_start W (k - 1) starts ends (fN k t c0) path i _ (List.getElem?_eq_getElem hi) ?_
    (Or.inr (Nat.le_sub_of_add_le h2))
  -- the node at `c0 + i` is the entry node of the site
  rw [hxe, ← Nat.add_right_cancel ((st.pf.entry_add st.k1 hq).trans (Nat.add_right_comm ..))]
  exact ex.entry_mem hti hq

/-- both letters are read off the sequence spelled for the walk -/
theorem walk_agree (st : Strand k L g T PT T' PT') {path : List Nat} {t : List UInt8} {c0 : Nat} (ht : t ∈ T)
    (hc0 : c0 + (k - 1) ≤ L) (hw : Walk g path) (hh : path.head? = some (fN k t c0)) {a b : List UInt8}
    (ha : a ∈ T) (hb : b ∈ T) {j j' : Nat} (hj : j + (k - 1) ≤ L) (hj' : j' + (k - 1) ≤ L)
    (hma : fN k a j ∈ path) (hmb : fN k b j' ∈ path) {x : Nat} (h1 : j ≤ x) (h2 : x < j + (k - 1))
    (h1' : j' ≤ x) (h2' : x < j' + (k - 1)) : a.getD x 0 = b.getD x 0 := by
  obtain ⟨m, rfl⟩ := Nat.exists_eq_add_of_le h1
  obtain ⟨m', e⟩ := Nat.exists_eq_add_of_le h1'
  have ea := st.variant_letter (Nat.le_refl (2 * k)) [] [] ht hc0 hw hh ha hj hma (Nat.lt_of_add_lt_add_left h2)
  have eb := st.variant_letter (Nat.le_refl (2 * k)) [] [] ht hc0 hw hh hb hj' hmb (m := m')
    (Nat.lt_of_add_lt_add_left (e ▸ h2'))
  rw [← e] at eb
  rw [← ea, eb]

end Strand

end SkaModel.LOC
