/-
Prefix-safe parsers.  `Spec p e r` says how parser `p` behaves on the byte
string `e` and on everything comparable with it in the prefix order:

* on `e ++ rest` it returns `r` (and leaves exactly `rest`), for every `rest`;
* on every proper prefix of `e` it fails.

With `r = some x` this is "`e` is a prefix-free encoding of `x` for `p`"; with
`r = none` it says that `p` rejects `e`, all its extensions and all its proper
prefixes.  The property is preserved by sequencing and by `parseMany`.
-/
import SkaModel.Lemmas.CborCore

namespace SkaModel.CB

open SkaModel SkaModel.Cbor

abbrev Parser (α : Type) := List UInt8 → Option (α × List UInt8)

structure Spec {α : Type} (p : Parser α) (e : List UInt8) (r : Option α) : Prop where
  full : ∀ rest, p (e ++ rest) = r.map (fun x => (x, rest))
  pre : ∀ q t, q ++ t = e → t ≠ [] → p q = none

/-! Combinators: definitionally the shapes that `do` over `Option` produces in `SkfFile.decode`. -/

def andThen {α β : Type} (p : Parser α) (k : α → Parser β) : Parser β :=
  fun bs => (p bs).bind (fun y => k y.1 y.2)

def headThen {β : Type} (k : Nat → Nat → Parser β) : Parser β :=
  fun bs => (parseHead bs).bind (fun y => k y.1 y.2.1 y.2.2)

def expectThen {β : Type} (s : List UInt8) (k : Parser β) : Parser β :=
  fun bs => (expectKey s bs).bind k

def guardP {β : Type} (c : Bool) (k : Parser β) : Parser β :=
  fun bs => if c = true then none else k bs

theorem cut_cases {q t e₁ e₂ : List UInt8} (h : q ++ t = e₁ ++ e₂) :
    (∃ a, q ++ a = e₁ ∧ a ≠ []) ∨ (∃ c, q = e₁ ++ c ∧ c ++ t = e₂) := by
  rcases List.append_eq_append_iff.mp h with ⟨a, h1, h2⟩ | ⟨c, h1, h2⟩
  · by_cases ha : a = []
    · subst ha
      right
      exact ⟨[], by simpa using h1.symm, by simpa using h2⟩
    · left
      exact ⟨a, h1.symm, ha⟩
  · right
    exact ⟨c, h1, h2.symm⟩

theorem Spec.seq {β : Type} {P k : Parser β} {e₁ e₂ : List UInt8} {r : Option β}
    (hfull : ∀ rest, P (e₁ ++ rest) = k rest)
    (hpre : ∀ q a, q ++ a = e₁ → a ≠ [] → P q = none) (h₂ : Spec k e₂ r) :
    Spec P (e₁ ++ e₂) r := by
  constructor
  · intro rest
    rw [List.append_assoc, hfull]
    exact h₂.full rest
  · intro q t hq ht
    rcases cut_cases hq with ⟨a, h1, h2⟩ | ⟨c, h1, h2⟩
    · exact hpre q a h1 h2
    · rw [h1, hfull]
      exact h₂.pre c t h2 ht

theorem Spec.andThen_some {α β : Type} {p : Parser α} {k : α → Parser β} {e₁ e₂ : List UInt8}
    {x : α} {r : Option β} (h₁ : Spec p e₁ (some x)) (h₂ : Spec (k x) e₂ r) :
    Spec (andThen p k) (e₁ ++ e₂) r :=
  Spec.seq (fun rest => by simp only [andThen, h₁.full, Option.map_some, Option.bind_some])
    (fun q a h1 h2 => by simp only [andThen, h₁.pre q a h1 h2, Option.bind_none]) h₂

theorem Spec.andThen_none {α β : Type} {p : Parser α} {k : α → Parser β} {e₁ e₂ : List UInt8}
    (h₁ : Spec p e₁ none) : Spec (andThen p k) (e₁ ++ e₂) none :=
  Spec.seq (k := fun _ => none)
    (fun rest => by simp only [andThen, h₁.full, Option.map_none, Option.bind_none])
    (fun q a h1 h2 => by simp only [andThen, h₁.pre q a h1 h2, Option.bind_none])
    ⟨fun _ => rfl, fun _ _ _ _ => rfl⟩

theorem Spec.head {β : Type} {k : Nat → Nat → Parser β} {m n : Nat} {e₂ : List UInt8} {r : Option β}
    (hm : m < 8) (hn : n < 2 ^ 64) (h₂ : Spec (k m n) e₂ r) :
    Spec (headThen k) (Cbor.head m n ++ e₂) r :=
  Spec.seq (fun rest => by simp only [headThen, parseHead_head m n rest hm hn, Option.bind_some])
    (fun q a h1 h2 => by simp only [headThen, parseHead_prefix m n q a hm hn h1 h2, Option.bind_none])
    h₂

theorem Spec.guard_false {β : Type} {c : Bool} {k : Parser β} {e : List UInt8} {r : Option β}
    (hc : c = false) (h : Spec k e r) : Spec (guardP c k) e r := by
  subst hc
  exact ⟨fun rest => by simpa [guardP] using h.full rest, fun q t hq ht => by simpa [guardP] using h.pre q t hq ht⟩

theorem Spec.pure {β : Type} {p : Parser β} {r : Option β}
    (h : ∀ bs, p bs = r.map (fun x => (x, bs))) : Spec p [] r :=
  ⟨fun rest => by simpa using h rest, fun q t hq ht => by simp at hq; exact absurd hq.2 ht⟩

theorem spec_uint {n : Nat} (hn : n < 2 ^ 64) : Spec parseUint (uint n) (some n) := by
  constructor
  · intro rest
    simp [parseUint, uint, parseHead_head 0 n rest (by decide) hn]
  · intro q t hq ht
    simp [parseUint, parseHead_prefix 0 n q t (by decide) hn hq ht]

theorem spec_bytes {α : Type} (s : List UInt8) (g : List UInt8 → α) :
    Spec (fun r => if r.length < s.length then none else some (g (r.take s.length), r.drop s.length))
      s (some (g s)) :=
  ⟨fun rest => by simp, fun q t hq ht => by
    have hlt : q.length < s.length := by
      have := List.length_pos_iff.mpr ht
      rw [← hq, List.length_append]; omega
    simp only [if_pos hlt]⟩

theorem spec_text {s : List UInt8} (hs : s.length < 2 ^ 64) : Spec parseText (text s) (some s) :=
  Spec.seq (fun rest => by simp only [parseText, parseHead_head 3 s.length rest (by decide) hs, id])
    (fun q a h1 h2 => by simp only [parseText, parseHead_prefix 3 s.length q a (by decide) hs h1 h2])
    (spec_bytes s id)

theorem spec_bool (b : Bool) : Spec parseBool (Cbor.bool b) (some b) := by
  constructor
  · intro rest
    cases b <;> rfl
  · intro q t hq ht
    cases q with
    | nil => rfl
    | cons c q =>
      cases b <;> simp [Cbor.bool] at hq <;> exact absurd hq.2.2 ht

theorem Spec.expect {β : Type} {s : List UInt8} {k : Parser β} {e₂ : List UInt8} {r : Option β}
    (hs : s.length < 2 ^ 64) (h₂ : Spec k e₂ r) : Spec (expectThen s k) (key s ++ e₂) r :=
  Spec.seq
    (fun rest => by
      simp only [expectThen, expectKey, key, (spec_text hs).full, Option.map_some, beq_self_eq_true,
        if_true, Option.bind_some])
    (fun q a h1 h2 => by
      simp only [expectThen, expectKey, (spec_text hs).pre q a h1 h2, Option.bind_none])
    h₂

end SkaModel.CB
