/-
`ska lo` graph stage: `compactGraph` (`compact_graph`) on any graph.
* `compactWalk`: the result is a chain of single-successor nodes none of which, the last apart, is an entry or exit node
  (`compactWalk_inv`); conversely such a chain that stops at an entry node, an exit node or a node without a unique
  successor is what is walked (`compactWalk_chain`).
* `compactSegments`: the recorded segments are exactly these walks, of at least two nodes, behind an entry or exit node
  (`SegOk`, `mem_compactSegments`); no start is recorded twice.
* `compactGraph`: an edge is an old edge out of a node that starts no segment or the shortcut of a segment
  (`edge_foldSegments`), and the recorded interior of a segment is the segment without its last node (`lookup_comp`); from
  these `Props/C17Paths.lean` shows that `compactGraph` is `Sound`.  A node that is neither the source nor an inner node
  of a segment is left alone (`compact_keep`), and the successor of an entry or exit node jumps to the end of its chain
  (`compact_jump`; the fuel suffices since the edge count bounds the number of distinct nodes with a successor).
-/
import SkaModel.Lemmas.LOCFold
import SkaModel.Lemmas.LOPathWalk

namespace SkaModel.LOG

open SkaModel SkaModel.Skalo SkaModel.Props.C17G

theorem lookup_removeEdge (g : Graph) (a b x : Nat) :
    Assoc.lookup (removeEdge g a b) x =
      (Assoc.lookup g x).map (fun l => if x = a then l.filter (· != b) else l) := by
  unfold removeEdge
  rw [Assoc.lookup_map _ (fun kn => by split <;> rfl)]
  congr 1
  funext l
  by_cases h : x = a
  · rw [if_pos h, if_pos (beq_iff_eq.2 h)]
  · rw [if_neg h, if_neg (fun e => h (eq_of_beq e))]

theorem succs_removeEdge (g : Graph) (a b x : Nat) :
    succs (removeEdge g a b) x = if x = a then (succs g x).filter (· != b) else succs g x := by
  unfold succs
  rw [lookup_removeEdge]
  cases Assoc.lookup g x with
  | none => simp
  | some l =>
    by_cases h : x = a
    · simp [h]
    · simp [h]

theorem edge_removeEdge {g : Graph} {a b x y : Nat} (h : Edge (removeEdge g a b) x y) :
    Edge g x y ∧ ¬ (x = a ∧ y = b) := by
  unfold Edge at h ⊢
  rw [succs_removeEdge] at h
  split at h
  · rw [List.mem_filter] at h
    exact ⟨h.1, fun hh => by simp [hh.2] at h⟩
  · rename_i hxa
    exact ⟨h, fun hh => hxa hh.1⟩

theorem succs_addEdge (g : Graph) (a b x : Nat) :
    succs (addEdge g a b) x = if a = x then succs g a ++ [b] else succs g x := by
  unfold succs addEdge
  rw [Assoc.lookup_upsert]
  by_cases h : a = x
  · subst h
    simp only [beq_self_eq_true, if_true]
    cases Assoc.lookup g a <;> simp
  · simp [h]

theorem edge_addEdge {g : Graph} {a b x y : Nat} (h : Edge (addEdge g a b) x y) :
    Edge g x y ∨ (x = a ∧ y = b) := by
  unfold Edge at h ⊢
  rw [succs_addEdge] at h
  split at h
  · rename_i e
    exact (List.mem_append.1 h).imp (e ▸ id) (fun hy => ⟨e.symm, List.mem_singleton.1 hy⟩)
  · exact Or.inl h

theorem succs_foldRemove_other (ws : List (Nat × Nat)) (x : Nat) (hx : ∀ w ∈ ws, w.1 ≠ x) :
    ∀ g : Graph, succs (ws.foldl (fun g w => removeEdge g w.1 w.2) g) x = succs g x := by
  induction ws with
  | nil => intro g; rfl
  | cons w rest ih =>
    intro g
    rw [List.foldl_cons, ih (fun w' hw' => hx w' (List.mem_cons_of_mem _ hw')), succs_removeEdge,
      if_neg (fun e => hx w (List.mem_cons_self ..) e.symm)]

theorem edge_foldRemove {x y : Nat} (ws : List (Nat × Nat)) :
    ∀ (g : Graph), Edge (ws.foldl (fun g w => removeEdge g w.1 w.2) g) x y → Edge g x y := by
  induction ws with
  | nil => intro g h; exact h
  | cons w t ih =>
    intro g h
    rw [List.foldl_cons] at h
    exact (edge_removeEdge (ih _ h)).1

theorem windows2_fst (l : List Nat) : (windows2 l).map (·.1) = l.dropLast := by
  match l with
  | [] => rfl
  | [_] => rfl
  | x :: y :: rest =>
    rw [windows2, List.map_cons, windows2_fst (y :: rest), List.dropLast_cons_cons]

theorem succs_applySegment (g : Graph) (sv : Nat × List Nat) (x : Nat) (h : x ∉ sv.2.dropLast.dropLast) :
    succs (applySegment g sv) x =
      if x = sv.1 then (succs g x).filter (· != sv.2.headD 0) ++ [sv.2.getLastD 0] else succs g x := by
  have hws : ∀ w ∈ windows2 sv.2.dropLast, w.1 ≠ x := by
    intro w hw e
    apply h
    rw [← windows2_fst, ← e]
    exact List.mem_map.mpr ⟨w, hw, rfl⟩
  unfold applySegment
  simp only
  by_cases e : x = sv.1
  · subst e
    rw [if_pos rfl, succs_addEdge, if_pos rfl, succs_foldRemove_other _ _ hws, succs_removeEdge, if_pos rfl]
  · rw [if_neg e, succs_addEdge, if_neg (Ne.symm e), succs_foldRemove_other _ _ hws, succs_removeEdge, if_neg e]

theorem edge_applySegment {g : Graph} {sv : Nat × List Nat} {x y : Nat}
    (h : Edge (applySegment g sv) x y) :
    (Edge g x y ∧ ¬ (x = sv.1 ∧ y = sv.2.headD 0)) ∨ (x = sv.1 ∧ y = sv.2.getLastD 0) := by
  unfold applySegment at h
  rcases edge_addEdge h with h | h
  · left
    exact edge_removeEdge (edge_foldRemove _ _ h)
  · right; exact h

theorem succs_foldSegments_other (segs : List (Nat × List Nat)) (x : Nat)
    (h : ∀ sv ∈ segs, x ≠ sv.1 ∧ x ∉ sv.2.dropLast.dropLast) :
    ∀ g : Graph, succs (segs.foldl applySegment g) x = succs g x := by
  induction segs with
  | nil => intro g; rfl
  | cons sv rest ih =>
    intro g
    rw [List.foldl_cons, ih (fun sv' hsv' => h sv' (List.mem_cons_of_mem _ hsv')),
      succs_applySegment g sv x (h sv (List.mem_cons_self ..)).2, if_neg (h sv (List.mem_cons_self ..)).1]

theorem succs_foldSegments_src (segs : List (Nat × List Nat)) (sv : Nat × List Nat) (hsv : sv ∈ segs)
    (hkeys : (segs.map (·.1)).Nodup) (hin : ∀ sv' ∈ segs, sv.1 ∉ sv'.2.dropLast.dropLast) :
    ∀ g : Graph, succs (segs.foldl applySegment g) sv.1 =
      (succs g sv.1).filter (· != sv.2.headD 0) ++ [sv.2.getLastD 0] := by
  induction segs with
  | nil => simp at hsv
  | cons sv0 rest ih =>
    intro g
    rw [List.map_cons, List.nodup_cons] at hkeys
    rw [List.foldl_cons]
    rcases List.mem_cons.mp hsv with e | hmem
    · subst e
      rw [succs_foldSegments_other rest sv.1 ?_, succs_applySegment g sv sv.1 (hin sv (List.mem_cons_self ..)),
        if_pos rfl]
      intro sv' hsv'
      refine ⟨?_, hin sv' (List.mem_cons_of_mem _ hsv')⟩
      intro e
      exact hkeys.1 (List.mem_map.mpr ⟨sv', hsv', e.symm⟩)
    · have hne : sv.1 ≠ sv0.1 := by
        intro e
        exact hkeys.1 (List.mem_map.mpr ⟨sv, hmem, e⟩)
      rw [ih hmem hkeys.2 (fun sv' hsv' => hin sv' (List.mem_cons_of_mem _ hsv')),
        succs_applySegment g sv0 sv.1 (hin sv0 (List.mem_cons_self ..)), if_neg hne]

theorem edge_foldSegments {x y : Nat} (segs : List (Nat × List Nat)) :
    ∀ (g : Graph), Edge (segs.foldl applySegment g) x y →
      (Edge g x y ∧ ∀ sv ∈ segs, ¬ (x = sv.1 ∧ y = sv.2.headD 0)) ∨
        ∃ sv ∈ segs, x = sv.1 ∧ y = sv.2.getLastD 0 := by
  induction segs with
  | nil => intro g h; left; exact ⟨h, by simp⟩
  | cons sv t ih =>
    intro g h
    rw [List.foldl_cons] at h
    rcases ih _ h with ⟨h1, h2⟩ | ⟨sv', hsv', h'⟩
    · rcases edge_applySegment h1 with ⟨h3, h4⟩ | h3
      · left
        refine ⟨h3, ?_⟩
        intro sv' hsv'
        rcases List.mem_cons.1 hsv' with e | e
        · rw [e]; exact h4
        · exact h2 sv' e
      · right; exact ⟨sv, List.mem_cons_self .., h3⟩
    · right; exact ⟨sv', List.mem_cons_of_mem _ hsv', h'⟩

theorem mem_dropLast_cons {α : Type} (a x : α) (l : List α) (h : x ∈ (a :: l).dropLast) :
    x = a ∨ x ∈ l.dropLast := by
  cases l with
  | nil => simp at h
  | cons b t =>
    rw [List.dropLast_cons_cons] at h
    exact List.mem_cons.1 h

theorem compactWalk_inv (g : Graph) (starts ends : List Nat) (fuel : Nat) :
    ∀ (cur : Nat) (acc : List Nat),
    ∃ ext, compactWalk g starts ends fuel cur acc = acc ++ ext ∧
      Chain1 g (cur :: ext) ∧ (acc.Nodup → (acc ++ ext).Nodup) ∧
      (∀ x ∈ ext.dropLast, x ∉ starts ∧ x ∉ ends) ∧ ext.length ≤ fuel := by
  induction fuel with
  | zero =>
    intro cur acc
    exact ⟨[], by simp [compactWalk], trivial, by simp, by simp, by simp⟩
  | succ fuel ih =>
    intro cur acc
    have hnil : ∃ ext, acc = acc ++ ext ∧ Chain1 g (cur :: ext) ∧ (acc.Nodup → (acc ++ ext).Nodup) ∧
        (∀ x ∈ ext.dropLast, x ∉ starts ∧ x ∉ ends) ∧ ext.length ≤ fuel + 1 :=
      ⟨[], by simp, trivial, by simp, by simp, by simp⟩
    unfold compactWalk
    split
    · rename_i n hlk
      by_cases hc : acc.contains n = true
      · rw [if_pos hc]; exact hnil
      · rw [if_neg hc]
        have hn : n ∉ acc := by simpa using hc
        by_cases he : (ends.contains n || starts.contains n) = true
        · rw [if_pos he]
          exact ⟨[n], rfl, ⟨hlk, trivial⟩, nodup_snoc hn, by simp, by simp⟩
        · rw [if_neg he]
          obtain ⟨ext, h1, h2, h3, h4, h5⟩ := ih n (acc ++ [n])
          refine ⟨n :: ext, ?_, ⟨hlk, h2⟩, ?_, ?_, Nat.succ_le_succ h5⟩
          · rw [h1]; simp
          · intro hnd
            simpa using h3 (nodup_snoc hn hnd)
          · intro x hx
            rcases mem_dropLast_cons n x ext hx with rfl | hx
            · simp at he
              exact ⟨fun h => he.2 h, fun h => he.1 h⟩
            · exact h4 x hx
    · exact hnil

theorem compactWalk_chain (g : Graph) (starts ends : List Nat) :
    ∀ (cs : List Nat) (cur : Nat) (acc : List Nat) (fuel : Nat), cs ≠ [] → cs.length + 1 ≤ fuel →
      Chain1 g (cur :: cs) → (∀ x ∈ cs.dropLast, x ∉ starts ∧ x ∉ ends) →
      (acc ++ cs).Nodup →
      (cs.getLastD 0 ∈ starts ++ ends ∨ ∀ n, Assoc.lookup g (cs.getLastD 0) ≠ some [n]) →
      compactWalk g starts ends fuel cur acc = acc ++ cs := by
  intro cs
  induction cs with
  | nil => intro _ _ _ h; exact absurd rfl h
  | cons c rest ih =>
    intro cur acc fuel _ hf hch hmid hnd hlast
    match fuel, hf with
    | fuel + 1, hf =>
      have hlk : Assoc.lookup g cur = some [c] := hch.1
      have hc : c ∉ acc := by
        intro hc
        rw [List.nodup_append] at hnd
        exact hnd.2.2 c hc c (List.mem_cons_self ..) rfl
      rw [compactWalk, hlk]
      simp only
      rw [if_neg (by simpa using hc)]
      cases rest with
      | nil =>
        simp only [List.getLastD_cons, List.getLastD_nil] at hlast
        rcases hlast with h | h
        · rw [if_pos (by simpa [or_comm] using h)]
        · have hce : ¬ (ends.contains c || starts.contains c) = true →
              compactWalk g starts ends fuel c (acc ++ [c]) = acc ++ [c] := by
            intro _
            match fuel, hf with
            | fuel + 1, _ =>
              rw [compactWalk]
              split
              · rename_i n hn
                exact absurd hn (h n)
              · rfl
          by_cases he : (ends.contains c || starts.contains c) = true
          · rw [if_pos he]
          · rw [if_neg he, hce he]
      | cons c2 rest2 =>
        have hm := hmid c (by simp [List.dropLast])
        rw [if_neg (by simp [hm.1, hm.2])]
        have := ih c (acc ++ [c]) fuel (by simp) (Nat.le_of_succ_le_succ hf) hch.2
          (fun x hx => hmid x (by rw [List.dropLast_cons_cons]; exact List.mem_cons_of_mem _ hx))
          (by simpa using hnd) (by simpa using hlast)
        rw [this]
        simp

def SegOk (g : Graph) (starts ends : List Nat) (sv : Nat × List Nat) : Prop :=
  sv.2 = compactWalk g starts ends (edgeCount g + 1) sv.1 [] ∧ sv.2.length > 1 ∧
    ∃ k ∈ starts ++ ends, Edge g k sv.1

/-- the two nested loops of `compactSegments` (the entry and exit nodes, the successors of each) as one fold -/
theorem compactSegments_eq (g : Graph) (starts ends : List Nat) :
    compactSegments g starts ends =
      (((starts ++ ends).flatMap (succs g)).filter
        (fun s => (compactWalk g starts ends (edgeCount g + 1) s []).length > 1)).foldl
        (fun acc s => Assoc.upsert acc s (compactWalk g starts ends (edgeCount g + 1) s [])
          (fun _ => compactWalk g starts ends (edgeCount g + 1) s [])) [] := by
  simp only [List.foldl_filter, List.foldl_flatMap, decide_eq_true_eq]
  rfl

theorem compactSegments_keys (g : Graph) (starts ends : List Nat) :
    (Assoc.keys (compactSegments g starts ends)).Nodup := by
  rw [compactSegments_eq]
  exact Assoc.nodup_keys_foldl_upsert id _ (fun s _ => compactWalk g starts ends (edgeCount g + 1) s []) _ []
    List.nodup_nil

theorem mem_compactSegments (g : Graph) (starts ends : List Nat) (sv : Nat × List Nat) :
    sv ∈ compactSegments g starts ends ↔ SegOk g starts ends sv := by
  rw [Assoc.mem_iff_lookup _ (compactSegments_keys g starts ends), compactSegments_eq, Assoc.lookup_foldl_insert]
  unfold SegOk Edge
  simp only [List.mem_filter, List.mem_flatMap, decide_eq_true_eq]
  constructor
  · intro h
    split at h
    · rename_i hc
      rw [← Option.some.inj h]
      exact ⟨rfl, hc.2, hc.1⟩
    · exact nomatch h
  · rintro ⟨h1, h2, h3⟩
    rw [h1] at h2
    rw [if_pos ⟨h3, h2⟩, h1]

theorem dropLast_append_getLastD (d : Nat) : ∀ (v : List Nat), v ≠ [] → v.dropLast ++ [v.getLastD d] = v
  | [], h => absurd rfl h
  | [a], _ => rfl
  | a :: b :: t, _ => by
    have := dropLast_append_getLastD a (b :: t) (by simp)
    rw [List.dropLast_cons_cons, List.cons_append]
    show a :: ((b :: t).dropLast ++ [(b :: t).getLastD a]) = a :: b :: t
    rw [this]

structure SegChain (g : Graph) (starts ends : List Nat) (sv : Nat × List Nat) : Prop where
  chain : Chain1 g (sv.1 :: sv.2)
  nodup : sv.2.Nodup
  inner : ∀ x ∈ sv.2.dropLast, x ∉ starts ∧ x ∉ ends
  inner_ne : sv.2.dropLast ≠ []
  snoc : sv.2.dropLast ++ [sv.2.getLastD 0] = sv.2
  src : Assoc.lookup g sv.1 = some [sv.2.headD 0]

theorem seg_chain {g : Graph} {starts ends : List Nat} {sv : Nat × List Nat}
    (h : SegOk g starts ends sv) : SegChain g starts ends sv := by
  obtain ⟨hv, hl, _⟩ := h
  obtain ⟨ext, h1, h2, h3, h4, _⟩ := compactWalk_inv g starts ends (edgeCount g + 1) sv.1 []
  rw [← hv] at h1
  simp only [List.nil_append] at h1 h3
  rw [← h1] at h2 h3 h4
  have hne : sv.2 ≠ [] := by intro e; rw [e] at hl; simp at hl
  refine ⟨h2, h3 (by simp), h4, ?_, dropLast_append_getLastD 0 _ hne, ?_⟩
  · exact List.ne_nil_of_length_pos (by rw [List.length_dropLast]; exact Nat.sub_pos_of_lt hl)
  · cases hsv : sv.2 with
    | nil => exact absurd hsv hne
    | cons a t => rw [hsv] at h2; exact h2.1

theorem seg_inner {g : Graph} {starts ends : List Nat} {sv : Nat × List Nat} (h : SegOk g starts ends sv)
    {x : Nat} (hx : x ∈ sv.2.dropLast) :
    x ∉ starts ∧ x ∉ ends ∧ (∃ n, Assoc.lookup g x = some [n]) ∧
      ∃ y, Assoc.lookup g y = some [x] ∧ (y = sv.1 ∨ (y ∈ sv.2.dropLast ∧ y ∉ starts ∧ y ∉ ends)) := by
  have c := seg_chain h
  have hne2 : sv.2 ≠ [] := fun e => c.inner_ne (by rw [e]; rfl)
  refine ⟨(c.inner x hx).1, (c.inner x hx).2, ?_, ?_⟩
  · apply chain1_succ sv.1 sv.2 c.chain
    rw [List.dropLast_cons_of_ne_nil hne2]
    exact List.mem_cons_of_mem _ hx
  · obtain ⟨y, hy, hl⟩ := chain1_pred sv.1 sv.2 c.chain x (List.dropLast_subset _ hx)
    rw [List.dropLast_cons_of_ne_nil hne2] at hy
    refine ⟨y, hl, ?_⟩
    rcases List.mem_cons.mp hy with e | hy'
    · exact Or.inl e
    · exact Or.inr ⟨hy', c.inner y hy'⟩

theorem lookup_comp {segs : List (Nat × List Nat)} {a : Nat} {I : List Nat}
    (h : Assoc.lookup (segs.map (fun sv => (sv.1, sv.2.dropLast))) a = some I) :
    ∃ sv ∈ segs, sv.1 = a ∧ I = sv.2.dropLast := by
  have := Assoc.mem_of_lookup h
  rw [List.mem_map] at this
  obtain ⟨sv, hsv, e⟩ := this
  simp only [Prod.mk.injEq] at e
  exact ⟨sv, hsv, e.1, e.2.symm⟩

theorem lookup_comp_of_mem {segs : List (Nat × List Nat)} (hn : (Assoc.keys segs).Nodup)
    {sv : Nat × List Nat} (h : sv ∈ segs) :
    Assoc.lookup (segs.map (fun sv => (sv.1, sv.2.dropLast))) sv.1 = some sv.2.dropLast := by
  rw [Assoc.lookup_map_val, Assoc.lookup_of_mem_nodup hn h]
  rfl

end SkaModel.LOG

namespace SkaModel.LOC

open SkaModel SkaModel.Skalo SkaModel.Props.C17G SkaModel.LOG

theorem succs_cons (kn : Nat × List Nat) (g : Graph) (x : Nat) :
    succs (kn :: g) x = if kn.1 = x then kn.2 else succs g x := by
  unfold succs
  rw [show kn :: g = (kn.1, kn.2) :: g from rfl, Assoc.lookup_cons]
  by_cases h : kn.1 = x
  · simp [h]
  · simp [h]

theorem length_le_edgeCount (g : Graph) :
    ∀ xs : List Nat, xs.Nodup → (∀ x ∈ xs, succs g x ≠ []) → xs.length ≤ edgeCount g := by
  induction g with
  | nil =>
    intro xs _ h
    cases xs with
    | nil => simp
    | cons x _ => exact absurd rfl (h x (List.mem_cons_self ..))
  | cons kn g ih =>
    intro xs hnd h
    have hec : edgeCount (kn :: g) = kn.2.length + edgeCount g := by
      simp [edgeCount]
    rw [hec]
    by_cases hk : kn.1 ∈ xs
    · have hlen : kn.2.length ≥ 1 := by
        have := h kn.1 hk
        rw [succs_cons, if_pos rfl] at this
        exact List.length_pos_iff.mpr this
      have hrest := ih (xs.erase kn.1) (hnd.erase _) (by
        intro x hx
        have hx' := (List.Nodup.mem_erase_iff hnd).mp hx
        have := h x hx'.2
        rw [succs_cons, if_neg (fun e => hx'.1 e.symm)] at this
        exact this)
      rw [List.length_erase_of_mem hk] at hrest
      exact Nat.le_trans (Nat.sub_le_iff_le_add'.mp hrest) (Nat.add_le_add_right hlen _)
    · have hrest := ih xs hnd (by
        intro x hx
        have := h x hx
        have hne : ¬ kn.1 = x := fun e => hk (by rw [e]; exact hx)
        rw [succs_cons, if_neg hne] at this
        exact this)
      exact Nat.le_trans hrest (Nat.le_add_left _ _)

/-- the fuel of `compactWalk` and of `explore` suffices -/
theorem length_le_fuel (g : Graph) (xs : List Nat) (hnd : xs.Nodup) (h : ∀ x ∈ xs.dropLast, succs g x ≠ []) :
    xs.length ≤ edgeCount g + 1 := by
  have := length_le_edgeCount g xs.dropLast (hnd.sublist (List.dropLast_sublist xs)) h
  rw [List.length_dropLast] at this
  exact Nat.le_add_of_sub_le this

theorem comp_none (g : Graph) (starts ends : List Nat) (x : Nat)
    (h : ∀ sv ∈ compactSegments g starts ends, sv.1 ≠ x) :
    Assoc.lookup (compactGraph g starts ends).2 x = none := by
  rw [Assoc.lookup_eq_none_iff]
  unfold compactGraph Assoc.keys
  simp only [List.map_map]
  intro hm
  obtain ⟨sv, hsv, e⟩ := List.mem_map.mp hm
  exact h sv hsv e

theorem seg_src_ne {g : Graph} {starts ends : List Nat} {x : Nat}
    (h : (∀ n, Assoc.lookup g x ≠ some [n]) ∨ ∀ e ∈ starts ++ ends, ¬ Edge g e x)
    {sv : Nat × List Nat} (hsv : sv ∈ compactSegments g starts ends) : sv.1 ≠ x := by
  rintro rfl
  have hok := (mem_compactSegments g starts ends sv).1 hsv
  obtain ⟨e, he, hed⟩ := hok.2.2
  exact h.elim (fun h => h _ (seg_chain hok).src) (fun h => h e he hed)

theorem compact_keep {g : Graph} {starts ends : List Nat} {x : Nat}
    (h : (∀ n, Assoc.lookup g x ≠ some [n]) ∨
      (x ∈ starts ++ ends ∧ ∀ e ∈ starts ++ ends, ¬ Edge g e x)) :
    succs (compactGraph g starts ends).1 x = succs g x ∧
      Assoc.lookup (compactGraph g starts ends).2 x = none := by
  have hsrc : ∀ sv ∈ compactSegments g starts ends, sv.1 ≠ x := fun sv hsv =>
    seg_src_ne (h.imp_right And.right) hsv
  refine ⟨?_, comp_none g starts ends x hsrc⟩
  unfold compactGraph
  simp only
  apply succs_foldSegments_other
  intro sv hsv
  refine ⟨fun e => hsrc sv hsv e.symm, fun hx => ?_⟩
  obtain ⟨h1, h2, ⟨n, hn⟩, _⟩ :=
    seg_inner ((mem_compactSegments g starts ends sv).1 hsv) (List.dropLast_subset _ hx)
  rcases h with h | h
  · exact h n hn
  · rcases List.mem_append.mp h.1 with h' | h'
    · exact h1 h'
    · exact h2 h'

theorem compact_jump {g : Graph}
    (hlk : ∀ x, Assoc.lookup g x = if succs g x = [] then none else some (succs g x))
    {starts ends : List Nat} {e s : Nat} {cs : List Nat}
    (he : e ∈ starts ++ ends) (hes : s ∈ succs g e)
    -- `s` lies on no other chain: `e` is its only predecessor with a unique successor, and `e` starts no segment
    (hpred : ∀ y, Assoc.lookup g y = some [s] → y = e)
    (hsrc : (∀ n, Assoc.lookup g e ≠ some [n]) ∨ ∀ e' ∈ starts ++ ends, ¬ Edge g e' e)
    (hne : cs ≠ []) (hch : Chain1 g (s :: cs)) (hnd : (s :: cs).Nodup)
    (hmid : ∀ x ∈ cs.dropLast, x ∉ starts ∧ x ∉ ends)
    (hstop : cs.getLastD 0 ∈ starts ++ ends ∨ ∀ n, Assoc.lookup g (cs.getLastD 0) ≠ some [n]) :
    succs (compactGraph g starts ends).1 s = [cs.getLastD 0] ∧
      interior (compactGraph g starts ends).2 s = cs.dropLast := by
  have hok := fun sv => (mem_compactSegments g starts ends sv).1
  have hkeys := compactSegments_keys g starts ends
  have hnotin : ∀ sv' ∈ compactSegments g starts ends, s ∉ sv'.2.dropLast.dropLast := by
    intro sv' hsv' hin
    obtain ⟨_, _, _, y, hy, hcase⟩ := seg_inner (hok sv' hsv') (List.dropLast_subset _ hin)
    have hye := hpred y hy
    subst hye
    rcases hcase with hs | ⟨_, hns, hne'⟩
    · exact seg_src_ne hsrc hsv' hs.symm
    · rcases List.mem_append.mp he with h | h
      · exact hns h
      · exact hne' h
  have hfuel : cs.length + 1 ≤ edgeCount g + 1 := by
    refine length_le_fuel g (s :: cs) hnd fun x hx => ?_
    obtain ⟨n, hn⟩ := chain1_succ s cs hch x hx
    rw [((lookup_some_iff_of_lk hlk _ _).mp hn).1]
    exact List.cons_ne_nil _ _
  have hwalk := compactWalk_chain g starts ends cs s [] (edgeCount g + 1) hne hfuel hch hmid
    (by rw [List.nil_append]; exact (List.nodup_cons.mp hnd).2) hstop
  rw [List.nil_append] at hwalk
  have hs1 : succs g s = [cs.headD 0] := by
    cases cs with
    | nil => exact absurd rfl hne
    | cons c rest => exact ((lookup_some_iff_of_lk hlk _ _).mp hch.1).1
  by_cases hlen : cs.length > 1
  · have hseg : (s, cs) ∈ compactSegments g starts ends :=
      (mem_compactSegments g starts ends (s, cs)).2 ⟨hwalk.symm, hlen, e, he, hes⟩
    constructor
    · unfold compactGraph
      simp only
      have := succs_foldSegments_src (compactSegments g starts ends) _ hseg hkeys hnotin g
      simp only at this
      rw [this, hs1]
      simp
    · unfold interior compactGraph
      simp only
      rw [lookup_comp_of_mem hkeys hseg]
      rfl
  · -- a chain of one node: no segment starts at `s`
    obtain ⟨c, rfl⟩ : ∃ c, cs = [c] := by
      match cs, hne, hlen with
      | [c], _, _ => exact ⟨c, rfl⟩
      | _ :: _ :: _, _, h => simp at h
    have hnokey : ∀ sv ∈ compactSegments g starts ends, sv.1 ≠ s := by
      intro sv hsv e'
      obtain ⟨hv, hl, _⟩ := hok sv hsv
      rw [e', hwalk] at hv
      rw [hv] at hl
      simp at hl
    constructor
    · unfold compactGraph
      simp only
      rw [succs_foldSegments_other _ _ (fun sv hsv => ⟨fun e' => hnokey sv hsv e'.symm, hnotin sv hsv⟩)]
      exact hs1
    · unfold interior
      rw [comp_none g starts ends s hnokey]
      rfl

end SkaModel.LOC
