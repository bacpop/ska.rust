/-
C12 helper: the Bloom layer of `KmerFilter` and the equations of `filter`. Bits are only ever
set, so a key that was added is reported as seen by every later check (no false negatives).
-/
import SkaModel.Impl.Reads

namespace SkaModel.KF

open SkaModel SkaModel.KmerFilter

def BloomHas (f : KmerFilter) (key : Nat) : Prop :=
  (f.buffer.getD (location key) 0) &&& fingerprint key = fingerprint key

instance (f : KmerFilter) (key : Nat) : Decidable (BloomHas f key) := by
  unfold BloomHas; infer_instance

/-- the count the table stands for: an absent entry behaves like `1` (the next seen
occurrence writes `2`) -/
def val (f : KmerFilter) (h : Nat) : Nat := (f.counts.get? h).getD 1

theorem val_of_counts_empty (f : KmerFilter) (hc : f.counts = {}) (h : Nat) : val f h = 1 := by
  simp [val, hc]

theorem or_and_self (w fp : Nat) : (w ||| fp) &&& fp = fp := by
  apply Nat.eq_of_testBit_eq
  intro i
  simp only [Nat.testBit_and, Nat.testBit_or]
  cases w.testBit i <;> cases fp.testBit i <;> rfl

theorem or_and_of_and (w fp' fp : Nat) (h : w &&& fp = fp) : (w ||| fp') &&& fp = fp := by
  apply Nat.eq_of_testBit_eq
  intro i
  have hi := congrArg (Nat.testBit · i) h
  simp only [Nat.testBit_and, Nat.testBit_or] at hi ⊢
  revert hi
  cases w.testBit i <;> cases fp.testBit i <;> cases fp'.testBit i <;> simp

theorem or_eq_of_and (w fp : Nat) (h : w &&& fp = fp) : w ||| fp = w := by
  apply Nat.eq_of_testBit_eq
  intro i
  have hi := congrArg (Nat.testBit · i) h
  simp only [Nat.testBit_and, Nat.testBit_or] at hi ⊢
  revert hi
  cases w.testBit i <;> cases fp.testBit i <;> simp

theorem bloom_eq (f : KmerFilter) (key : Nat) :
    f.bloomAddAndCheck key =
      if BloomHas f key then (f, true)
      else ({ f with buffer :=
          f.buffer.insert (location key) (f.buffer.getD (location key) 0 ||| fingerprint key) },
        false) := by
  unfold bloomAddAndCheck BloomHas
  simp only [beq_iff_eq]

theorem bloom_snd (f : KmerFilter) (key : Nat) :
    (f.bloomAddAndCheck key).2 = decide (BloomHas f key) := by
  rw [bloom_eq]
  split <;> simp [*]

theorem bloom_snd_true (f : KmerFilter) (key : Nat) :
    (f.bloomAddAndCheck key).2 = true ↔ BloomHas f key := by
  rw [bloom_snd, decide_eq_true_iff]

@[simp] theorem bloom_minCount (f : KmerFilter) (key : Nat) :
    (f.bloomAddAndCheck key).1.minCount = f.minCount := by
  rw [bloom_eq]
  split <;> rfl

@[simp] theorem bloom_counts (f : KmerFilter) (key : Nat) :
    (f.bloomAddAndCheck key).1.counts = f.counts := by
  rw [bloom_eq]
  split <;> rfl

theorem bloom_buffer_getD (f : KmerFilter) (key loc : Nat) :
    (f.bloomAddAndCheck key).1.buffer.getD loc 0 =
      if location key = loc then f.buffer.getD loc 0 ||| fingerprint key
      else f.buffer.getD loc 0 := by
  rw [bloom_eq]
  split
  · next hb =>
    split
    · next hl => subst hl; exact (or_eq_of_and _ _ hb).symm
    · rfl
  · simp only [Std.HashMap.getD_insert, beq_iff_eq]
    split
    · next hl => subst hl; rfl
    · rfl

theorem bloom_buffer_mono (f : KmerFilter) (key loc w : Nat)
    (h : f.buffer.getD loc 0 &&& w = w) :
    (f.bloomAddAndCheck key).1.buffer.getD loc 0 &&& w = w := by
  rw [bloom_buffer_getD]
  split
  · exact or_and_of_and _ _ _ h
  · exact h

theorem bloomHas_establish (f : KmerFilter) (key : Nat) :
    BloomHas (f.bloomAddAndCheck key).1 key := by
  unfold BloomHas
  rw [bloom_buffer_getD, if_pos rfl]
  exact or_and_self _ _

theorem bloomHas_bloom (f : KmerFilter) (key key' : Nat) (h : BloomHas f key) :
    BloomHas (f.bloomAddAndCheck key').1 key :=
  bloom_buffer_mono f key' (location key) (fingerprint key) h

/-- `filter` without the `let`s (`65535`: the table value is a saturating `u16`) -/
theorem filter_eq (f : KmerFilter) (h : Nat) :
    f.filter h =
      if f.minCount ≤ 1 then (f, true)
      else if f.minCount = 2 then f.bloomAddAndCheck h
      else if BloomHas f h then
        ({ f with counts := f.counts.insert h (min (val f h + 1) 65535) },
          f.minCount == min (val f h + 1) 65535)
      else ((f.bloomAddAndCheck h).1, false) := by
  unfold KmerFilter.filter
  by_cases hb : BloomHas f h
  · simp only [bloom_eq, if_pos hb, beq_iff_eq, val]
    cases f.counts.get? h <;> rfl
  · simp only [bloom_eq, if_neg hb, beq_iff_eq]
    rfl

theorem filter_cases {P : KmerFilter × Bool → Prop} (f : KmerFilter) (h : Nat)
    (c1 : f.minCount ≤ 1 → P (f, true))
    (c2 : f.minCount = 2 → P (f.bloomAddAndCheck h))
    (c3 : 3 ≤ f.minCount → BloomHas f h →
      P ({ f with counts := f.counts.insert h (min (val f h + 1) 65535) },
        f.minCount == min (val f h + 1) 65535))
    (c4 : 3 ≤ f.minCount → ¬ BloomHas f h → P ((f.bloomAddAndCheck h).1, false)) :
    P (f.filter h) := by
  rw [filter_eq]
  by_cases h1 : f.minCount ≤ 1
  · rw [if_pos h1]; exact c1 h1
  · rw [if_neg h1]
    by_cases h2 : f.minCount = 2
    · rw [if_pos h2]; exact c2 h2
    · rw [if_neg h2]
      by_cases hb : BloomHas f h
      · rw [if_pos hb]; exact c3 (by omega) hb
      · rw [if_neg hb]; exact c4 (by omega) hb

@[simp] theorem filter_minCount (f : KmerFilter) (h : Nat) :
    (f.filter h).1.minCount = f.minCount :=
  filter_cases (P := fun r => r.1.minCount = f.minCount) f h (fun _ => rfl)
    (fun _ => bloom_minCount f h) (fun _ _ => rfl) (fun _ _ => bloom_minCount f h)

theorem filter_buffer (f : KmerFilter) (h : Nat) :
    (f.filter h).1.buffer =
      if f.minCount ≤ 1 then f.buffer else (f.bloomAddAndCheck h).1.buffer := by
  refine filter_cases (P := fun r => r.1.buffer = _) f h (fun h1 => (if_pos h1).symm)
    (fun h2 => ?_) (fun h3 hb => ?_) (fun h3 _ => ?_)
  · exact (if_neg (by omega)).symm
  · rw [if_neg (by omega), bloom_eq, if_pos hb]
  · exact (if_neg (by omega)).symm

theorem filter_snd (f : KmerFilter) (h : Nat) :
    (f.filter h).2 =
      if f.minCount ≤ 1 then true
      else if f.minCount = 2 then decide (BloomHas f h)
      else (decide (BloomHas f h) && (f.minCount == min (val f h + 1) 65535)) := by
  refine filter_cases (P := fun r => r.2 = _) f h (fun h1 => (if_pos h1).symm) (fun h2 => ?_)
    (fun h3 hb => ?_) (fun h3 hb => ?_)
  · rw [if_neg (by omega), if_pos h2]; exact bloom_snd f h
  · rw [if_neg (by omega), if_neg (by omega), decide_eq_true hb, Bool.true_and]
  · rw [if_neg (by omega), if_neg (by omega), decide_eq_false hb, Bool.false_and]

theorem filter_pass_iff (f : KmerFilter) (h : Nat) (hm : 3 ≤ f.minCount) :
    (f.filter h).2 = true ↔ BloomHas f h ∧ f.minCount = min (val f h + 1) 65535 := by
  rw [filter_snd, if_neg (by omega), if_neg (by omega), Bool.and_eq_true, decide_eq_true_eq,
    beq_iff_eq]

theorem filter_counts (f : KmerFilter) (h : Nat) :
    (f.filter h).1.counts =
      if 3 ≤ f.minCount ∧ BloomHas f h then f.counts.insert h (min (val f h + 1) 65535)
      else f.counts := by
  refine filter_cases (P := fun r => r.1.counts = _) f h (fun h1 => ?_) (fun h2 => ?_)
    (fun h3 hb => (if_pos ⟨h3, hb⟩).symm) (fun h3 hb => ?_)
  · exact (if_neg (fun hc => absurd hc.1 (by omega))).symm
  · rw [if_neg (fun hc => absurd hc.1 (by omega))]; exact bloom_counts f h
  · rw [if_neg (fun hc => hb hc.2)]; exact bloom_counts f h

theorem val_filter (f : KmerFilter) (h x : Nat) :
    val (f.filter h).1 x =
      if 3 ≤ f.minCount ∧ BloomHas f h ∧ h = x then min (val f h + 1) 65535 else val f x := by
  unfold val
  rw [filter_counts]
  split
  · next hc =>
    rw [Std.HashMap.get?_insert]
    split
    · next hx => rw [if_pos ⟨hc.1, hc.2, by simpa using hx⟩]; rfl
    · next hx => rw [if_neg (fun hc' => hx (by simpa using hc'.2.2))]
  · next hc => rw [if_neg (fun hc' => hc ⟨hc'.1, hc'.2.1⟩)]

theorem bloomHas_filter (f : KmerFilter) (key h : Nat) (hk : BloomHas f key) :
    BloomHas (f.filter h).1 key := by
  unfold BloomHas
  rw [filter_buffer]
  split
  · exact hk
  · exact bloomHas_bloom f key h hk

theorem bloomHas_filter_self (f : KmerFilter) (h : Nat) (hm : 2 ≤ f.minCount) :
    BloomHas (f.filter h).1 h := by
  unfold BloomHas
  rw [filter_buffer, if_neg (by omega)]
  exact bloomHas_establish f h

/-- the operations that touch the Bloom words -/
inductive Op where
  | bloom (key : Nat)
  | filt (hash : Nat)

def applyOp (f : KmerFilter) : Op → KmerFilter
  | .bloom k => (f.bloomAddAndCheck k).1
  | .filt h => (f.filter h).1

def applyOps (f : KmerFilter) (ops : List Op) : KmerFilter := ops.foldl applyOp f

theorem bloomHas_applyOps (ops : List Op) (f : KmerFilter) (key : Nat) (h : BloomHas f key) :
    BloomHas (applyOps f ops) key := by
  induction ops generalizing f with
  | nil => exact h
  | cons o os ih =>
    apply ih
    cases o with
    | bloom k => exact bloomHas_bloom f key k h
    | filt x => exact bloomHas_filter f key x h

/-- **No Bloom false negative.** Once `bloomAddAndCheck key` has run, every later
`bloomAddAndCheck key` — after any sequence of other Bloom steps and `filter` calls —
reports `true`. -/
theorem bloom_no_false_negative (f : KmerFilter) (key : Nat) (ops : List Op) :
    ((applyOps (f.bloomAddAndCheck key).1 ops).bloomAddAndCheck key).2 = true := by
  rw [bloom_snd_true]
  exact bloomHas_applyOps ops _ key (bloomHas_establish f key)

theorem fingerprint_ne_zero (key : Nat) : fingerprint key ≠ 0 := by
  unfold fingerprint
  simp only [ne_eq, Nat.or_eq_zero_iff, Nat.shiftLeft_eq, Nat.one_mul]
  exact fun h => absurd h.1.1.1.1 (Nat.ne_of_gt (Nat.two_pow_pos _))

theorem not_bloomHas_empty (f : KmerFilter) (hb : f.buffer = {}) (key : Nat) :
    ¬ BloomHas f key := by
  unfold BloomHas
  rw [hb, Std.HashMap.getD_empty, Nat.zero_and]
  exact fun h => fingerprint_ne_zero key h.symm

end SkaModel.KF
