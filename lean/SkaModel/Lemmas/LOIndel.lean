/-
Indel genotyping of `ska lo` (`process_indels.rs`): `indelCalls`, `indelStats`.
-/
import SkaModel.Lemmas.LOBasic

namespace SkaModel.LO

open SkaModel SkaModel.Skalo

/-- genotype string from (in REF set, in ALT set) -/
def gtOf (r a : Bool) : String :=
  match r, a with
  | true, true => "0/1"
  | true, false => "0"
  | false, true => "1"
  | false, false => "."

def gtStrings (n : Nat) (refS altS : List Nat) : List String :=
  (List.range n).map (fun i => gtOf (refS.contains i) (altS.contains i))

theorem indelCalls_eq (n : Nat) (ins0 ins1 : List UInt8) (set0 set1 : List Nat) :
    indelCalls n ins0 ins1 set0 set1 =
      if set0.eraseDups.length < set1.eraseDups.length then (ins1, ins0, gtStrings n set1 set0)
      else (ins0, ins1, gtStrings n set0 set1) := by
  unfold indelCalls
  by_cases h : set0.eraseDups.length < set1.eraseDups.length
  · have h' : set1.eraseDups.length > set0.eraseDups.length := h
    simp only [h', if_true]
    rfl
  · have h' : ¬ set1.eraseDups.length > set0.eraseDups.length := h
    simp only [h', if_false]
    rfl

theorem contains_false_iff (l : List Nat) (i : Nat) : l.contains i = false ↔ i ∉ l := by
  rw [← List.contains_iff_mem]
  simp

theorem gtOf_spec (r a : Bool) :
    (gtOf r a = "0" ↔ r = true ∧ a = false) ∧ (gtOf r a = "1" ↔ r = false ∧ a = true) ∧
    (gtOf r a = "0/1" ↔ r = true ∧ a = true) ∧ (gtOf r a = "." ↔ r = false ∧ a = false) := by
  cases r <;> cases a <;> decide

theorem gtStrings_length (n : Nat) (refS altS : List Nat) : (gtStrings n refS altS).length = n := by
  simp [gtStrings]

theorem gtStrings_spec (n : Nat) (refS altS : List Nat) (i : Nat) (hi : i < n) :
    ∃ g, (gtStrings n refS altS)[i]? = some g ∧
      (g = "0" ↔ i ∈ refS ∧ i ∉ altS) ∧ (g = "1" ↔ i ∉ refS ∧ i ∈ altS) ∧
      (g = "0/1" ↔ i ∈ refS ∧ i ∈ altS) ∧ (g = "." ↔ i ∉ refS ∧ i ∉ altS) := by
  refine ⟨gtOf (refS.contains i) (altS.contains i), ?_, ?_⟩
  · unfold gtStrings
    rw [List.getElem?_map, List.getElem?_range hi]
    rfl
  · have h := gtOf_spec (refS.contains i) (altS.contains i)
    simp only [List.contains_iff_mem, contains_false_iff] at h
    exact h

theorem indelStats_closed (n : Nat) (set0 set1 : List Nat) :
    indelStats n set0 set1 =
      (((List.range n).filter (fun i => set0.contains i == set1.contains i)).length,
       (List.range n).any (fun i => set0.contains i && !set1.contains i),
       (List.range n).any (fun i => !set0.contains i && set1.contains i)) := by
  unfold indelStats
  induction n with
  | zero => rfl
  | succ n ih =>
    rw [List.range_succ, List.foldl_append, ih, List.filter_append, List.any_append, List.any_append,
      List.length_append]
    simp only [List.foldl_cons, List.foldl_nil, List.filter_cons, List.filter_nil,
      List.any_cons, List.any_nil]
    cases set0.contains n <;> cases set1.contains n <;> simp

end SkaModel.LO
