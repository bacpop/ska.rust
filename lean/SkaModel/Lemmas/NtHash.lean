/-
Lemmas for `Impl/NtHash.lean`. First the rotations of 64-bit words: the model works on
natural numbers below 2^64; composition, xor and the full turn of a left rotation are proved
on `BitVec 64`, and a right rotation is a left rotation by the complementary amount, so that
it needs no bit-level proof of its own. Then the two folds of `NtHash.new` as position-indexed
xor sums (`xsum`), the single-step rolling identity of each (one shift law, `xsum_shift`, read
forwards for the forward strand and backwards for the reverse strand), and their exchange
under reverse complement.
-/
import SkaModel.Impl.NtHash
import SkaModel.Lemmas.Pack

namespace SkaModel.NH

open SkaModel

theorem rotl64_toNat (v : BitVec 64) (n : Nat) :
    rotl64 v.toNat n = (v.rotateLeft n).toNat := by
  simp only [rotl64, BitVec.toNat_rotateLeft]

theorem rotr64_toNat (v : BitVec 64) (n : Nat) :
    rotr64 v.toNat n = (v.rotateRight n).toNat := by
  simp only [rotr64, BitVec.toNat_rotateRight]

theorem toNat_ofNat_of_lt {x : Nat} (h : x < 2 ^ 64) : (BitVec.ofNat 64 x).toNat = x := by
  rw [BitVec.toNat_ofNat, Nat.mod_eq_of_lt h]

/-- a value below `2^64` is a 64-bit vector: a statement about such values is proved by
naming the vector and rewriting with `rotl64_toNat` -/
theorem exists_bv {x : Nat} (h : x < 2 ^ 64) : ∃ v : BitVec 64, v.toNat = x :=
  ⟨BitVec.ofNat 64 x, toNat_ofNat_of_lt h⟩

theorem rotl64_eq_bv {x : Nat} (h : x < 2 ^ 64) (n : Nat) :
    rotl64 x n = ((BitVec.ofNat 64 x).rotateLeft n).toNat := by
  rw [← rotl64_toNat, toNat_ofNat_of_lt h]

theorem rotr64_eq_bv {x : Nat} (h : x < 2 ^ 64) (n : Nat) :
    rotr64 x n = ((BitVec.ofNat 64 x).rotateRight n).toNat := by
  rw [← rotr64_toNat, toNat_ofNat_of_lt h]

theorem bv_rotl_rotl (v : BitVec 64) (a b : Nat) :
    (v.rotateLeft a).rotateLeft b = v.rotateLeft (a + b) := by
  apply BitVec.eq_of_getMsbD_eq
  intro i _
  -- bit `i` from the top of a rotation by `r` is bit `(r + i) % 64` of the argument
  rw [BitVec.getMsbD_rotateLeft, BitVec.getMsbD_rotateLeft, BitVec.getMsbD_rotateLeft,
    decide_eq_true (Nat.mod_lt (b + i) (by decide : 0 < 64)), Bool.true_and,
    Nat.add_mod_mod, Nat.add_assoc]

theorem bv_rotl_of_mod_zero (v : BitVec 64) (n : Nat) (h : n % 64 = 0) : v.rotateLeft n = v := by
  apply BitVec.eq_of_getLsbD_eq
  intro i hi
  simp [h, hi]

theorem bv_rotl_xor (x y : BitVec 64) (n : Nat) :
    (x ^^^ y).rotateLeft n = x.rotateLeft n ^^^ y.rotateLeft n := by
  apply BitVec.eq_of_getMsbD_eq
  intro i _
  simp only [BitVec.getMsbD_rotateLeft, BitVec.getMsbD_xor, Bool.and_xor_distrib_left]

theorem rotl64_lt {x : Nat} (h : x < 2 ^ 64) (n : Nat) : rotl64 x n < 2 ^ 64 := by
  rw [rotl64_eq_bv h]; exact BitVec.isLt _

theorem rotl64_rotl64 {x : Nat} (h : x < 2 ^ 64) (a b : Nat) :
    rotl64 (rotl64 x a) b = rotl64 x (a + b) := by
  obtain ⟨v, rfl⟩ := exists_bv h
  rw [rotl64_toNat, rotl64_toNat, bv_rotl_rotl, rotl64_toNat]

theorem rotl64_mod (x n : Nat) : rotl64 x (n % 64) = rotl64 x n := by
  unfold rotl64; simp only [Nat.mod_mod]

theorem rotr64_mod (x n : Nat) : rotr64 x (n % 64) = rotr64 x n := by
  unfold rotr64; simp only [Nat.mod_mod]

theorem rotl64_of_mod_zero {x : Nat} (h : x < 2 ^ 64) {n : Nat} (hn : n % 64 = 0) :
    rotl64 x n = x := by
  obtain ⟨v, rfl⟩ := exists_bv h
  rw [rotl64_toNat, bv_rotl_of_mod_zero _ _ hn]

theorem rotl64_zero {x : Nat} (h : x < 2 ^ 64) : rotl64 x 0 = x := rotl64_of_mod_zero h rfl

theorem rotl64_64 {x : Nat} (h : x < 2 ^ 64) : rotl64 x 64 = x := rotl64_of_mod_zero h rfl

theorem rotl64_add_64 (x n : Nat) : rotl64 x (n + 64) = rotl64 x n := by
  unfold rotl64; rw [Nat.add_mod_right]

theorem rotl64_xor {x y : Nat} (hx : x < 2 ^ 64) (hy : y < 2 ^ 64) (n : Nat) :
    rotl64 (x ^^^ y) n = rotl64 x n ^^^ rotl64 y n := by
  obtain ⟨v, rfl⟩ := exists_bv hx
  obtain ⟨w, rfl⟩ := exists_bv hy
  rw [rotl64_toNat v, rotl64_toNat w, ← BitVec.toNat_xor, ← BitVec.toNat_xor, rotl64_toNat,
    bv_rotl_xor]

/-- A right rotation is a left rotation, straight from the two definitions: they are the same
`|||` with its sides exchanged. Only at `n % 64 = 0` does the bound on `x` matter. Every other
fact about `rotr64` below follows from this one and the fact about `rotl64`. -/
theorem rotr64_eq_rotl64 {x : Nat} (h : x < 2 ^ 64) (n : Nat) :
    rotr64 x n = rotl64 x (64 - n % 64) := by
  simp only [rotr64, rotl64]
  have hn : n % 64 < 64 := Nat.mod_lt _ (by decide)
  generalize n % 64 = r at hn
  cases r with
  | zero =>
    rw [Nat.shiftRight_zero, Nat.shiftLeft_eq, Nat.mul_mod_left, Nat.shiftLeft_zero,
      Nat.mod_eq_of_lt h, Nat.shiftRight_eq_div_pow, Nat.div_eq_of_lt h]
  | succ r =>
    rw [Nat.mod_eq_of_lt (Nat.sub_lt (by decide) (Nat.succ_pos r)),
      Nat.sub_sub_self (Nat.le_of_lt hn), Nat.or_comm]

theorem rotr64_lt {x : Nat} (h : x < 2 ^ 64) (n : Nat) : rotr64 x n < 2 ^ 64 := by
  rw [rotr64_eq_rotl64 h]; exact rotl64_lt h _

theorem rotr64_one {x : Nat} (h : x < 2 ^ 64) : rotr64 x 1 = rotl64 x 63 :=
  rotr64_eq_rotl64 h 1

theorem add_sub_mod (n : Nat) : (n + (64 - n % 64)) % 64 = 0 := by
  rw [← Nat.mod_add_mod, Nat.add_sub_cancel' (Nat.le_of_lt (Nat.mod_lt n (by decide)))]

theorem rotr64_rotl64 {x : Nat} (h : x < 2 ^ 64) (n : Nat) : rotr64 (rotl64 x n) n = x := by
  rw [rotr64_eq_rotl64 (rotl64_lt h n), rotl64_rotl64 h]
  exact rotl64_of_mod_zero h (add_sub_mod n)

theorem rotl64_rotr64 {x : Nat} (h : x < 2 ^ 64) (n : Nat) : rotl64 (rotr64 x n) n = x := by
  rw [rotr64_eq_rotl64 h, rotl64_rotl64 h, Nat.add_comm]
  exact rotl64_of_mod_zero h (add_sub_mod n)

theorem rotr64_xor {x y : Nat} (hx : x < 2 ^ 64) (hy : y < 2 ^ 64) (n : Nat) :
    rotr64 (x ^^^ y) n = rotr64 x n ^^^ rotr64 y n := by
  rw [rotr64_eq_rotl64 (Nat.xor_lt_two_pow hx hy), rotr64_eq_rotl64 hx, rotr64_eq_rotl64 hy,
    rotl64_xor hx hy]

theorem rotl64_zero_left (n : Nat) : rotl64 0 n = 0 := by
  simp [rotl64]

theorem rotr64_zero_left (n : Nat) : rotr64 0 n = 0 := by
  simp [rotr64]

theorem hashSeedAt_lt (c : Nat) : hashSeedAt c < 2 ^ 64 := by
  unfold hashSeedAt
  match c with
  | 0 => decide
  | 1 => decide
  | 2 => decide
  | 3 => decide
  | n + 4 => simp [Tables.hashSeed]

theorem rcHashSeedAt_lt (c : Nat) : rcHashSeedAt c < 2 ^ 64 := hashSeedAt_lt _

theorem rcHashSeedAt_xor2 (c : Nat) : rcHashSeedAt (c ^^^ 2) = hashSeedAt c := by
  unfold rcHashSeedAt; rw [xor2_xor2]

def xsum {α : Type} (g : α → Nat → Nat) : Nat → List α → Nat
  | _, [] => 0
  | s, x :: l => g x s ^^^ xsum g (s + 1) l

theorem foldl_zip_range' {α : Type} (g : α → Nat → Nat) (l : List α) (s a : Nat) :
    (l.zip (List.range' s l.length)).foldl (fun h vi => h ^^^ g vi.1 vi.2) a
      = a ^^^ xsum g s l := by
  induction l generalizing s a with
  | nil => simp [xsum]
  | cons x l ih =>
    simp only [List.length_cons, List.range'_succ, List.zip_cons_cons, List.foldl_cons, xsum]
    rw [ih, Nat.xor_assoc]

theorem foldl_zip_range {α : Type} (g : α → Nat → Nat) (l : List α) :
    (l.zip (List.range l.length)).foldl (fun h vi => h ^^^ g vi.1 vi.2) 0 = xsum g 0 l := by
  rw [List.range_eq_range', foldl_zip_range', Nat.zero_xor]

theorem xsum_append {α : Type} (g : α → Nat → Nat) (l m : List α) (s : Nat) :
    xsum g s (l ++ m) = xsum g s l ^^^ xsum g (s + l.length) m := by
  induction l generalizing s with
  | nil => simp [xsum]
  | cons x l ih =>
    simp only [List.cons_append, xsum, List.length_cons]
    rw [ih, Nat.xor_assoc, Nat.add_assoc, Nat.add_comm 1]

theorem xsum_singleton {α : Type} (g : α → Nat → Nat) (x : α) (s : Nat) :
    xsum g s [x] = g x s := by
  simp [xsum]

theorem xsum_map {α β : Type} (g : β → Nat → Nat) (f : α → β) (l : List α) (s : Nat) :
    xsum g s (l.map f) = xsum (fun a i => g (f a) i) s l := by
  induction l generalizing s with
  | nil => rfl
  | cons x l ih => simp only [List.map_cons, xsum, ih]

theorem xsum_lt {α : Type} (g : α → Nat → Nat) (hg : ∀ a i, g a i < 2 ^ 64) (l : List α) (s : Nat) :
    xsum g s l < 2 ^ 64 := by
  induction l generalizing s with
  | nil => simp [xsum]
  | cons x l ih => exact Nat.xor_lt_two_pow (hg _ _) (ih _)

theorem xsum_congr {α : Type} (g g' : α → Nat → Nat) (l : List α) (s : Nat)
    (h : ∀ a i, s ≤ i → i < s + l.length → g a i = g' a i) : xsum g s l = xsum g' s l := by
  induction l generalizing s with
  | nil => rfl
  | cons x l ih =>
    simp only [xsum]
    rw [h x s (Nat.le_refl _) (by simp), ih (s + 1) (fun a i h1 h2 => h a i (by omega)
      (by simp only [List.length_cons]; omega))]

/-- term of the forward hash at position `i` of the window -/
def fterm (k : Nat) (b : UInt8) (i : Nat) : Nat := rotl64 (hashSeedAt (code b)) (k - i - 1)
/-- term of the reverse hash at position `i` of the reversed window -/
def rterm (k : Nat) (b : UInt8) (i : Nat) : Nat := rotl64 (rcHashSeedAt (code b)) (k - i - 1)

theorem fterm_lt (k : Nat) (b : UInt8) (i : Nat) : fterm k b i < 2 ^ 64 :=
  rotl64_lt (hashSeedAt_lt _) _
theorem rterm_lt (k : Nat) (b : UInt8) (i : Nat) : rterm k b i < 2 ^ 64 :=
  rotl64_lt (rcHashSeedAt_lt _) _

theorem new_fh (w : List UInt8) (k : Nat) (rc : Bool) :
    (NtHash.new w k rc).fh = xsum (fterm k) 0 w := by
  unfold NtHash.new
  exact foldl_zip_range (fterm k) w

theorem new_rh_true (w : List UInt8) (k : Nat) :
    (NtHash.new w k true).rh = some (xsum (rterm k) 0 w.reverse) := by
  unfold NtHash.new
  simp only [if_true]
  congr 1
  have := foldl_zip_range (rterm k) w.reverse
  rw [List.length_reverse] at this
  exact this

theorem new_rh_false (w : List UInt8) (k : Nat) : (NtHash.new w k false).rh = none := rfl

theorem new_k (w : List UInt8) (k : Nat) (rc : Bool) : (NtHash.new w k rc).k = k := rfl

theorem ntHash_ext {a b : NtHash} (hk : a.k = b.k) (hf : a.fh = b.fh) (hr : a.rh = b.rh) : a = b := by
  cases a; cases b; simp_all

theorem xor_cancel_mid (a X c : Nat) : (a ^^^ X) ^^^ a ^^^ c = X ^^^ c := by
  rw [Nat.xor_comm a X, Nat.xor_assoc X a a, Nat.xor_self, Nat.xor_zero]

theorem xor_cancel_end (X a c : Nat) : (X ^^^ a) ^^^ a ^^^ c = c ^^^ X := by
  rw [Nat.xor_assoc X a a, Nat.xor_self, Nat.xor_zero, Nat.xor_comm]

theorem xsum_shift {α : Type} (g : α → Nat → Nat) (hg : ∀ a i, g a i < 2 ^ 64) (l : List α) (s : Nat)
    (h : ∀ a i, i < s + l.length → rotl64 (g a (i + 1)) 1 = g a i) :
    rotl64 (xsum g (s + 1) l) 1 = xsum g s l := by
  induction l generalizing s with
  | nil => exact rotl64_zero_left 1
  | cons x l ih =>
    simp only [xsum]
    rw [rotl64_xor (hg _ _) (xsum_lt g hg _ _), h x s (by simp),
      ih (s + 1) (fun a i hi => h a i (by simp only [List.length_cons]; omega))]

theorem rot_succ {x : Nat} (hx : x < 2 ^ 64) {k i : Nat} (h : i + 1 < k) :
    rotl64 (rotl64 x (k - (i + 1) - 1)) 1 = rotl64 x (k - i - 1) := by
  rw [rotl64_rotl64 hx, Nat.sub_add_cancel (Nat.sub_pos_of_lt h)]
  rfl

/-- forward component: `rotl(fh,1) ^ rotl(seed old, k) ^ seed new` -/
theorem roll_fh (b0 : UInt8) (rest : List UInt8) (b : UInt8) (k : Nat)
    (hk : (b0 :: rest).length = k) :
    rotl64 (xsum (fterm k) 0 (b0 :: rest)) 1 ^^^ rotl64 (hashSeedAt (code b0)) k
        ^^^ hashSeedAt (code b)
      = xsum (fterm k) 0 (rest ++ [b]) := by
  subst hk
  have hshift := xsum_shift (fterm (b0 :: rest).length) (fterm_lt _) rest 0
    (fun a i hi => rot_succ (hashSeedAt_lt _) (by simp only [List.length_cons]; omega))
  have hhead : rotl64 (fterm (b0 :: rest).length b0 0) 1
      = rotl64 (hashSeedAt (code b0)) (b0 :: rest).length :=
    rotl64_rotl64 (hashSeedAt_lt _) _ 1
  have hlast : fterm (b0 :: rest).length b (0 + rest.length) = hashSeedAt (code b) :=
    rotl64_of_mod_zero (hashSeedAt_lt _) (by
      rw [List.length_cons, Nat.zero_add, Nat.add_sub_cancel_left])
  rw [xsum_append, xsum_singleton, hlast]
  simp only [xsum]
  rw [rotl64_xor (fterm_lt _ _ _) (xsum_lt _ (fterm_lt _) _ _), hhead, hshift, xor_cancel_mid]

/-- reverse component: `rotr(rh,1) ^ rotr(rcseed old,1) ^ rotl(rcseed new,k-1)` -/
theorem roll_rh (b0 : UInt8) (rest : List UInt8) (b : UInt8) (k : Nat)
    (hk : (b0 :: rest).length = k) :
    rotr64 (xsum (rterm k) 0 (b0 :: rest).reverse) 1 ^^^ rotr64 (rcHashSeedAt (code b0)) 1
        ^^^ rotl64 (rcHashSeedAt (code b)) (k - 1)
      = xsum (rterm k) 0 (rest ++ [b]).reverse := by
  subst hk
  -- undo the left rotation that `xsum_shift` describes
  have hshift : rotr64 (xsum (rterm (b0 :: rest).length) 0 rest.reverse) 1
      = xsum (rterm (b0 :: rest).length) (0 + 1) rest.reverse := by
    rw [← xsum_shift (rterm (b0 :: rest).length) (rterm_lt _) rest.reverse 0
      (fun a i hi => rot_succ (rcHashSeedAt_lt _) (by
        simp only [List.length_cons, List.length_reverse] at hi ⊢; omega)),
      rotr64_rotl64 (xsum_lt _ (rterm_lt _) _ _)]
  have hlast : rterm (b0 :: rest).length b0 (0 + rest.reverse.length) = rcHashSeedAt (code b0) :=
    rotl64_of_mod_zero (rcHashSeedAt_lt _) (by
      rw [List.length_cons, List.length_reverse, Nat.zero_add, Nat.add_sub_cancel_left])
  rw [List.reverse_cons, xsum_append, xsum_singleton, hlast,
    rotr64_xor (xsum_lt _ (rterm_lt _) _ _) (rcHashSeedAt_lt _), hshift, xor_cancel_end,
    List.reverse_append, List.reverse_singleton, List.singleton_append]
  rfl

theorem roll_fh_eq (s : NtHash) (o n : Nat) :
    (s.roll o n).fh = rotl64 s.fh 1 ^^^ rotl64 (hashSeedAt o) s.k ^^^ hashSeedAt n := rfl

theorem roll_rh_eq (s : NtHash) (o n : Nat) :
    (s.roll o n).rh = s.rh.map (fun rev =>
      rotr64 rev 1 ^^^ rotr64 (rcHashSeedAt o) 1 ^^^ rotl64 (rcHashSeedAt n) (s.k - 1)) := rfl

theorem new_curr_true (w : List UInt8) (k : Nat) :
    (NtHash.new w k true).curr = min (xsum (fterm k) 0 w) (xsum (rterm k) 0 w.reverse) := by
  unfold NtHash.curr
  rw [new_rh_true, new_fh]

theorem new_curr_false (w : List UInt8) (k : Nat) :
    (NtHash.new w k false).curr = xsum (fterm k) 0 w := by
  unfold NtHash.curr
  rw [new_rh_false, new_fh]

theorem strand (w : List UInt8) (comp : UInt8 → UInt8) (hc : ∀ b, code (comp b) = code b ^^^ 2)
    (k : Nat) :
    xsum (fterm k) 0 (w.reverse.map comp) = xsum (rterm k) 0 w.reverse ∧
    xsum (rterm k) 0 (w.reverse.map comp).reverse = xsum (fterm k) 0 w := by
  constructor
  · rw [xsum_map]
    refine xsum_congr _ _ _ _ (fun a i _ _ => ?_)
    show rotl64 (hashSeedAt (code (comp a))) _ = rotl64 (rcHashSeedAt (code a)) _
    rw [hc]; rfl
  · rw [← List.map_reverse, List.reverse_reverse, xsum_map]
    refine xsum_congr _ _ _ _ (fun a i _ _ => ?_)
    show rotl64 (rcHashSeedAt (code (comp a))) _ = rotl64 (hashSeedAt (code a)) _
    rw [hc, rcHashSeedAt_xor2]

end SkaModel.NH
