/-
C18 completeness — the sequences `buildVariant` spells for the bubble of a block.  A node is a window of `k-1`
columns of the run of columns it lies in: `U1`, from the entry node through the block to the end of the exit node, or
`U2`, which jumps over the block.  So the two paths are the `(k-1)`-mers of the letters `w1`, `w2` of these runs
(`paths_windows`) and spell them (`LOC.spell_windows`); the paths of the twin are the reverse complemented
`(k-1)`-mers, backwards, and spell the reverse complements.  The first and last windows of `k` columns of the runs
are the four windows at the entries (`run_ends`); the runs themselves are windows of the samples that keep / delete the
block (`run_isWin`).  `lE, lI, lX` cut the runs at the rightmost placement of the block,
`lE2, lI2, lX2` at the leftmost one.
-/
import SkaModel.Lemmas.LOEFar
import SkaModel.Lemmas.LOSpell

namespace SkaModel.LOE

open SkaModel.Spec SkaModel.Skalo SkaModel.LOG SkaModel.LOC

/-- the letters around block `t` (shift `m`): the `(k-1)`-mer that ends at the rightmost placement, the block
there, and the `k-1-m` letters behind it -/
def lE (k : Nat) (F : List UInt8) (B : List (Nat × Nat)) (t : Nat) : List UInt8 :=
  lets F (List.range' (eX k F B t) (k - 1))
def lI (k : Nat) (F : List UInt8) (B : List (Nat × Nat)) (t : Nat) : List UInt8 :=
  lets F (List.range' (bS B t + shf k F B t) (bE B t - bS B t))
def lX (k : Nat) (F : List UInt8) (B : List (Nat × Nat)) (t : Nat) : List UInt8 :=
  lets F (List.range' (bE B t + shf k F B t) (k - 1 - shf k F B t))

/-- the same at the leftmost placement: the `k-1-m` letters before the block, the block, the `(k-1)`-mer
behind it -/
def lE2 (k : Nat) (F : List UInt8) (B : List (Nat × Nat)) (t : Nat) : List UInt8 :=
  lets F (List.range' (eX k F B t) (bS B t - eX k F B t))
def lI2 (F : List UInt8) (B : List (Nat × Nat)) (t : Nat) : List UInt8 :=
  lets F (List.range' (bS B t) (bE B t - bS B t))
def lX2 (k : Nat) (F : List UInt8) (B : List (Nat × Nat)) (t : Nat) : List UInt8 :=
  lets F (List.range' (bE B t) (k - 1))

/-- the windows of `k` columns that start with the entry node of the bubble of block `t`: through the block and
over it; `twK`, `twD`: the windows that end with the entry node of the twin (the node after the block) -/
def enK (k : Nat) (F : List UInt8) (B : List (Nat × Nat)) (t : Nat) : List Nat := List.range' (eX k F B t) k
def enD (k : Nat) (F : List UInt8) (B : List (Nat × Nat)) (t : Nat) : List Nat :=
  List.range' (eX k F B t) (bS B t - eX k F B t) ++ List.range' (bE B t) (k - (bS B t - eX k F B t))
def twK (k : Nat) (B : List (Nat × Nat)) (t : Nat) : List Nat := List.range' (bE B t - 1) k
def twD (k : Nat) (B : List (Nat × Nat)) (t : Nat) : List Nat :=
  List.range' (bS B t - 1) 1 ++ List.range' (bE B t) (k - 1)

theorem lI_cons {k : Nat} {F : List UInt8} {B : List (Nat × Nat)} {t : Nat} (h : bS B t < bE B t) :
    lI k F B t = getF F (bS B t + shf k F B t) ::
      lets F (List.range' (bS B t + shf k F B t + 1) (bE B t - bS B t - 1)) := by
  obtain ⟨l, hl⟩ := Nat.exists_eq_add_of_lt h
  unfold lI
  rw [hl, Nat.add_assoc, Nat.add_sub_cancel_left, Nat.add_sub_cancel, List.range'_succ]
  rfl

theorem lI2_snoc {F : List UInt8} {B : List (Nat × Nat)} {t : Nat} (h : bS B t < bE B t) :
    lI2 F B t = lets F (List.range' (bS B t) (bE B t - bS B t - 1)) ++ [getF F (bE B t - 1)] := by
  obtain ⟨l, hl⟩ := Nat.exists_eq_add_of_lt h
  unfold lI2
  rw [hl, Nat.add_sub_cancel, Nat.add_assoc, Nat.add_sub_cancel_left, Nat.add_sub_cancel, lets_snoc F rfl]

theorem lE_len (k : Nat) (F : List UInt8) (B : List (Nat × Nat)) (t : Nat) : (lE k F B t).length = k - 1 := by
  rw [lE, lets_length, List.length_range']

theorem lI_len (k : Nat) (F : List UInt8) (B : List (Nat × Nat)) (t : Nat) :
    (lI k F B t).length = bE B t - bS B t := by
  rw [lI, lets_length, List.length_range']

theorem lX_len (k : Nat) (F : List UInt8) (B : List (Nat × Nat)) (t : Nat) :
    (lX k F B t).length = k - 1 - shf k F B t := by
  rw [lX, lets_length, List.length_range']

theorem lX2_len (k : Nat) (F : List UInt8) (B : List (Nat × Nat)) (t : Nat) : (lX2 k F B t).length = k - 1 := by
  rw [lX2, lets_length, List.length_range']

theorem lE2_len (k : Nat) (F : List UInt8) (B : List (Nat × Nat)) (t : Nat) :
    (lE2 k F B t).length = bS B t - eX k F B t := by
  rw [lE2, lets_length, List.length_range']

namespace Ctx

def w1 (k : Nat) (F : List UInt8) (B : List (Nat × Nat)) (t : Nat) : List UInt8 :=
  lets F (List.range' (eX k F B t) (bE B t + (k - 1) - eX k F B t))

def w2 (k : Nat) (F : List UInt8) (B : List (Nat × Nat)) (t : Nat) : List UInt8 :=
  lets F (List.range' (eX k F B t) (bS B t - eX k F B t) ++ List.range' (bE B t) (k - 1))

end Ctx

theorem cols_path (F : List UInt8) (U : List Nat) (cols : Nat → List Nat) (x n m : Nat)
    (hc : ∀ i, i < n + 2 → cols (x + i) = cwin U i m) :
    nuF F (cols x) :: (List.range' (x + 1) n).map (fun y => nuF F (cols y)) ++ [nuF F (cols (x + n + 1))] =
      (List.range (n + 1 + 1)).map (kmerAt m (lets F U)) ∧
    nuR F (cols (x + n + 1)) :: (List.range' (x + 1) n).reverse.map (fun y => nuR F (cols y)) ++ [nuR F (cols x)] =
      (List.range (n + 1 + 1)).reverse.map (rcKmerAt m (lets F U)) := by
  have key : ∀ f g : Nat → Nat, (∀ i, i < n + 2 → f (x + i) = g i) →
      f x :: (List.range' (x + 1) n).map f ++ [f (x + n + 1)] = (List.range (n + 2)).map g := by
    intro f g hfg
    have e : (List.range (n + 2)).map g = (List.range' x (n + 2)).map f := by
      rw [List.range'_eq_map_range, List.map_map]
      exact List.map_congr_left (fun i hi => (hfg i (List.mem_range.mp hi)).symm)
    rw [e, List.range'_succ, range'_snoc, List.map_cons, List.map_append, List.map_singleton, Nat.add_right_comm x 1 n]
    rfl
  have hf := key (fun y => nuF F (cols y)) (kmerAt m (lets F U))
    (fun i hi => by rw [hc i hi]; exact (kmerAt_lets F U m i).1.symm)
  have hr := key (fun y => nuR F (cols y)) (rcKmerAt m (lets F U))
    (fun i hi => by rw [hc i hi]; exact (kmerAt_lets F U m i).2.symm)
  refine ⟨hf, ?_⟩
  rw [List.map_reverse, List.map_reverse, ← hr]
  simp only [List.reverse_append, List.reverse_cons, List.reverse_nil, List.nil_append, List.cons_append]

def U1 (k : Nat) (F : List UInt8) (B : List (Nat × Nat)) (t : Nat) : List Nat :=
  List.range' (eX k F B t) (bE B t + (k - 1) - eX k F B t)
def U2 (k : Nat) (F : List UInt8) (B : List (Nat × Nat)) (t : Nat) : List Nat :=
  List.range' (eX k F B t) (bS B t - eX k F B t) ++ List.range' (bE B t) (k - 1)

namespace DFam

variable {k : Nat} {F : List UInt8} {B : List (Nat × Nat)} {C : List (List Bool)}

theorem w1_eq (h : DFam k F B C) {t : Nat} (ht : t < B.length) :
    lE k F B t ++ lI k F B t ++ lX k F B t = Ctx.w1 k F B t ∧ lE2 k F B t ++ lI2 F B t ++ lX2 k F B t = Ctx.w1 k F B t := by
  obtain ⟨n, a, g⟩ := h.geo ht
  obtain ⟨l, hl⟩ := Nat.exists_eq_add_of_lt (h.ex_lt ht).2
  have hE : bE B t - bS B t = l + 1 := by rw [hl, Nat.add_assoc, Nat.add_sub_cancel_left]
  have hn : n = a + l + 1 := by
    have := g.toExit
    have := g.toBlock
    omega
  have he := (h.eX_bounds ht).1
  unfold lE lI lX lE2 lI2 lX2 Ctx.w1
  rw [g.runThrough, g.beforeBlock, hE, ← g.entry, Nat.add_sub_cancel, hn]
  constructor
  · rw [g.entry, lets_glue F _ he, lets_glue F _ (by omega)]
    congr 2
    omega
  · rw [List.append_assoc, lets_glue F (a := bS B t) (n := l + 1) _ hl.symm,
      lets_glue F (a := eX k F B t) (n := a + 1) _ g.toBlock]
    congr 2
    omega

/-- behind the block its first `shf` letters repeat -/
theorem w2_eq (h : DFam k F B C) {t : Nat} (ht : t < B.length) :
    lE k F B t ++ lX k F B t = Ctx.w2 k F B t ∧ lE2 k F B t ++ lX2 k F B t = Ctx.w2 k F B t := by
  obtain ⟨n, a, g⟩ := h.geo ht
  refine ⟨?_, (lets_append _ _ _).symm⟩
  unfold lE lX Ctx.w2
  rw [g.beforeBlock, ← g.entry, Nat.add_sub_cancel,
    ← lets_gap_cont (k := k) (x := eX k F B t) (a := a + 1) g.toBlock (Nat.le_refl _),
    lets_append, lets_append,
    List.append_assoc, lets_glue F _ rfl, Nat.add_comm (shf k F B t)]

theorem win_length (h : DFam k F B C) {t : Nat} (ht : t < B.length) :
    (enK k F B t).length = k ∧ (enD k F B t).length = k ∧ (twK k B t).length = k ∧ (twD k B t).length = k := by
  have he := h.eX_bounds ht
  have hk5 := h.k5
  refine ⟨List.length_range', ?_, List.length_range', ?_⟩
  · rw [enD, List.length_append, List.length_range', List.length_range']
    omega
  · rw [twD, List.length_append, List.length_range', List.length_range']
    omega

theorem paths_windows (h : DFam k F B C) {t : Nat} (ht : t < B.length) :
    (∃ n, (Ctx.w1 k F B t).length = k - 1 + n ∧
      (fwdBub k F B t).pa = (List.range (n + 1)).map (kmerAt (k - 1) (Ctx.w1 k F B t)) ∧
      (revBub k F B t).pa = (List.range (n + 1)).reverse.map (rcKmerAt (k - 1) (Ctx.w1 k F B t))) ∧
    ∃ n, (Ctx.w2 k F B t).length = k - 1 + n ∧
      (fwdBub k F B t).pb = (List.range (n + 1)).map (kmerAt (k - 1) (Ctx.w2 k F B t)) ∧
      (revBub k F B t).pb = (List.range (n + 1)).reverse.map (rcKmerAt (k - 1) (Ctx.w2 k F B t)) := by
  obtain ⟨n, a, g⟩ := h.geo ht
  unfold Bub.pa Bub.pb fwdBub revBub Ctx.w1 Ctx.w2
  simp only [g.innerThrough, g.innerOver]
  constructor
  · obtain ⟨p, q⟩ := cols_path F (U1 k F B t) (fun y => Nd.cols k B (.c y)) (eX k F B t) n (k - 1)
      (fun i hi => by
        rw [U1, g.runThrough]
        exact (cwin_range' (Nat.add_le_add_right (Nat.le_of_lt_succ hi) _)).symm)
    rw [g.toExit] at p q
    exact ⟨n + 1, by rw [lets_length, List.length_range', g.runThrough, Nat.add_comm], p, q⟩
  · obtain ⟨p, q⟩ := cols_path F (U2 k F B t) (fun y => Nd.cols k B (.g t y)) (eX k F B t) a (k - 1)
      (fun i hi => by
        rw [U2, g.beforeBlock,
          cwin_gap (Nat.le_of_lt_succ hi) (Nat.le_trans (g.entry ▸ Nat.le_add_right _ _) (Nat.le_add_left _ _))
          (Nat.add_le_add_right (Nat.le_of_lt_succ hi) _), ← g.beforeBlock, Nat.sub_sub]
        rfl)
    -- the entry node spells like the jumping window at its first column, the exit node is the one at `bS`
    rw [g.toBlock, cols_g_bS, nuF_congr (h.en_gap ht)] at p
    rw [g.toBlock, cols_g_bS, nuR_congr (h.en_gap ht)] at q
    exact ⟨a + 1, by
      rw [lets_length, List.length_append, List.length_range', List.length_range', g.beforeBlock, Nat.add_comm],
      p, q⟩

theorem run_isWin (h : DFam k F B C) {t : Nat} (ht : t < B.length) (c : List Bool) :
    (c.getD t false = true → IsWin (U1 k F B t).length F.length B c (U1 k F B t)) ∧
    (c.getD t false = false → IsWin (U2 k F B t).length F.length B c (U2 k F B t)) := by
  have hx := h.ex_lt ht
  constructor
  · intro hf
    rw [U1, List.length_range']
    exact h.win_keep c ht hf (Nat.lt_of_lt_of_le (h.eX_near ht)
      (Nat.add_le_add_left (Nat.le_mul_of_pos_left k (by decide)) _)) (by omega)
  · intro hf
    obtain ⟨n, a, g⟩ := h.geo ht
    have ea := g.toBlock
    have hak := g.entry
    have hk2 := h.k2
    rw [U2, List.length_append, List.length_range', List.length_range', g.beforeBlock]
    have := h.win_gap c ht hf (x := eX k F B t) (n := a + 1 + (k - 1)) (Nat.lt_of_succ_lt hx.1) (by omega) (by omega)
    rwa [g.beforeBlock, Nat.add_sub_cancel_left] at this

theorem w_base (h : DFam k F B C) {t : Nat} (ht : t < B.length) :
    AllBase (Ctx.w1 k F B t) ∧ AllBase (Ctx.w2 k F B t) := by
  obtain ⟨c1, -, hf1⟩ := h.kept t ht
  obtain ⟨c2, -, hf2⟩ := h.del t ht
  exact ⟨h.isWin_base ((h.run_isWin ht c1).1 hf1), h.isWin_base ((h.run_isWin ht c2).2 hf2)⟩

/-- in the form `LOC.kmerAt_rc` takes (`a + k + b = s.length`, here `a = 0`): `b` places the last window of `k` letters -/
theorem run_length (h : DFam k F B C) {t : Nat} (ht : t < B.length) :
    0 + k + (bE B t - eX k F B t - 1) = (Ctx.w1 k F B t).length ∧
    0 + k + (bS B t - eX k F B t - 1) = (Ctx.w2 k F B t).length := by
  obtain ⟨n, a, g⟩ := h.geo ht
  rw [Ctx.w1, Ctx.w2, lets_length, lets_length, List.length_append, List.length_range', List.length_range',
    List.length_range', g.innerThrough, g.innerOver, g.runThrough, g.beforeBlock]
  have hak := g.entry
  omega

theorem run_ends (h : DFam k F B C) {t : Nat} (ht : t < B.length) :
    cwin (U1 k F B t) 0 k = enK k F B t ∧ cwin (U2 k F B t) 0 k = enD k F B t ∧
    cwin (U1 k F B t) (bE B t - eX k F B t - 1) k = twK k B t ∧
    cwin (U2 k F B t) (bS B t - eX k F B t - 1) k = twD k B t := by
  obtain ⟨n, a, g⟩ := h.geo ht
  rw [U1, U2, enD, twK, twD, g.innerThrough, g.innerOver, g.runThrough, g.beforeBlock,
    Nat.sub_eq_of_eq_add g.toExit.symm, Nat.sub_eq_of_eq_add g.toBlock.symm]
  have hak := g.entry
  refine ⟨cwin_range' (by omega), ?_, ?_, ?_⟩
  · rw [cwin_gap (Nat.zero_le _) (by omega) (by omega)]
    rfl
  · rw [cwin_range' (by omega)]
  · rw [cwin_gap (Nat.le_add_right a 1) (by omega) (by omega), Nat.add_sub_cancel_left]

theorem rc_eq (h : DFam k F B C) {t : Nat} (ht : t < B.length) :
    rcSeq (lX2 k F B t) ++ rcSeq (lI2 F B t) ++ rcSeq (lE2 k F B t) = rcSeq (Ctx.w1 k F B t) ∧
    rcSeq (lX2 k F B t) ++ rcSeq (lE2 k F B t) = rcSeq (Ctx.w2 k F B t) := by
  rw [← (h.w1_eq ht).2, ← (h.w2_eq ht).2, rcSeq_append, rcSeq_append, rcSeq_append, List.append_assoc]
  exact ⟨rfl, rfl⟩

end DFam

namespace Ctx

variable {W k : Nat} {F : List UInt8} {B : List (Nat × Nat)} {C : List (List Bool)} {a : Arr} {names : List String}

theorem spell (cx : Ctx W k F B C a names) (starts ends : List Nat) {t : Nat} (ht : t < B.length) :
    (buildVariant W (k - 1) starts ends (fwdBub k F B t).en (fwdBub k F B t).pa).1 = w1 k F B t ∧
    (buildVariant W (k - 1) starts ends (fwdBub k F B t).en (fwdBub k F B t).pb).1 = w2 k F B t ∧
    (buildVariant W (k - 1) starts ends (revBub k F B t).en (revBub k F B t).pa).1 = rcSeq (w1 k F B t) ∧
    (buildVariant W (k - 1) starts ends (revBub k F B t).en (revBub k F B t).pb).1 = rcSeq (w2 k F B t) := by
  have hk5 := cx.h.k5
  have hkW := cx.kW
  have hk : 1 ≤ k - 1 := by omega
  have hW : 2 * (k - 1 + 1) ≤ W := by omega
  obtain ⟨⟨n1, l1, p1, q1⟩, n2, l2, p2, q2⟩ := cx.h.paths_windows ht
  obtain ⟨b1, b2⟩ := cx.h.w_base ht
  exact ⟨spell_windows hk hW starts ends b1 l1 rfl p1, spell_windows hk hW starts ends b2 l2 rfl p2,
    spell_windows_rc hk hW starts ends b1 l1 rfl q1, spell_windows_rc hk hW starts ends b2 l2 rfl q2⟩

end Ctx

end SkaModel.LOE
