/-
Helper lemmas for `Props/C11Offsets.lean`: `zipIdx` with an explicit start index,
mapped to `SampleDict`s, commutes with `take`/`drop`/`++`.
-/
import SkaModel.Impl.BuildAndMerge

namespace SkaModel.OFF

open SkaModel

/-- the raw samples `l` placed at slots `n, n+1, …` -/
def idxd (k : Nat) (rc : Bool) (l : List RawSample) (n : Nat) : List SampleDict :=
  (l.zipIdx n).map (fun ri => ri.1.at k rc ri.2)

theorem idxd_nil (k : Nat) (rc : Bool) (n : Nat) : idxd k rc [] n = [] := rfl

theorem idxd_cons (k : Nat) (rc : Bool) (a : RawSample) (l : List RawSample) (n : Nat) :
    idxd k rc (a :: l) n = a.at k rc n :: idxd k rc l (n + 1) := by
  simp [idxd, List.zipIdx_cons]

theorem length_idxd (k : Nat) (rc : Bool) (l : List RawSample) (n : Nat) : (idxd k rc l n).length = l.length := by
  simp [idxd]

theorem idxd_append (k : Nat) (rc : Bool) (a b : List RawSample) (n : Nat) :
    idxd k rc (a ++ b) n = idxd k rc a n ++ idxd k rc b (n + a.length) := by
  simp [idxd, List.zipIdx_append]

theorem idxd_take (k : Nat) (rc : Bool) (l : List RawSample) : ∀ (n m : Nat),
    (idxd k rc l n).take m = idxd k rc (l.take m) n := by
  induction l with
  | nil => intro n m; simp [idxd_nil]
  | cons a l ih =>
    intro n m
    cases m with
    | zero => simp [idxd_nil]
    | succ m => simp only [idxd_cons, List.take_succ_cons, ih]

theorem idxd_drop (k : Nat) (rc : Bool) (l : List RawSample) : ∀ (n m : Nat),
    (idxd k rc l n).drop m = idxd k rc (l.drop m) (n + m) := by
  induction l with
  | nil => intro n m; simp [idxd_nil]
  | cons a l ih =>
    intro n m
    cases m with
    | zero => simp
    | succ m =>
      simp only [idxd_cons, List.drop_succ_cons, ih]
      congr 1
      omega

/-- the form used by `multiAppendOff` (`idx + offset`) -/
theorem map_add_eq_idxd (k : Nat) (rc : Bool) (offset : Nat) (l : List RawSample) (n : Nat) :
    (l.zipIdx n).map (fun ri => ri.1.at k rc (ri.2 + offset)) = idxd k rc l (n + offset) := by
  rw [idxd, Nat.add_comm, ← List.map_snd_add_zipIdx_eq_zipIdx, List.map_map]
  rfl

theorem getElem_idxd (k : Nat) (rc : Bool) (l : List RawSample) (n j : Nat) (h : j < (idxd k rc l n).length) :
    (idxd k rc l n)[j] = (l[j]'(by rw [length_idxd] at h; exact h)).at k rc (n + j) := by
  simp only [idxd, List.getElem_map, List.getElem_zipIdx]

theorem mem_idxd {k : Nat} {rc : Bool} {l : List RawSample} {n : Nat} {s : SampleDict} (h : s ∈ idxd k rc l n) :
    ∃ r ∈ l, ∃ i, s = r.at k rc i := by
  simp only [idxd, List.mem_map] at h
  obtain ⟨ri, hri, rfl⟩ := h
  exact ⟨ri.1, List.fst_mem_of_mem_zipIdx hri, ri.2, rfl⟩

end SkaModel.OFF
