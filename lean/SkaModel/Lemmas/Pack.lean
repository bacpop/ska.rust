/-
Lists of 2-bit codes and `Spec.packL` (base-4 packing, most significant first):
its arithmetic, its injectivity, the reverse complement `Spec.rcCodes`, and the
bit-level view.
-/
import SkaModel.Impl.Bits
import SkaModel.Spec.Windows
import SkaModel.Lemmas.Bits

namespace SkaModel

open SkaModel.Spec

def Codes (cs : List Nat) : Prop := ∀ c ∈ cs, c < 4

theorem Codes.nil : Codes [] := by intro c h; cases h

theorem Codes.cons {c : Nat} {cs : List Nat} (hc : c < 4) (h : Codes cs) : Codes (c :: cs) := by
  intro x hx
  rcases List.mem_cons.mp hx with rfl | hx
  · exact hc
  · exact h x hx

theorem Codes.head {c : Nat} {cs : List Nat} (h : Codes (c :: cs)) : c < 4 :=
  h c (List.mem_cons_self)

theorem Codes.tail {c : Nat} {cs : List Nat} (h : Codes (c :: cs)) : Codes cs :=
  fun x hx => h x (List.mem_cons_of_mem _ hx)

theorem Codes.append {a b : List Nat} (ha : Codes a) (hb : Codes b) : Codes (a ++ b) := by
  intro x hx
  rcases List.mem_append.mp hx with h | h
  · exact ha x h
  · exact hb x h

theorem Codes.left {a b : List Nat} (h : Codes (a ++ b)) : Codes a :=
  fun x hx => h x (List.mem_append_left _ hx)

theorem Codes.right {a b : List Nat} (h : Codes (a ++ b)) : Codes b :=
  fun x hx => h x (List.mem_append_right _ hx)

theorem Codes.take {cs : List Nat} (h : Codes cs) (n : Nat) : Codes (cs.take n) :=
  fun x hx => h x (List.mem_of_mem_take hx)

theorem Codes.drop {cs : List Nat} (h : Codes cs) (n : Nat) : Codes (cs.drop n) :=
  fun x hx => h x (List.mem_of_mem_drop hx)

theorem Codes.reverse {cs : List Nat} (h : Codes cs) : Codes cs.reverse :=
  fun x hx => h x (List.mem_reverse.mp hx)

theorem Codes.replicate (n : Nat) {c : Nat} (hc : c < 4) : Codes (List.replicate n c) := by
  intro x hx
  rw [(List.mem_replicate.mp hx).2]; exact hc

theorem Codes.map_of {α : Type} (l : List α) (f : α → Nat) (hf : ∀ a, f a < 4) : Codes (l.map f) := by
  intro x hx
  obtain ⟨a, _, rfl⟩ := List.mem_map.mp hx
  exact hf a

theorem code_lt (b : UInt8) : code b < 4 := by
  unfold code encodeBase
  have h : (b >>> 1 &&& 3).toNat = (b >>> 1).toNat &&& 3 := UInt8.toNat_and _ _
  rw [h]
  have : (b >>> 1).toNat &&& 3 ≤ 3 := Nat.and_le_right
  omega

theorem xor2_lt {c : Nat} (h : c < 4) : c ^^^ 2 < 4 :=
  Nat.xor_lt_two_pow (n := 2) h (by decide)

theorem xor2_xor2 (c : Nat) : (c ^^^ 2) ^^^ 2 = c := by
  rw [Nat.xor_assoc, Nat.xor_self, Nat.xor_zero]

theorem packL_nil : packL [] = 0 := rfl

theorem foldl_pack (cs : List Nat) (a : Nat) :
    cs.foldl (fun a c => 4 * a + c) a = a * 4 ^ cs.length + packL cs := by
  induction cs generalizing a with
  | nil => simp [packL]
  | cons c cs ih =>
    unfold packL
    simp only [List.foldl_cons, List.length_cons]
    rw [ih (4 * a + c), ih (4 * 0 + c), Nat.pow_succ]
    simp only [Nat.mul_zero, Nat.zero_add, Nat.add_mul, Nat.add_assoc]
    congr 1
    rw [Nat.mul_comm 4 a, Nat.mul_assoc, Nat.mul_comm 4]

theorem packL_cons (c : Nat) (cs : List Nat) :
    packL (c :: cs) = c * 4 ^ cs.length + packL cs := by
  have := foldl_pack cs (4 * 0 + c)
  simp only [Nat.mul_zero, Nat.zero_add] at this
  show List.foldl (fun a c => 4 * a + c) (4 * 0 + c) cs = _
  simpa using this

theorem packL_append (a b : List Nat) :
    packL (a ++ b) = packL a * 4 ^ b.length + packL b := by
  unfold packL
  rw [List.foldl_append, foldl_pack]
  rfl

theorem packL_snoc (a : List Nat) (c : Nat) : packL (a ++ [c]) = 4 * packL a + c := by
  unfold packL
  rw [List.foldl_append]
  rfl

theorem packL_singleton (c : Nat) : packL [c] = c := by
  simp [packL]

theorem packL_lt {cs : List Nat} (h : Codes cs) : packL cs < 4 ^ cs.length := by
  induction cs with
  | nil => simp [packL]
  | cons c cs ih =>
    rw [packL_cons, List.length_cons, Nat.pow_succ]
    have := ih h.tail
    have hc := h.head
    have h1 : c * 4 ^ cs.length ≤ 3 * 4 ^ cs.length := Nat.mul_le_mul_right _ (by omega)
    omega

theorem packL_lt_of_length {cs : List Nat} (h : Codes cs) {n : Nat} (hl : cs.length = n) :
    packL cs < 4 ^ n :=
  hl ▸ packL_lt h

theorem packL_replicate_zero (n : Nat) : packL (List.replicate n 0) = 0 := by
  induction n with
  | zero => rfl
  | succ n ih => rw [List.replicate_succ, packL_cons, ih]; simp

theorem packL_append_zeros (a : List Nat) (n : Nat) :
    packL (a ++ List.replicate n 0) = packL a * 4 ^ n := by
  rw [packL_append, packL_replicate_zero, List.length_replicate, Nat.add_zero]

theorem packL_zeros_append (a : List Nat) (n : Nat) :
    packL (List.replicate n 0 ++ a) = packL a := by
  rw [packL_append, packL_replicate_zero, Nat.zero_mul, Nat.zero_add]

theorem packL_append_div {a b : List Nat} (hb : Codes b) :
    packL (a ++ b) / 4 ^ b.length = packL a := by
  rw [packL_append, Nat.mul_comm, Nat.mul_add_div (Nat.pow_pos (by omega)),
    Nat.div_eq_of_lt (packL_lt hb), Nat.add_zero]

theorem packL_append_mod {a b : List Nat} (hb : Codes b) :
    packL (a ++ b) % 4 ^ b.length = packL b := by
  rw [packL_append, Nat.mul_comm, Nat.mul_add_mod, Nat.mod_eq_of_lt (packL_lt hb)]

theorem packL_lt_two_pow {cs : List Nat} (h : Codes cs) {W : Nat} (hW : 2 * cs.length ≤ W) :
    packL cs < 2 ^ W :=
  Nat.lt_of_lt_of_le (packL_lt h) (four_pow_le_of hW)

theorem packL_inj {a b : List Nat} (ha : Codes a) (hb : Codes b) (hl : a.length = b.length)
    (h : packL a = packL b) : a = b := by
  induction a generalizing b with
  | nil =>
    cases b with
    | nil => rfl
    | cons _ _ => simp at hl
  | cons x xs ih =>
    cases b with
    | nil => simp at hl
    | cons y ys =>
      have hl' : xs.length = ys.length := by simpa using hl
      rw [packL_cons, packL_cons, hl'] at h
      obtain ⟨rfl, h'⟩ := mul_add_inj (hl' ▸ packL_lt ha.tail) (packL_lt hb.tail) h
      rw [ih ha.tail hb.tail hl' h']

theorem shl_packL_or {W c : Nat} {cs : List Nat} (hcs : Codes cs) (hc : c < 4)
    (hW : 2 * (cs.length + 1) ≤ W) : shl W (packL cs) 2 ||| c = packL (cs ++ [c]) := by
  rw [shl_two (packL_lt hcs) hW, or_code hc, packL_snoc]

/-- `shl_packL_or` in the upper arm, where every value carries the factor `4 ^ h` -/
theorem shl_packL_or_scaled {W h c : Nat} {cs : List Nat} (hcs : Codes cs) (hc : c < 4)
    (hW : 2 * (cs.length + h + 1) ≤ W) :
    shl W (packL cs * 4 ^ h) 2 ||| shl W c (h * 2) = packL (cs ++ [c]) * 4 ^ h := by
  have hlt : packL cs * 4 ^ h < 4 ^ (cs.length + h) := by
    rw [Nat.pow_add]
    exact Nat.mul_lt_mul_of_pos_right (packL_lt hcs) (Nat.pow_pos (by omega))
  rw [shl_two hlt hW, shl_four_pow (m := 1) hc (by omega), ← Nat.mul_assoc, or_mul_four_pow,
    or_code hc, packL_snoc]

theorem packL_snoc_shr (l : List Nat) {d : Nat} (hd : d < 4) : packL (l ++ [d]) >>> 2 = packL l := by
  rw [packL_snoc, shr_two]
  omega

theorem packL_or_shl {W c n : Nat} {l : List Nat} (hl : Codes l) (hc : c < 4) (hn : l.length = n)
    (hW : 2 * (n + 1) ≤ W) : packL l ||| shl W c (2 * n) = packL (c :: l) := by
  rw [Nat.mul_comm 2 n, shl_four_pow (m := 1) hc (by omega), Nat.or_comm,
    mul_four_pow_or (packL_lt_of_length hl hn), ← hn, ← packL_cons]

theorem rcCodes_length (cs : List Nat) : (rcCodes cs).length = cs.length := by
  simp [rcCodes]

theorem rcCodes_codes {cs : List Nat} (h : Codes cs) : Codes (rcCodes cs) := by
  intro x hx
  unfold rcCodes at hx
  obtain ⟨a, ha, rfl⟩ := List.mem_map.mp hx
  exact xor2_lt (h a (List.mem_reverse.mp ha))

theorem rcCodes_rcCodes (cs : List Nat) : rcCodes (rcCodes cs) = cs := by
  unfold rcCodes
  rw [← List.map_reverse, List.reverse_reverse, List.map_map]
  have : ((fun x => x ^^^ 2) ∘ fun x => x ^^^ 2) = id := by
    funext c; exact xor2_xor2 c
  rw [this, List.map_id]

theorem rcCodes_append (a b : List Nat) : rcCodes (a ++ b) = rcCodes b ++ rcCodes a := by
  simp [rcCodes]

theorem rcCodes_take (l : List Nat) (n : Nat) : (rcCodes l).take n = rcCodes (l.drop (l.length - n)) := by
  unfold rcCodes
  rw [← List.map_take, List.take_reverse]

theorem rcCodes_drop (l : List Nat) (n : Nat) : (rcCodes l).drop n = rcCodes (l.take (l.length - n)) := by
  unfold rcCodes
  rw [← List.map_drop, List.drop_reverse]

theorem rcCodes_drop_one_take (F : List Nat) (n : Nat) (hlen : F.length = n + 1) :
    rcCodes (F.drop 1) = (rcCodes F).take n ∧ rcCodes (F.take n) = (rcCodes F).drop 1 :=
  ⟨by rw [rcCodes_take, hlen, Nat.add_sub_cancel_left], by rw [rcCodes_drop, hlen, Nat.add_sub_cancel]⟩

theorem rcCodes_cons (c : Nat) (a : List Nat) : rcCodes (c :: a) = rcCodes a ++ [c ^^^ 2] := by
  simp [rcCodes]

theorem rcCodes_snoc (c : Nat) (a : List Nat) : rcCodes (a ++ [c]) = (c ^^^ 2) :: rcCodes a := by
  simp [rcCodes]

theorem rcCodes_replicate_zero (n : Nat) : rcCodes (List.replicate n 0) = List.replicate n 2 := by
  simp [rcCodes]

theorem testBit_four_mul_add (a c i : Nat) (hc : c < 4) :
    (4 * a + c).testBit i = if i < 2 then c.testBit i else a.testBit (i - 2) := by
  have h : 4 * a + c = a <<< 2 ||| c := by
    rw [← Nat.shiftLeft_add_eq_or_of_lt (i := 2) (by omega), Nat.shiftLeft_eq]; omega
  rw [h, Nat.testBit_or, Nat.testBit_shiftLeft]
  by_cases hi : i < 2
  · simp [hi, show ¬ i ≥ 2 by omega]
  · have : c.testBit i = false :=
      Nat.testBit_lt_two_pow (Nat.lt_of_lt_of_le hc (by
        calc 4 = 2 ^ 2 := rfl
          _ ≤ 2 ^ i := Nat.pow_le_pow_right (by omega) (by omega)))
    simp [hi, show i ≥ 2 by omega, this]

theorem packL_reverse_testBit (r : List Nat) (h : Codes r) (i : Nat) :
    (packL r.reverse).testBit i = (r.getD (i / 2) 0).testBit (i % 2) := by
  induction r generalizing i with
  | nil => simp [packL]
  | cons c r ih =>
    rw [List.reverse_cons, packL_snoc, testBit_four_mul_add _ _ _ h.head]
    by_cases hi : i < 2
    · have h0 : i / 2 = 0 := by omega
      have h1 : i % 2 = i := by omega
      simp [hi, h0, h1]
    · rw [if_neg hi, ih h.tail]
      have h0 : i / 2 = (i - 2) / 2 + 1 := by omega
      have h1 : (i - 2) % 2 = i % 2 := by omega
      rw [h0, h1, List.getD_cons_succ]

theorem packL_testBit (cs : List Nat) (h : Codes cs) (i : Nat) :
    (packL cs).testBit i = (cs.reverse.getD (i / 2) 0).testBit (i % 2) := by
  have := packL_reverse_testBit cs.reverse h.reverse i
  rwa [List.reverse_reverse] at this

end SkaModel
