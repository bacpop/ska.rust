/-
Letter strings over A, C, G, T: their 2-bit codes, windows (`win`), reverse complements
(`rcSeq`) and the packed `k`-mers the program computes from them (`encodeKmer`, `rev_comp`).
-/
import SkaModel.Lemmas.LOCDefs
import SkaModel.Props.C16Bits
import SkaModel.Lemmas.Windows
import SkaModel.Lemmas.ListLemmas
import SkaModel.Lemmas.SNP

namespace SkaModel.LOC

open SkaModel SkaModel.Spec SkaModel.Props.C16

def cds (s : List UInt8) : List Nat := s.map code

def AllBase (s : List UInt8) : Prop := ∀ b ∈ s, isBase b = true

/-! `isBase` has the body of `SNP.acgt`, so a hypothesis `isBase b = true` is accepted where `SNP` asks for
`acgt b = true`. -/

theorem isBase_cases {b : UInt8} (h : isBase b = true) : b = 65 ∨ b = 67 ∨ b = 71 ∨ b = 84 :=
  SNP.acgt_cases h

theorem code_compl {b : UInt8} (h : isBase b = true) : code (compl b) = code b ^^^ 2 := by
  rcases isBase_cases h with rfl | rfl | rfl | rfl <;> decide

theorem isBase_compl {b : UInt8} (h : isBase b = true) : isBase (compl b) = true := by
  rcases isBase_cases h with rfl | rfl | rfl | rfl <;> decide

theorem compl_cases (b : UInt8) : b = 65 ∨ b = 84 ∨ b = 67 ∨ b = 71 ∨ compl b = b := by
  by_cases h1 : b = 65
  · exact Or.inl h1
  by_cases h2 : b = 84
  · exact Or.inr (Or.inl h2)
  by_cases h3 : b = 67
  · exact Or.inr (Or.inr (Or.inl h3))
  by_cases h4 : b = 71
  · exact Or.inr (Or.inr (Or.inr (Or.inl h4)))
  exact Or.inr (Or.inr (Or.inr (Or.inr (by simp [compl, h1, h2, h3, h4]))))

theorem compl_compl (b : UInt8) : compl (compl b) = b := by
  rcases compl_cases b with rfl | rfl | rfl | rfl | h
  · decide
  · decide
  · decide
  · decide
  · rw [h, h]

theorem compl_inj {a b : UInt8} (e : compl a = compl b) : a = b := by
  rw [← compl_compl a, e, compl_compl]

theorem complCol_complCol (c : List UInt8) : complCol (complCol c) = c := by
  induction c with
  | nil => rfl
  | cons b bs ih =>
    show compl (compl b) :: complCol (complCol bs) = b :: bs
    rw [compl_compl, ih]

theorem compl_ne {b : UInt8} (h : isBase b = true) : compl b ≠ b := by
  rcases isBase_cases h with rfl | rfl | rfl | rfl <;> decide

theorem code_inj_base {b b' : UInt8} (h : isBase b = true) (h' : isBase b' = true)
    (e : code b = code b') : b = b' :=
  SNP.code_inj h h' e

theorem decode_code_base {b : UInt8} (h : isBase b = true) : decodeBase (code b) = b :=
  SNP.decode_code h

theorem isBase_decodeBase (c : Nat) : isBase (decodeBase c) = true := by
  unfold decodeBase
  split
  · decide
  · split
    · decide
    · split <;> decide

theorem cds_length (s : List UInt8) : (cds s).length = s.length := List.length_map ..

theorem cds_codes (s : List UInt8) : Codes (cds s) := Codes.map_of _ _ code_lt

theorem cds_append (a b : List UInt8) : cds (a ++ b) = cds a ++ cds b := List.map_append

theorem AllBase.append {a b : List UInt8} (ha : AllBase a) (hb : AllBase b) : AllBase (a ++ b) := by
  intro x hx
  rcases List.mem_append.mp hx with h | h
  · exact ha x h
  · exact hb x h

theorem AllBase.take {s : List UInt8} (h : AllBase s) (n : Nat) : AllBase (s.take n) :=
  fun b hb => h b (List.mem_of_mem_take hb)

theorem AllBase.drop {s : List UInt8} (h : AllBase s) (n : Nat) : AllBase (s.drop n) :=
  fun b hb => h b (List.mem_of_mem_drop hb)

theorem AllBase.win {s : List UInt8} (h : AllBase s) (j m : Nat) : AllBase (win s j m) :=
  (h.drop j).take m

theorem AllBase.rcSeq {s : List UInt8} (h : AllBase s) : AllBase (rcSeq s) := by
  intro b hb
  unfold LOC.rcSeq at hb
  obtain ⟨x, hx, rfl⟩ := List.mem_map.mp hb
  exact isBase_compl (h x (List.mem_reverse.mp hx))

theorem cds_rcSeq {w : List UInt8} (h : AllBase w) : cds (rcSeq w) = rcCodes (cds w) := by
  unfold cds rcSeq rcCodes
  rw [List.map_map, ← List.map_reverse, List.map_map]
  apply List.map_congr_left
  intro b hb
  exact code_compl (h b (List.mem_reverse.mp hb))

theorem cds_inj {w w' : List UInt8} (h : AllBase w) (h' : AllBase w') (e : cds w = cds w') : w = w' := by
  induction w generalizing w' with
  | nil =>
    cases w' with
    | nil => rfl
    | cons _ _ => simp [cds] at e
  | cons x xs ih =>
    cases w' with
    | nil => simp [cds] at e
    | cons y ys =>
      simp only [cds, List.map_cons, List.cons.injEq] at e
      have hx : x = y := code_inj_base (h x (List.mem_cons_self ..)) (h' y (List.mem_cons_self ..)) e.1
      rw [hx, ih (fun b hb => h b (List.mem_cons_of_mem _ hb)) (fun b hb => h' b (List.mem_cons_of_mem _ hb)) e.2]

theorem rcSeq_length (w : List UInt8) : (rcSeq w).length = w.length := by
  simp [rcSeq]

theorem rcSeq_rcSeq {w : List UInt8} (h : AllBase w) : rcSeq (rcSeq w) = w := by
  apply cds_inj h.rcSeq.rcSeq h
  rw [cds_rcSeq h.rcSeq, cds_rcSeq h, rcCodes_rcCodes]

theorem rcSeq_inj {w w' : List UInt8} (h : AllBase w) (h' : AllBase w') (e : rcSeq w = rcSeq w') : w = w' := by
  rw [← rcSeq_rcSeq h, e, rcSeq_rcSeq h']

theorem rcSeq_append (a b : List UInt8) : rcSeq (a ++ b) = rcSeq b ++ rcSeq a := by
  simp [rcSeq]

theorem rcSeq_snoc (w : List UInt8) (x : UInt8) : rcSeq (w ++ [x]) = compl x :: rcSeq w := by
  rw [rcSeq_append]; rfl

theorem rcSeq_take (w : List UInt8) (n : Nat) : (rcSeq w).take n = rcSeq (w.drop (w.length - n)) := by
  unfold rcSeq
  rw [← List.map_take, List.take_reverse]

theorem rcSeq_drop (w : List UInt8) (n : Nat) : (rcSeq w).drop n = rcSeq (w.take (w.length - n)) := by
  unfold rcSeq
  rw [← List.map_drop, List.drop_reverse]

theorem rcSeq_take_pred' {w : List UInt8} {n : Nat} (hl : w.length = n + 1) :
    (rcSeq w).take n = rcSeq (w.drop 1) := by
  rw [rcSeq_take, hl, Nat.add_sub_cancel_left]

theorem win_length {s : List UInt8} {j m : Nat} (h : j + m ≤ s.length) : (win s j m).length = m := by
  unfold win
  rw [List.length_take, List.length_drop, Nat.min_eq_left (Nat.le_sub_of_add_le' h)]

theorem win_length_le (s : List UInt8) (j m : Nat) : (win s j m).length ≤ m := by
  unfold win
  rw [List.length_take]
  omega

theorem win_take (s : List UInt8) (j m n : Nat) (h : n ≤ m) : (win s j m).take n = win s j n := by
  unfold win
  rw [List.take_take, Nat.min_eq_left h]

theorem win_drop (s : List UInt8) (j m n : Nat) : (win s j m).drop n = win s (j + n) (m - n) := by
  unfold win
  rw [List.drop_take, List.drop_drop]

theorem win_win (s : List UInt8) (j m i n : Nat) (h : i + n ≤ m) : win (win s j m) i n = win s (j + i) n := by
  unfold win
  rw [List.drop_take, List.drop_drop, List.take_take, Nat.min_eq_left (by omega)]

theorem win_getElem? (s : List UInt8) (j m i : Nat) (h : i < m) : (win s j m)[i]? = s[j + i]? := by
  unfold win
  rw [List.getElem?_take_of_lt h, List.getElem?_drop]

theorem win_cons {s : List UInt8} {j m : Nat} (h : j < s.length) :
    win s j (m + 1) = s.getD j 0 :: win s (j + 1) m := by
  unfold win
  rw [List.drop_eq_getElem_cons h, List.take_succ_cons, List.getD_eq_getElem?_getD,
    List.getElem?_eq_getElem h]
  rfl

theorem win_append (s : List UInt8) (j m n : Nat) : win s j (m + n) = win s j m ++ win s (j + m) n := by
  unfold win
  rw [List.take_add, List.drop_drop]

theorem win_glue {s t : List UInt8} {i j m : Nat} (hm : 1 ≤ m) (e0 : win s i m = win t j m)
    (e1 : win s (i + 1) m = win t (j + 1) m) : win s i (m + 1) = win t j (m + 1) := by
  rw [Nat.add_comm m 1, win_append, win_append, e1, ← win_take s i m 1 hm, ← win_take t j m 1 hm, e0]

theorem win_zero_length {s : List UInt8} {L : Nat} (h : s.length = L) : win s 0 L = s := by
  unfold win
  rw [List.drop_zero, ← h, List.take_length]

theorem win_extend {s t : List UInt8} {m n : Nat} (hm : 1 ≤ m) (h : ∀ i, i ≤ n → win s i m = win t i m) :
    ∀ r i, i + r ≤ n → win s i (m + r) = win t i (m + r)
  | 0, i, hi => h i hi
  | r + 1, i, hi => win_glue (Nat.le_trans hm (Nat.le_add_right m r)) (win_extend hm h r i (Nat.le_of_succ_le hi))
      (win_extend hm h r (i + 1) (Nat.add_right_comm i 1 r ▸ hi))

theorem win_succ {s : List UInt8} {j m : Nat} (h : j + m < s.length) :
    win s j (m + 1) = win s j m ++ [s.getD (j + m) 0] := by
  rw [win_append, show win s (j + m) 1 = [s.getD (j + m) 0] from win_cons h]

theorem win_split {s : List UInt8} {j h : Nat} (hj : j + (2 * h + 1) ≤ s.length) :
    win s j (2 * h + 1) = win s j h ++ [s.getD (j + h) 0] ++ win s (j + h + 1) h := by
  have e : 2 * h + 1 = (h + 1) + h := by omega
  rw [e, win_append, win_succ (by omega), Nat.add_assoc]

theorem win_next {s t : List UInt8} {j m : Nat} (hs : j + m + 1 ≤ s.length) (ht : j + m + 1 ≤ t.length)
    (e : win s j m = win t j m) (hl : s.getD (j + m) 0 = t.getD (j + m) 0) :
    win s (j + 1) m = win t (j + 1) m := by
  have h : win s j (m + 1) = win t j (m + 1) := by rw [win_succ (by omega), win_succ (by omega), e, hl]
  simpa only [win_drop, Nat.add_sub_cancel] using congrArg (List.drop 1) h

theorem win_prev {s t : List UInt8} {j m : Nat} (hs : j + m + 1 ≤ s.length) (ht : j + m + 1 ≤ t.length)
    (e : win s (j + 1) m = win t (j + 1) m) (hl : s.getD j 0 = t.getD j 0) :
    win s j m = win t j m := by
  have h : win s j (m + 1) = win t j (m + 1) := by rw [win_cons (by omega), win_cons (by omega), e, hl]
  simpa only [win_take _ _ _ _ (Nat.le_succ m)] using congrArg (List.take m) h

/-! The two `(k-1)`-windows of the `k`-window at `j` lie inside the sequence. -/

theorem add_pred_le {j k L : Nat} (h : j + k ≤ L) : j + (k - 1) ≤ L :=
  Nat.le_trans (Nat.add_le_add_left (Nat.sub_le k 1) j) h

theorem succ_add_pred_le {j k L : Nat} (hk : 1 ≤ k) (h : j + k ≤ L) : j + 1 + (k - 1) ≤ L := by
  omega

theorem add_pred_lt {j k L : Nat} (hk : 1 ≤ k) (h : j + k ≤ L) : j + (k - 1) < L :=
  Nat.lt_of_lt_of_le (Nat.add_lt_add_left (Nat.sub_lt hk Nat.one_pos) j) h

theorem win_eq_map_range {s : List UInt8} {j m : Nat} (h : j + m ≤ s.length) :
    win s j m = (List.range m).map (fun i => s.getD (j + i) 0) := by
  apply List.ext_getElem?
  intro i
  by_cases hi : i < m
  · rw [win_getElem? _ _ _ _ hi, List.getElem?_map, List.getElem?_range hi,
      List.getElem?_eq_getElem (Nat.lt_of_lt_of_le (Nat.add_lt_add_left hi j) h)]
    exact congrArg some (getD_eq_getElem s 0 _).symm
  · rw [List.getElem?_eq_none (by rw [win_length h]; exact Nat.le_of_not_lt hi),
      List.getElem?_eq_none (by rw [List.length_map, List.length_range]; exact Nat.le_of_not_lt hi)]

theorem win_eq_iff {s t : List UInt8} {j j' m : Nat} (hs : j + m ≤ s.length) (ht : j' + m ≤ t.length) :
    win s j m = win t j' m ↔ ∀ i, i < m → s.getD (j + i) 0 = t.getD (j' + i) 0 := by
  rw [win_eq_map_range hs, win_eq_map_range ht, List.map_inj_left]
  simp only [List.mem_range]

theorem win_getD {s t : List UInt8} {j m : Nat} (hs : j + m ≤ s.length) (ht : j + m ≤ t.length)
    (e : win s j m = win t j m) {p : Nat} (hjp : j ≤ p) (hpm : p < j + m) : s.getD p 0 = t.getD p 0 := by
  have := (win_eq_iff hs ht).mp e (p - j) (Nat.sub_lt_left_of_lt_add hjp hpm)
  rwa [Nat.add_sub_cancel' hjp] at this

theorem enc_eq (W : Nat) (w : List UInt8) (hW : 2 * w.length ≤ W) : encodeKmer W w = packL (cds w) :=
  T16_encode W w hW

theorem enc_win (W : Nat) (s : List UInt8) (j m : Nat) (hW : 2 * m ≤ W) :
    encodeKmer W (win s j m) = packL (cds (win s j m)) :=
  enc_eq W _ (Nat.le_trans (Nat.mul_le_mul_left 2 (win_length_le s j m)) hW)

theorem packL_cds_inj {w w' : List UInt8} (h : AllBase w) (h' : AllBase w') (hl : w.length = w'.length)
    (e : packL (cds w) = packL (cds w')) : w = w' :=
  cds_inj h h' (packL_inj (cds_codes _) (cds_codes _) (by rw [cds_length, cds_length, hl]) e)

theorem enc_inj (W : Nat) {w w' : List UInt8} (h : AllBase w) (h' : AllBase w') (hl : w.length = w'.length)
    (hW : 2 * w.length ≤ W) (e : encodeKmer W w = encodeKmer W w') : w = w' := by
  rw [enc_eq W w hW, enc_eq W w' (by omega)] at e
  exact packL_cds_inj h h' hl e

theorem revComp_enc (W : Nat) (hW : W = 64 ∨ W = 128) {w : List UInt8} (h : AllBase w) (n : Nat)
    (hl : w.length = n) (hn : 2 * n ≤ W) :
    revComp W (encodeKmer W w) n = encodeKmer W (rcSeq w) := by
  rw [enc_eq W w (by omega), enc_eq W (rcSeq w) (by rw [rcSeq_length]; omega), cds_rcSeq h,
    revComp_packL W hW _ (cds_codes w) n (by rw [cds_length, hl]) (by omega)]

/-! Mirror images.  Position `j'` of the reverse complement is position `j` of `s` when `j' + 1 + j` is the length;
the windows of `m` letters at `j'` and at `j` are mirror images when `j' + m + j` is the length. -/

theorem mirror_idx {j m L : Nat} (h : j + m ≤ L) : ∃ i, L = j + m + i ∧ i + m ≤ L :=
  ⟨L - (j + m), by omega⟩

theorem rcSeq_win_add {s : List UInt8} {j j' m : Nat} (h : s.length = j' + m + j) :
    win (rcSeq s) j' m = rcSeq (win s j m) := by
  unfold rcSeq win
  rw [← List.map_drop, ← List.map_take, List.reverse_take, List.reverse_drop, List.length_drop, List.drop_take,
    show s.length - j - m = j' by omega, show s.length - j - j' = m by omega]

theorem rcSeq_getD_add {s : List UInt8} {j j' : Nat} (h : s.length = j' + 1 + j) :
    (rcSeq s).getD j' 0 = compl (s.getD j 0) := by
  unfold rcSeq
  rw [List.getD_eq_getElem?_getD, List.getElem?_map, List.getElem?_reverse' ((Nat.add_right_comm j' j 1).trans h.symm),
    List.getD_eq_getElem?_getD, List.getElem?_eq_getElem (h ▸ Nat.lt_add_of_pos_left (Nat.succ_pos j'))]
  rfl

theorem arms_length {α : Type} {k : Nat} {u l : List α} (hu : u.length = halfK k) (hl : l.length = halfK k)
    (hkh : k = 2 * halfK k + 1) : (u ++ l).length = k - 1 := by
  rw [List.length_append, hu, hl, ← Nat.two_mul]
  exact (Nat.sub_eq_of_eq_add hkh).symm

def kmerAt (k : Nat) (s : List UInt8) (i : Nat) : Nat := packL (cds (win s i k))
def rcKmerAt (k : Nat) (s : List UInt8) (i : Nat) : Nat := packL (rcCodes (cds (win s i k)))

theorem enc_kmerAt {W k : Nat} (hW : 2 * k ≤ W) (s : List UInt8) (i : Nat) :
    encodeKmer W (win s i k) = kmerAt k s i := enc_win W s i k hW

theorem revComp_kmerAt {W k : Nat} (hW : 2 * k ≤ W) (hw : W = 64 ∨ W = 128) {s : List UInt8} {i : Nat}
    (hi : i + k ≤ s.length) : revComp W (kmerAt k s i) k = rcKmerAt k s i :=
  revComp_packL W hw _ (cds_codes _) k (by rw [cds_length, win_length hi]) (by omega)

theorem kmerAt_congr {k : Nat} {s t : List UInt8} {i j : Nat} (h : win s i k = win t j k) :
    kmerAt k s i = kmerAt k t j ∧ rcKmerAt k s i = rcKmerAt k t j := by
  unfold kmerAt rcKmerAt
  rw [h]
  exact ⟨rfl, rfl⟩

theorem kmerAt_rc {k : Nat} {s : List UInt8} (hb : AllBase s) {a b : Nat} (h : a + k + b = s.length) :
    kmerAt k (rcSeq s) a = rcKmerAt k s b ∧ rcKmerAt k (rcSeq s) a = kmerAt k s b := by
  unfold kmerAt rcKmerAt
  have e : win (rcSeq s) a k = rcSeq (win s b k) := rcSeq_win_add (by omega)
  rw [e, cds_rcSeq (hb.win _ _), rcCodes_rcCodes]
  exact ⟨rfl, rfl⟩

end SkaModel.LOC
