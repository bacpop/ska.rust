/-
C18 completeness — the nodes of the graph of a deletion family in columns of `F`: contiguous windows
(`Nd.c x`) and windows that jump over a block (`Nd.g t x`); the relation `RE` "the next window of a sample"; the
entry node of a block (`eX`) and which nodes near a block are valid.  A jumping window with at most `shf` columns
behind the block spells a contiguous window (`cols_g_cont`), so every window of `k` columns of a sample spells a
pair of nodes related by `RE` (`shape_edge`).  Where block `t` lies relative to its entry column is said once, here
(`eX_bounds`, `ex_lt`, `eX_pos`, and `geo` for the truncated differences of the later definitions); the window that jumps
over a block is `a + 1` columns, then `r + 1` columns (`jump_eq`, `cols_g`).
-/
import SkaModel.Lemmas.LOEFamD

namespace SkaModel.LOE

inductive Nd where
  | c (x : Nat)
  | g (t x : Nat)
  deriving DecidableEq, Repr

def Nd.cols (k : Nat) (B : List (Nat × Nat)) : Nd → List Nat
  | .c x => List.range' x (k - 1)
  | .g t x => List.range' x (bS B t - x) ++ List.range' (bE B t) (k - 1 - (bS B t - x))

/-- `m t` = the shift of block `t`.  A jumping window is a node only with more than `m t` columns behind the block:
with at most `m t` it spells the same as the contiguous window at its first column (`cols_g_cont`). -/
def Nd.valid (k N : Nat) (B : List (Nat × Nat)) (m : Nat → Nat) : Nd → Prop
  | .c x => x + (k - 1) ≤ N
  | .g t x => t < B.length ∧ bS B t + 1 + m t < x + k ∧ x < bS B t

inductive RE (k N : Nat) (B : List (Nat × Nat)) (m : Nat → Nat) : Nd → Nd → Prop
  | cc (x : Nat) : x + k ≤ N → RE k N B m (.c x) (.c (x + 1))
  | cg (t : Nat) : t < B.length → RE k N B m (.c (bS B t + m t - (k - 1))) (.g t (bS B t + m t - (k - 1) + 1))
  | gg (t x : Nat) : t < B.length → bS B t + 1 + m t < x + k → x + 1 < bS B t → RE k N B m (.g t x) (.g t (x + 1))
  | gc (t : Nat) : t < B.length → RE k N B m (.g t (bS B t - 1)) (.c (bE B t))

def lets (F : List UInt8) (w : List Nat) : List UInt8 := w.map (getF F)

/-- the first column of the entry node of block `t`: the `(k-1)`-mer that ends at the rightmost placement -/
def eX (k : Nat) (F : List UInt8) (B : List (Nat × Nat)) (t : Nat) : Nat := bS B t + shf k F B t - (k - 1)

theorem lets_append (F : List UInt8) (u v : List Nat) : lets F (u ++ v) = lets F u ++ lets F v := List.map_append

theorem lets_length (F : List UInt8) (w : List Nat) : (lets F w).length = w.length := List.length_map _

theorem lets_glue (F : List UInt8) {a n b : Nat} (m : Nat) (h : a + n = b) :
    lets F (List.range' a n) ++ lets F (List.range' b m) = lets F (List.range' a (n + m)) := by
  rw [← lets_append, ← h, List.range'_append_1]

theorem lets_snoc (F : List UInt8) {a n b : Nat} (h : a + n = b) :
    lets F (List.range' a n) ++ [getF F b] = lets F (List.range' a (n + 1)) :=
  lets_glue F 1 h

theorem lets_range' (F : List UInt8) (x n : Nat) (hx : x + n ≤ F.length) : lets F (List.range' x n) = LOC.win F x n := by
  unfold lets
  rw [LOC.win_eq_map_range hx, List.range'_eq_map_range, List.map_map]
  rfl

theorem c_head (k : Nat) (B : List (Nat × Nat)) (x : Nat) (hk : 2 ≤ k) : (Nd.cols k B (.c x)).headD 0 = x := by
  simp only [Nd.cols]
  obtain ⟨m, hm⟩ : ∃ m, k - 1 = m + 1 := ⟨k - 2, by omega⟩
  rw [hm, List.range'_succ]
  rfl

theorem g_head (k : Nat) (B : List (Nat × Nat)) (t x : Nat) (h2 : x < bS B t) :
    (Nd.cols k B (.g t x)).headD 0 = x := by
  simp only [Nd.cols]
  obtain ⟨m, hm⟩ := Nat.exists_eq_add_of_lt h2
  rw [hm, Nat.add_assoc, Nat.add_sub_cancel_left, List.range'_succ]
  rfl

theorem jump_eq {x b n : Nat} (e : Nat) (h1 : x < b) (h2 : b < x + n) :
    ∃ a r, b = x + (a + 1) ∧ n = a + 1 + (r + 1) ∧
      List.range' x (b - x) ++ List.range' e (n - (b - x)) = List.range' x (a + 1) ++ List.range' e (r + 1) := by
  obtain ⟨a, rfl⟩ := Nat.exists_eq_add_of_lt h1
  obtain ⟨r, hr⟩ := Nat.exists_eq_add_of_lt h2
  have hn : n = a + 1 + (r + 1) := by omega
  refine ⟨a, r, rfl, hn, ?_⟩
  rw [Nat.add_assoc, Nat.add_sub_cancel_left, hn, Nat.add_sub_cancel_left]

/-- in the additive coordinates of `jump_eq` every truncated difference of the statement cancels -/
theorem gap_take {x b e k : Nat} (h1 : x < b) (h2 : b < x + k) :
    (List.range' x (b - x) ++ List.range' e (k - (b - x))).take (k - 1) =
      List.range' x (b - x) ++ List.range' e (k - 1 - (b - x)) := by
  obtain ⟨a, r, rfl, rfl, eJ⟩ := jump_eq e h1 h2
  rw [eJ, Nat.add_sub_cancel_left, ← Nat.add_assoc (a + 1) r 1, Nat.add_sub_cancel, Nat.add_sub_cancel_left,
    List.take_append, List.length_range', Nat.add_sub_cancel_left,
    List.take_of_length_le (by rw [List.length_range']; exact Nat.le_add_right _ _),
    List.take_range'_of_length_ge (Nat.le_succ r)]

theorem gap_drop {x b e k : Nat} (h1 : x < b) (h2 : b < x + k) :
    (List.range' x (b - x) ++ List.range' e (k - (b - x))).drop 1 =
      List.range' (x + 1) (b - (x + 1)) ++ List.range' e (k - 1 - (b - (x + 1))) := by
  obtain ⟨a, r, rfl, rfl, eJ⟩ := jump_eq e h1 h2
  rw [eJ, List.range'_succ, List.cons_append, List.drop_succ_cons, List.drop_zero, ← Nat.add_assoc x a 1,
    Nat.add_right_comm x a 1, Nat.add_sub_cancel_left, ← Nat.add_assoc (a + 1) r 1, Nat.add_sub_cancel,
    Nat.add_right_comm a 1 r, Nat.add_assoc a r 1, Nat.add_sub_cancel_left]

theorem cols_g {k : Nat} {B : List (Nat × Nat)} {t x a r : Nat} (ha : x + a = bS B t) (hr : a + r = k - 1) :
    Nd.cols k B (.g t x) = List.range' x a ++ List.range' (bE B t) r := by
  show List.range' x (bS B t - x) ++ List.range' (bE B t) (k - 1 - (bS B t - x)) = _
  rw [← ha, Nat.add_sub_cancel_left, ← hr, Nat.add_sub_cancel_left]

theorem cols_g_bS (k : Nat) (B : List (Nat × Nat)) (t : Nat) :
    Nd.cols k B (.g t (bS B t)) = Nd.cols k B (.c (bE B t)) := by
  simp only [Nd.cols, Nat.sub_self, List.range'_zero, List.nil_append, Nat.sub_zero]

theorem lets_gap_cont {k : Nat} {F : List UInt8} {B : List (Nat × Nat)} {t x a r : Nat} (hxa : x + a = bS B t)
    (hr : r ≤ shf k F B t) :
    lets F (List.range' x a ++ List.range' (bE B t) r) = lets F (List.range' x (a + r)) := by
  rw [← List.range'_append_1, lets_append, lets_append, hxa]
  congr 1
  unfold lets
  apply List.ext_getElem?
  intro i
  rw [List.getElem?_map, List.getElem?_map]
  by_cases hi : i < r
  · rw [List.getElem?_range' hi, List.getElem?_range' hi, Nat.one_mul, Option.map_some, Option.map_some]
    exact congrArg some (sh_eq (Nat.lt_of_lt_of_le hi hr)).symm
  · rw [List.getElem?_eq_none (by rw [List.length_range']; omega),
      List.getElem?_eq_none (by rw [List.length_range']; omega)]

theorem pred_window {S y E m k : Nat} (hy : y + 1 = E) (hS : S ≤ E) (hm : m + 1 < k) :
    y < E ∧ S < y + k ∧ S + m < y + k := by
  omega

/-- block `t` in additive coordinates: `n + 2` nodes from the entry node to the exit node through the block, `a + 2`
over it; the truncated differences in the arms of the bubble and in the two runs of columns are these numbers, and the
entry node has `a + 1` columns before the block and the `shf` columns of the shift -/
structure Geo (k : Nat) (F : List UInt8) (B : List (Nat × Nat)) (t n a : Nat) : Prop where
  innerThrough : bE B t - eX k F B t - 1 = n
  innerOver : bS B t - eX k F B t - 1 = a
  toExit : eX k F B t + n + 1 = bE B t
  toBlock : eX k F B t + a + 1 = bS B t
  runThrough : bE B t + (k - 1) - eX k F B t = n + 1 + (k - 1)
  beforeBlock : bS B t - eX k F B t = a + 1
  entry : a + 1 + shf k F B t = k - 1

namespace DFam

variable {k : Nat} {F : List UInt8} {B : List (Nat × Nat)} {C : List (List Bool)}

theorem eX_bounds (h : DFam k F B C) {t : Nat} (ht : t < B.length) :
    eX k F B t + (k - 1) = bS B t + shf k F B t ∧ eX k F B t + 2 ≤ bS B t ∧ bS B t ≤ eX k F B t + (k - 1) := by
  have hb := h.bt ht
  have hk5 := h.k5
  unfold eX
  omega

theorem eX_near (h : DFam k F B C) {t : Nat} (ht : t < B.length) : bS B t < eX k F B t + k := by
  have he := h.eX_bounds ht
  have hk5 := h.k5
  omega

theorem ex_lt (h : DFam k F B C) {t : Nat} (ht : t < B.length) : eX k F B t + 2 ≤ bS B t ∧ bS B t < bE B t :=
  ⟨(h.eX_bounds ht).2.1, (h.bt ht).1⟩

theorem eX_pos (h : DFam k F B C) {t : Nat} (ht : t < B.length) :
    3 * k < eX k F B t ∧ bE B t + 4 * k ≤ F.length := by
  have hb := h.bt ht
  have he := (h.eX_bounds ht).2.2
  omega

theorem bS_pred (h : DFam k F B C) {t : Nat} (ht : t < B.length) : bS B t - 1 + 1 = bS B t :=
  Nat.sub_add_cancel (Nat.le_trans (Nat.le_add_left 1 _) (h.ex_lt ht).1)

theorem bE_pred (h : DFam k F B C) {t : Nat} (ht : t < B.length) : bE B t - 1 + 1 = bE B t :=
  Nat.sub_add_cancel (Nat.one_le_of_lt (h.ex_lt ht).2)

theorem geo (h : DFam k F B C) {t : Nat} (ht : t < B.length) : ∃ n a, Geo k F B t n a := by
  obtain ⟨h1, h2⟩ := h.ex_lt ht
  refine ⟨_, _, rfl, rfl, by omega, by omega, by omega, by omega, ?_⟩
  have h3 := (h.eX_bounds ht).1
  omega

theorem sh_lt (h : DFam k F B C) {t : Nat} (ht : t < B.length) : shf k F B t + 1 < k :=
  Nat.lt_of_succ_lt (h.bt ht).2.2.2.2

theorem en_sh (h : DFam k F B C) {t : Nat} (ht : t < B.length) : bS B t + shf k F B t < eX k F B t + k :=
  (h.eX_bounds ht).1 ▸ Nat.add_lt_add_left (Nat.sub_lt (Nat.lt_of_lt_of_le (by decide) h.k5) Nat.one_pos) _

theorem bS_back (h : DFam k F B C) {t : Nat} (ht : t < B.length) : bS B t - (bS B t - 1) = 1 :=
  Nat.sub_eq_of_eq_add ((Nat.add_comm 1 _).trans (h.bS_pred ht)).symm

theorem eX_lt_bE (h : DFam k F B C) {t : Nat} (ht : t < B.length) : eX k F B t < bE B t :=
  Nat.lt_of_le_of_lt (Nat.le_of_add_right_le (h.ex_lt ht).1) (h.ex_lt ht).2

theorem near_col (h : DFam k F B C) {t t' : Nat} (ht : t < B.length) (ht' : t' < B.length) {x : Nat}
    (h1 : bS B t ≤ x + 3 * k) (h2 : x ≤ bE B t + 3 * k) (h1' : eX k F B t' ≤ x) (h2' : x ≤ bE B t') : t = t' := by
  have he := h.eX_near ht'
  have hk5 := h.k5
  exact h.near_eq ht ht' (by omega) (by omega)

theorem bE_inj (h : DFam k F B C) {t t' : Nat} (ht : t < B.length) (ht' : t' < B.length)
    (e : bE B t = bE B t') : t = t' :=
  h.near_col ht ht' (e ▸ Nat.le_trans (Nat.le_of_lt (h.ex_lt ht).2) (Nat.le_add_right _ _))
    (e ▸ Nat.le_add_right _ _) (Nat.le_of_lt (h.eX_lt_bE ht')) (Nat.le_refl _)

theorem eX_inj (h : DFam k F B C) {t t' : Nat} (ht : t < B.length) (ht' : t' < B.length)
    (e : eX k F B t = eX k F B t') : t = t' := by
  have he := h.eX_near ht
  exact h.near_col ht ht' (x := eX k F B t') (by omega)
    (e ▸ Nat.le_trans (Nat.le_of_lt (h.eX_lt_bE ht)) (Nat.le_add_right _ _)) (Nat.le_refl _)
    (Nat.le_of_lt (h.eX_lt_bE ht'))

theorem not_entry (h : DFam k F B C) {t : Nat} (ht : t < B.length) {x : Nat}
    (h1 : eX k F B t < x) (h2 : x ≤ bE B t + 3 * k) {t' : Nat} (ht' : t' < B.length) :
    x ≠ eX k F B t' := by
  intro e
  have he := h.eX_near ht
  have := h.near_col ht ht' (by omega) h2 (Nat.le_of_eq e.symm) (e ▸ Nat.le_of_lt (h.eX_lt_bE ht'))
  subst this
  exact Nat.ne_of_gt h1 e

theorem not_exit (h : DFam k F B C) {t : Nat} (ht : t < B.length) {x : Nat}
    (h1 : bS B t ≤ x + 3 * k) (h2 : x < bE B t) {t' : Nat} (ht' : t' < B.length) :
    x ≠ bE B t' := by
  intro e
  have := h.near_col ht ht' h1 (Nat.le_trans (Nat.le_of_lt h2) (Nat.le_add_right _ _))
    (e ▸ Nat.le_of_lt (h.eX_lt_bE ht')) (Nat.le_of_eq e)
  subst this
  exact Nat.ne_of_lt h2 e

theorem eX_ne_bE (h : DFam k F B C) {t t' : Nat} (ht : t < B.length) (ht' : t' < B.length) :
    eX k F B t ≠ bE B t' := by
  have he := h.eX_near ht
  exact h.not_exit ht (by omega) (h.eX_lt_bE ht) ht'

theorem inner_col (h : DFam k F B C) {t : Nat} (ht : t < B.length) {y : Nat}
    (h1 : eX k F B t < y) (h2 : y < bE B t) {t' : Nat} (ht' : t' < B.length) :
    y ≠ eX k F B t' ∧ y ≠ bE B t' := by
  have he := h.eX_near ht
  exact ⟨h.not_entry ht h1 (Nat.le_trans (Nat.le_of_lt h2) (Nat.le_add_right _ _)) ht',
    h.not_exit ht (by omega) h2 ht'⟩

theorem valid_c (h : DFam k F B C) {t : Nat} (ht : t < B.length) {y : Nat} (hy : y ≤ bE B t + 3 * k) :
    (Nd.c y).valid k F.length B (shf k F B) := by
  have hb := (h.eX_pos ht).2
  show y + (k - 1) ≤ F.length
  omega

theorem valid_g (h : DFam k F B C) {t : Nat} (ht : t < B.length) {y : Nat}
    (h1 : eX k F B t + 1 ≤ y) (h2 : y < bS B t) : (Nd.g t y).valid k F.length B (shf k F B) := by
  have he := (h.eX_bounds ht).1
  have hk5 := h.k5
  exact ⟨ht, by omega, h2⟩

theorem valid_g_ends (h : DFam k F B C) {t : Nat} (ht : t < B.length) :
    (Nd.g t (eX k F B t + 1)).valid k F.length B (shf k F B) ∧ (Nd.g t (bS B t - 1)).valid k F.length B (shf k F B) := by
  have he := (h.ex_lt ht).1
  exact ⟨h.valid_g ht (Nat.le_refl _) (by omega), h.valid_g ht (by omega) (by omega)⟩

theorem valid_en (h : DFam k F B C) {t : Nat} (ht : t < B.length) :
    (Nd.c (eX k F B t)).valid k F.length B (shf k F B) := by
  have he := (h.eX_bounds ht).2.1
  have hb := (h.bt ht).1
  exact h.valid_c ht (by omega)

theorem valid_ex (h : DFam k F B C) {t : Nat} (ht : t < B.length) :
    (Nd.c (bE B t)).valid k F.length B (shf k F B) :=
  h.valid_c ht (Nat.le_add_right _ _)

theorem cols_g_cont (h : DFam k F B C) {t : Nat} (ht : t < B.length) {y : Nat} (h1 : y ≤ eX k F B t)
    (h2 : bS B t < y + k) : lets F (Nd.cols k B (.g t y)) = lets F (Nd.cols k B (.c y)) := by
  have he := h.eX_bounds ht
  obtain ⟨a, ha⟩ := Nat.exists_eq_add_of_le (Nat.le_trans h1 (Nat.le_of_add_right_le he.2.1))
  rw [ha] at h2
  obtain ⟨r, hr⟩ := Nat.exists_eq_add_of_le (Nat.le_sub_one_of_lt (Nat.lt_of_add_lt_add_left h2))
  rw [cols_g ha.symm hr.symm, lets_gap_cont (k := k) ha.symm (by omega), ← hr]
  rfl

theorem en_gap (h : DFam k F B C) {t : Nat} (ht : t < B.length) :
    lets F (Nd.cols k B (.g t (eX k F B t))) = lets F (Nd.cols k B (.c (eX k F B t))) :=
  h.cols_g_cont ht (Nat.le_refl _) (h.eX_near ht)

theorem gap_edge (h : DFam k F B C) {t : Nat} (ht : t < B.length) {x : Nat} (hxb : x < bS B t)
    (hbx : bS B t < x + k) :
    ∃ n n', RE k F.length B (shf k F B) n n' ∧ lets F (Nd.cols k B (.g t x)) = lets F (n.cols k B) ∧
      lets F (Nd.cols k B (.g t (x + 1))) = lets F (n'.cols k B) := by
  by_cases h0 : x + 1 ≤ eX k F B t
  · have hb := h.bt ht
    exact ⟨.c x, .c (x + 1), RE.cc x (by omega), h.cols_g_cont ht (Nat.le_of_succ_le h0) hbx,
      h.cols_g_cont ht h0 (Nat.lt_of_lt_of_le hbx (Nat.add_le_add_right (Nat.le_succ x) k))⟩
  · by_cases h1 : x = eX k F B t
    · rw [h1]
      exact ⟨.c (eX k F B t), .g t (eX k F B t + 1), RE.cg t ht, h.en_gap ht, rfl⟩
    · by_cases h2 : x + 1 = bS B t
      · rw [h2, cols_g_bS, Nat.eq_sub_of_add_eq h2]
        exact ⟨.g t (bS B t - 1), .c (bE B t), RE.gc t ht, rfl, rfl⟩
      · have he := (h.eX_bounds ht).1
        have hk5 := h.k5
        exact ⟨.g t x, .g t (x + 1), RE.gg t x ht (by omega) (by omega), rfl, rfl⟩

theorem shape_edge (h : DFam k F B C) {c : List Bool} {u : List Nat} {x : Nat}
    (hs : Shape B c u x k) (hN : ∀ y ∈ u, y < F.length) :
    ∃ n n', RE k F.length B (shf k F B) n n' ∧ lets F (u.take (k - 1)) = lets F (n.cols k B) ∧
      lets F (u.drop 1) = lets F (n'.cols k B) := by
  have hk5 := h.k5
  rcases hs with rfl | ⟨t, ht, _, hxb, hbx, rfl⟩
  · refine ⟨.c x, .c (x + 1), RE.cc x ?_, ?_, ?_⟩
    · have := hN (x + k - 1) (by rw [List.mem_range'_1]; omega)
      omega
    · rw [List.take_range'_of_length_ge (by omega)]
      rfl
    · rw [List.drop_range']
      rfl
  · rw [gap_take hxb hbx, gap_drop hxb hbx]
    exact h.gap_edge ht hxb hbx

end DFam

end SkaModel.LOE
