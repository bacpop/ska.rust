/-
The reference split k-mers that `RefSka.new` collects, as a function of the specification's
windows: `contigKmers_spec`, the list `kmersFrom` of all of them, its members, its keys, its
order, and the bounds on a member's position.
-/
import SkaModel.Impl.RefSka
import SkaModel.Spec.MapSpec
import SkaModel.Props.C01Dict
import SkaModel.Lemmas.MaskOf
import SkaModel.Lemmas.Coords

namespace SkaModel.RM

open SkaModel SkaModel.Spec SkaModel.Props.C16 SkaModel.Props.C01 SkaModel.AW

theorem window_centre {k : Nat} (hk : ValidK k) {c : Array UInt8} {j : Nat} (hj : j ∈ windows k c) :
    halfK k ≤ j + halfK k ∧ j + halfK k + halfK k < c.size := by
  have := ((mem_windows k c j).mp hj).1
  have := validK_eq hk
  omega

def mkRK (k : Nat) (rc : Bool) (chrom : Nat) (r : Array UInt8) (j : Nat) : RefKmer :=
  { kmer := (obs k rc r j).1, base := (obs k rc r j).2.1, pos := j + halfK k, chrom := chrom,
    rc := (obs k rc r j).2.2 }

theorem contigKmers_spec (W k : Nat) (rc : Bool) (hk : ValidK k) (hw : WidthOk W k)
    (chrom : Nat) (r : Array UInt8) :
    RefSka.contigKmers W k rc chrom r = (windows k r).map (mkRK k rc chrom r) := by
  have h := T01_iter W k rc hk hw r
  unfold RefSka.contigKmers
  show List.map (fun s => ((fun (t : (Nat × Nat × Bool) × Nat × Bool) =>
      ({ kmer := t.1.1, base := t.1.2.1, pos := t.2.1, chrom := chrom, rc := t.1.2.2 } : RefKmer)) ∘
      (fun s => (SKConf.currKmer { W := W, k := k, rc := rc, seq := r } s,
        SKConf.middlePos { W := W, k := k, rc := rc, seq := r } s,
        SKConf.selfPalindrome { W := W, k := k, rc := rc, seq := r } s))) s) _ = _
  rw [← List.map_map, h, List.map_map]
  rfl

def kmersFrom (k : Nat) (rc : Bool) (n : Nat) (ref : List (Array UInt8)) : List RefKmer :=
  (ref.zipIdx n).flatMap (fun ci => (windows k ci.1).map (mkRK k rc ci.2 ci.1))

theorem kmersFrom_nil (k : Nat) (rc : Bool) (n : Nat) : kmersFrom k rc n [] = [] := rfl

theorem kmersFrom_cons (k : Nat) (rc : Bool) (n : Nat) (c : Array UInt8) (ref : List (Array UInt8)) :
    kmersFrom k rc n (c :: ref) = (windows k c).map (mkRK k rc n c) ++ kmersFrom k rc (n + 1) ref := by
  unfold kmersFrom
  rw [List.zipIdx_cons, List.flatMap_cons]

theorem mem_kmersFrom (k : Nat) (rc : Bool) (n : Nat) (ref : List (Array UInt8)) (rk : RefKmer) :
    rk ∈ kmersFrom k rc n ref ↔
      ∃ i c j, ref[i]? = some c ∧ j ∈ windows k c ∧ rk = mkRK k rc (n + i) c j := by
  unfold kmersFrom
  rw [List.mem_flatMap]
  constructor
  · rintro ⟨⟨c, i⟩, hci, h⟩
    obtain ⟨j, hj, rfl⟩ := List.mem_map.1 h
    obtain ⟨hle, hi⟩ := List.mk_mem_zipIdx_iff_le_and_getElem?_sub.1 hci
    exact ⟨i - n, c, j, hi, hj, by rw [Nat.add_sub_cancel' hle]⟩
  · rintro ⟨i, c, j, hi, hj, rfl⟩
    exact ⟨(c, n + i), List.mk_add_mem_zipIdx_iff_getElem?.2 hi, List.mem_map.2 ⟨j, hj, rfl⟩⟩

/-- contigs numbered from 0, as `RefSka.new` numbers them -/
theorem mem_kmersFrom_zero (k : Nat) (rc : Bool) (ref : List (Array UInt8)) (rk : RefKmer) :
    rk ∈ kmersFrom k rc 0 ref ↔
      ∃ i c j, ref[i]? = some c ∧ j ∈ windows k c ∧ rk = mkRK k rc i c j := by
  simpa only [Nat.zero_add] using mem_kmersFrom k rc 0 ref rk

theorem kmersFrom_keys (k : Nat) (rc : Bool) (n : Nat) (ref : List (Array UInt8)) :
    (kmersFrom k rc n ref).map (·.kmer) = refKeys k rc ref := by
  unfold kmersFrom refKeys
  rw [List.map_flatMap]
  conv => rhs; rw [← List.zipIdx_map_fst n ref, List.flatMap_map]
  refine flatMap_congr' _ _ _ fun ci _ => ?_
  rw [List.map_map]
  rfl

def RKlt (a b : RefKmer) : Prop := a.chrom < b.chrom ∨ (a.chrom = b.chrom ∧ a.pos < b.pos)

theorem windows_pairwise (k : Nat) (c : Array UInt8) : (windows k c).Pairwise (· < ·) :=
  List.Pairwise.sublist List.filter_sublist List.pairwise_lt_range

theorem kmersFrom_pairwise (k : Nat) (rc : Bool) (n : Nat) (ref : List (Array UInt8)) :
    (kmersFrom k rc n ref).Pairwise RKlt := by
  unfold kmersFrom
  rw [List.pairwise_flatMap]
  refine ⟨fun ci _ => ?_, ?_⟩
  · rw [List.pairwise_map]
    exact (windows_pairwise k ci.1).imp fun {a b} hab =>
      Or.inr ⟨rfl, Nat.add_lt_add_right hab _⟩
  · have : ((ref.zipIdx n).map Prod.snd).Pairwise (· < ·) := by
      rw [List.zipIdx_map_snd]; exact List.pairwise_lt_range'
    rw [List.pairwise_map] at this
    refine this.imp fun {a b} hab x hx y hy => ?_
    obtain ⟨_, _, rfl⟩ := List.mem_map.1 hx
    obtain ⟨_, _, rfl⟩ := List.mem_map.1 hy
    exact Or.inl hab

theorem kmersFrom_bounds (k : Nat) (rc : Bool) (hk : ValidK k) (ref : List (Array UInt8)) :
    ∀ rk ∈ kmersFrom k rc 0 ref,
      rk.chrom < ref.length ∧ halfK k ≤ rk.pos ∧ rk.pos + halfK k < csize ref rk.chrom := by
  intro rk hrk
  obtain ⟨i, c, j, hi, hj, rfl⟩ := (mem_kmersFrom_zero k rc ref rk).1 hrk
  refine ⟨(List.getElem?_eq_some_iff.1 hi).1, ?_⟩
  show halfK k ≤ j + halfK k ∧ j + halfK k + halfK k < (ref.getD i #[]).size
  rw [List.getD_eq_getElem?_getD, hi]
  exact window_centre hk hj

end SkaModel.RM
