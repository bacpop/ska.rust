/-
C17 (second sentence) — the k-mer map of a reference whose `(k-1)`-mers are unique, and the votes (`strandVotes`) of
sequences that lie along a planted family containing the reference (`Along`, in `LOCPlant`): the windows that agree with
the reference vote, all for one coordinate (`votes_replicate`); how many agree around a site (`Along.agree_ge`: geometry
of the family, no k-mer map), and how many votes a group of such sequences collects there (`group_votes`: ten under
`SiteOK`).
-/
import SkaModel.Lemmas.LORef
import SkaModel.Lemmas.LOCPlant
import SkaModel.Lemmas.LODDefs

namespace SkaModel.LOD

open SkaModel SkaModel.Spec SkaModel.Props.C16 SkaModel.Skalo SkaModel.LOC

theorem noN_base {w : List UInt8} (hw : AllBase w) : LOR.noN w = true := by
  unfold LOR.noN
  rw [List.all_eq_true]
  intro b hb
  rcases isBase_cases (hw b hb) with rfl | rfl | rfl | rfl <;> decide

section kmap

variable {m L : Nat} {R : List UInt8}

theorem mem_allEnds_win (hR : AllBase R) (hmL : m ≤ R.length) (hm : 2 * m ≤ 128) {w : List UInt8} (hw : AllBase w)
    (hwl : w.length = m) (p : Nat) :
    p ∈ LOR.allEnds 128 m R (encodeKmer 128 w) ↔ ∃ n, (n + m ≤ R.length ∧ win R n m = w) ∧ n + m = p := by
  unfold LOR.allEnds
  simp only [List.mem_map, List.mem_filter, List.mem_range, Bool.and_eq_true, beq_iff_eq, Nat.lt_succ_iff,
    Nat.le_sub_iff_add_le hmL]
  refine exists_congr fun n => and_congr_left' (and_congr_right fun hn => ⟨fun h => ?_, ?_⟩)
  · exact enc_inj 128 (hR.win n m) hw (by rw [win_length hn, hwl]) (by rw [win_length hn]; exact hm) h.2
  · rintro rfl
    exact ⟨noN_base (hR.win n m), rfl⟩

theorem lookup_kmap_some (hR : AllBase R) (hL : R.length = L) (hm : 2 * m ≤ 128)
    (huniq : ∀ j j', j + m ≤ L → j' + m ≤ L → win R j m = win R j' m → j = j')
    {j : Nat} (hj : j + m ≤ L) :
    Assoc.lookup (genomicKmers 128 m R) (encodeKmer 128 (win R j m)) = some [j + m] := by
  have hjR : j + m ≤ R.length := hL ▸ hj
  have hmL : m ≤ R.length := Nat.le_trans (Nat.le_add_left m j) hjR
  have hmem := mem_allEnds_win hR hmL hm (hR.win j m) (win_length hjR)
  have hall : LOR.allEnds 128 m R (encodeKmer 128 (win R j m)) = [j + m] :=
    LO.eq_singleton ((LOR.allEnds_sorted ..).imp Nat.ne_of_lt) ((hmem _).mpr ⟨j, ⟨hjR, rfl⟩, rfl⟩)
      (fun p hp => by
        obtain ⟨n, ⟨hn, e⟩, rfl⟩ := (hmem p).mp hp
        rw [huniq n j (hL ▸ hn) hj e])
  rw [LOR.lookup_genomicKmers 128 m R hmL, hall]
  rfl

theorem lookup_kmap_none (hR : AllBase R) (hL : R.length = L) (hm : 2 * m ≤ 128) (hmL : m ≤ L)
    {w : List UInt8} (hw : AllBase w) (hwl : w.length = m)
    (hno : ∀ j, j + m ≤ L → win R j m ≠ w) :
    Assoc.lookup (genomicKmers 128 m R) (encodeKmer 128 w) = none := by
  rw [LOR.lookup_genomicKmers 128 m R (hL ▸ hmL), if_pos]
  refine List.eq_nil_iff_forall_not_mem.mpr fun p hp => ?_
  obtain ⟨n, ⟨hn, e⟩, _⟩ := (mem_allEnds_win hR (hL ▸ hmL) hm hw hwl p).mp hp
  exact hno n (hL ▸ hn) e

end kmap

theorem strandVotes_eq (m : Nat) (kmap : List (Nat × List Nat)) (w : List UInt8) (h : m ≤ w.length) :
    strandVotes 128 m kmap w =
      (List.range (w.length - m + 1)).flatMap (fun pos =>
        match Assoc.lookup kmap (encodeKmer 128 (win w pos m)) with
        | some ps => ps.map (fun p => (p + U32 - pos % U32) % U32)
        | none => []) := by
  unfold strandVotes
  rw [if_neg (by omega)]
  rfl

/-- the vote of the window at `i` for an `m`-mer that ends at `a + i`: the coordinate `a`, computed modulo `2^32` -/
theorem vote_pos {a i : Nat} (h : a + i < U32) : (a + i + U32 - i % U32) % U32 = a := by
  rw [Nat.mod_eq_of_lt (show i < U32 by omega), show a + i + U32 - i = a + U32 by omega, Nat.add_mod_right,
    Nat.mod_eq_of_lt (by omega)]

section votes

variable {k L : Nat} {R : List UInt8} {T : List (List UInt8)} {PT : List Nat}

theorem votes_along (pf : PFam k L (R :: T) PT) (hk : 2 * (k - 1) ≤ 128) (hLU : L < U32)
    {c len : Nat} {w : List UInt8} (ha : Along (k - 1) L T c len w) :
    strandVotes 128 (k - 1) (genomicKmers 128 (k - 1) R) w =
      (List.range (len - (k - 1) + 1)).flatMap (fun i =>
        if win w i (k - 1) = win R (c + i) (k - 1) then [c + (k - 1)] else []) := by
  have hR : R ∈ R :: T := List.mem_cons_self ..
  have hlen := ha.hlen
  rw [strandVotes_eq _ _ _ (hlen ▸ ha.hm), hlen]
  apply flatMap_congr'
  intro i hi
  have hi : i + (k - 1) ≤ len := by have := ha.hm; rw [List.mem_range] at hi; omega
  have hiL : c + i + (k - 1) ≤ L := by have := ha.hL; omega
  by_cases e : win w i (k - 1) = win R (c + i) (k - 1)
  · rw [if_pos e, e, lookup_kmap_some (pf.base hR) (pf.len hR) hk
      (fun j j' hj hj' => (pf.uniq R hR R hR j j' hj hj').1) hiL]
    simp only [List.map_cons, List.map_nil, List.cons.injEq, and_true]
    rw [Nat.add_right_comm c i (k - 1), vote_pos (by omega)]
  · obtain ⟨t, ht, hwt⟩ := ha.hwin i hi
    rw [if_neg e, lookup_kmap_none (pf.base hR) (pf.len hR) hk (Nat.le_trans (Nat.le_add_left ..) hiL)
      (ha.hbase.win _ _) (win_length (hlen ▸ hi))]
    -- a window of the reference equal to a window of `t` lies at the same coordinate
    intro j hj ej
    rw [hwt] at ej e
    have := (pf.uniq R hR t (List.mem_cons_of_mem _ ht) j (c + i) hj hiL).1 ej
    exact e (this ▸ ej.symm)

theorem votes_replicate (pf : PFam k L (R :: T) PT) (hk : 2 * (k - 1) ≤ 128) (hLU : L < U32)
    {c len : Nat} {w : List UInt8} (ha : Along (k - 1) L T c len w) :
    strandVotes 128 (k - 1) (genomicKmers 128 (k - 1) R) w =
      List.replicate ((List.range (len - (k - 1) + 1)).countP fun i =>
        decide (win w i (k - 1) = win R (c + i) (k - 1))) (c + (k - 1)) := by
  rw [votes_along pf hk hLU ha, flatMap_ite_eq]

/-- the windows of `rcSeq w` are reverse complements of windows of the family, which are no windows of the reference -/
theorem votes_rc (pf : PFam k L (R :: T) PT) (hk : 2 * (k - 1) ≤ 128)
    {c len : Nat} {w : List UInt8} (ha : Along (k - 1) L T c len w) :
    strandVotes 128 (k - 1) (genomicKmers 128 (k - 1) R) (rcSeq w) = [] := by
  have hR : R ∈ R :: T := List.mem_cons_self ..
  have hlen : (rcSeq w).length = len := (rcSeq_length w).trans ha.hlen
  have hL := ha.hL
  rw [strandVotes_eq _ _ _ (hlen ▸ ha.hm), List.flatMap_eq_nil_iff]
  intro i hi
  rw [List.mem_range, hlen] at hi
  have hi : i + (k - 1) ≤ len := Nat.add_le_of_le_sub ha.hm (Nat.le_of_lt_succ hi)
  -- the window at `i` of `rcSeq w` is the reverse complement of the window of `w` with `j` letters before it
  obtain ⟨j, hj⟩ := Nat.exists_eq_add_of_le hi
  obtain ⟨t, ht, hwt⟩ := ha.hwin j (by omega)
  rw [lookup_kmap_none (pf.base hR) (pf.len hR) hk (Nat.le_trans ha.hm (Nat.le_trans (Nat.le_add_left ..) hL))
    (ha.hbase.rcSeq.win _ _) (win_length (hlen ▸ hi))]
  intro j' hj' e
  rw [rcSeq_win_add (ha.hlen.trans hj), hwt] at e
  exact (pf.uniq R hR t (List.mem_cons_of_mem _ ht) j' (c + j) hj' (by omega)).2 e

end votes

/-- the hypothesis on a site `p`: some sample shows the base of the reference, and the bubble of the site gets the ten
votes that `most_frequent_position` asks for — `7 ≤ k`, or the samples show two further bases (three alleles with
`k = 5`) -/
def SiteOK (k : Nat) (A : List UInt8) (S : List (List UInt8)) (p : Nat) : Prop :=
  (∃ s ∈ S, s.getD p 0 = A.getD p 0) ∧
  (7 ≤ k ∨ ∃ s1 ∈ S, ∃ s2 ∈ S, s1.getD p 0 ≠ s2.getD p 0 ∧ s1.getD p 0 ≠ A.getD p 0 ∧ s2.getD p 0 ≠ A.getD p 0)

def siteOKB (k : Nat) (A : List UInt8) (S : List (List UInt8)) (p : Nat) : Bool :=
  S.any (fun s => s.getD p 0 == A.getD p 0) &&
  (decide (7 ≤ k) || S.any (fun s1 => S.any (fun s2 =>
    s1.getD p 0 != s2.getD p 0 && s1.getD p 0 != A.getD p 0 && s2.getD p 0 != A.getD p 0)))

theorem getD_ne_of {a b : List UInt8} {i : Nat} (h : a.getD i 0 ≠ b.getD i 0) : a ≠ b :=
  fun e => h (e ▸ rfl)

section votes

variable {k L : Nat} {R : List UInt8} {T : List (List UInt8)} {PT : List Nat}

/-- `d` letters before the site, `e` after it.  The 2 are the windows just before and just after the site; the `k + 1`
are the windows from the one just before to the one just after the site when the sequence shows the base of the
reference there, or the `k + 1` windows within `2k - 1` letters on one side of the site (the next site is `2k` letters
away) -/
theorem Along.agree_ge (pf : PFam k L (R :: T) PT) {m : Nat} (hkm : k = m + 1) {c d e N : Nat} {w : List UInt8}
    (ha : Along m L T c (d + 1 + e) w) (hq : c + d ∈ PT) (hd : m ≤ d) (he : m ≤ e)
    (hN : (List.range (d + 1 + e - m + 1)).countP (fun i => decide (win w i m = win R (c + i) m)) = N) :
    2 ≤ N ∧ (w.getD d 0 = R.getD (c + d) 0 ∨ 2 * k - 1 ≤ d ∨ 2 * k - 1 ≤ e → k + 1 ≤ N) := by
  subst hkm hN
  -- a window that meets no site but the one at `d`, and that only if the sequence shows the reference base there
  have hwin : ∀ i, i + m ≤ d + 1 + e ∧ d < i + 2 * (m + 1) ∧ i + m ≤ d + 2 * (m + 1) →
      (w.getD d 0 = R.getD (c + d) 0 ∨ i + m ≤ d ∨ d < i) →
      i < d + 1 + e - m + 1 ∧ win w i m = win R (c + i) m := by
    intro i hi hsite
    refine ⟨Nat.lt_succ_of_le (Nat.le_sub_of_add_le hi.1), ha.win_ref pf hi.1 fun p hp h5 h6 => ?_⟩
    obtain rfl := pf.site_eq hp hq (by omega) (by omega)
    rw [Nat.add_sub_cancel_left]
    exact hsite.elim id (by omega)
  -- `m + 2` consecutive such windows
  have hrun : ∀ lo, lo + (m + 1) + m ≤ d + 1 + e ∧ d < lo + 2 * (m + 1) ∧ lo ≤ d + 1 →
      (w.getD d 0 = R.getD (c + d) 0 ∨ lo + (m + 1) + m ≤ d ∨ d < lo) → m + 1 + 1 ≤ _ :=
    fun lo hlo hsite => by
      have := count_ge (d + 1 + e - m + 1) (fun i => win w i m = win R (c + i) m)
        (List.range' lo (m + 2)) (List.nodup_range' ..) fun i hi => by
          rw [List.mem_range'_1] at hi
          exact hwin i (by omega) (hsite.imp_right (by omega))
      rwa [List.length_range'] at this
  constructor
  · refine count_ge _ (fun i => win w i m = win R (c + i) m) [d - m, d + 1]
      (List.nodup_cons.mpr ⟨fun h => ?_, List.nodup_cons.mpr ⟨List.not_mem_nil, List.nodup_nil⟩⟩) fun i hi => ?_
    · rw [List.mem_singleton] at h
      omega
    · rw [List.mem_cons, List.mem_singleton] at hi
      exact hwin i (by omega) (Or.inr (by omega))
  · rintro (hw | hext | hext)
    · exact hrun (d - m) (by omega) (Or.inl hw)
    · exact hrun (d - m - (m + 1)) (by omega) (Or.inr (Or.inl (by omega)))
    · exact hrun (d + 1) (by omega) (Or.inr (Or.inr (by omega)))

/-- where the ten votes come from: with `2k - 1` letters on one side of the site, `k + 1` from each of two sequences,
whatever they show at the site; under `SiteOK`, `k + 1` from a sequence with the base of the reference and 2 from every
other one, with `7 ≤ k` or two further bases -/
theorem group_votes (pf : PFam k L (R :: T) PT) (hk5 : 5 ≤ k) (hk : 2 * (k - 1) ≤ 128) (hLU : L < U32)
    {c d e : Nat} {ws : List (List UInt8)} (hws : ∀ w ∈ ws, Along (k - 1) L T c (d + 1 + e) w) (h2 : 2 ≤ ws.length)
    (hq : c + d ∈ PT) (hd : k - 1 ≤ d) (he : k - 1 ≤ e)
    (hcov : ∀ t ∈ T, ∃ w ∈ ws, w.getD d 0 = t.getD (c + d) 0)
    (hten : (2 * k - 1 ≤ d ∨ 2 * k - 1 ≤ e) ∨ SiteOK k R T (c + d)) :
    (∀ x ∈ ws.flatMap (strandVotes 128 (k - 1) (genomicKmers 128 (k - 1) R)), x = c + (k - 1)) ∧
    10 ≤ (ws.flatMap (strandVotes 128 (k - 1) (genomicKmers 128 (k - 1) R))).length ∧
    ws.flatMap (fun w => strandVotes 128 (k - 1) (genomicKmers 128 (k - 1) R) (rcSeq w)) = [] := by
  have hge := fun w hw => Along.agree_ge pf (Nat.sub_add_cancel (Nat.le_trans (by decide) hk5)).symm (hws w hw) hq hd he
    (N := (strandVotes 128 (k - 1) (genomicKmers 128 (k - 1) R) w).length)
    (by rw [votes_replicate pf hk hLU (hws w hw), List.length_replicate])
  refine ⟨?_, ?_, ?_⟩
  · intro x hx
    obtain ⟨w, hw, hxw⟩ := List.mem_flatMap.mp hx
    rw [votes_replicate pf hk hLU (hws w hw)] at hxw
    exact List.eq_of_mem_replicate hxw
  · rcases hten with hext | ⟨⟨t, ht, hanc⟩, hmore⟩
    · obtain ⟨w0, hw0⟩ := List.exists_mem_of_ne_nil ws (fun e => by rw [e] at h2; exact absurd h2 (by decide))
      have := flatMap_two _ ws w0 hw0 h2 (k + 1) (k + 1) ((hge w0 hw0).2 (Or.inr hext))
        (fun w hw => (hge w hw).2 (Or.inr hext))
      omega
    obtain ⟨w0, hw0, e0⟩ := hcov t ht
    have a0 := (hge w0 hw0).2 (Or.inl (e0.trans hanc))
    rcases hmore with h7 | ⟨t1, ht1, t2, ht2, h12, h10, h20⟩
    · have := flatMap_two _ ws w0 hw0 h2 (k + 1) 2 a0 (fun w hw => (hge w hw).1)
      omega
    · obtain ⟨w1, hw1, e1⟩ := hcov t1 ht1
      obtain ⟨w2, hw2, e2⟩ := hcov t2 ht2
      have h01 : w1 ≠ w0 := getD_ne_of (i := d) (by rw [e0, e1, hanc]; exact h10)
      have h02 : w2 ≠ w0 := getD_ne_of (i := d) (by rw [e0, e2, hanc]; exact h20)
      have h12' : w2 ≠ w1 := getD_ne_of (i := d) (by rw [e1, e2]; exact fun e => h12 e.symm)
      have m1 : w1 ∈ ws.erase w0 := (List.mem_erase_of_ne h01).mpr hw1
      have m2 : w2 ∈ (ws.erase w0).erase w1 := (List.mem_erase_of_ne h12').mpr ((List.mem_erase_of_ne h02).mpr hw2)
      rw [length_flatMap_erase _ hw0, length_flatMap_erase _ m1, length_flatMap_erase _ m2]
      have a1 := (hge w1 hw1).1
      have a2 := (hge w2 hw2).1
      omega
  · rw [List.flatMap_eq_nil_iff]
    exact fun w hw => votes_rc pf hk (hws w hw)

end votes

end SkaModel.LOD
