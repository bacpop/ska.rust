/-
C17 completeness — planted families as a proposition (`PFam`), obtained from the decidable hypothesis
`plantedB`: windows of a planted family, its sites and their distances.  The coordinates around a site `q` (entry
node at `q - k + 1`, first node of an arm at `q - k + 2`, exit node at `q + 1`, mirror image `L - 1 - q`) are said once:
over a variable (`site_add`: `q = a + k`; `mirror_add`), so that a lemma about a site does its arithmetic without
subtraction, and by name (`entry_add`, `entry_fit`, `exit_fit`, `arm_fit` …) where the site is a term.  The
reverse-complemented family is planted again with the sites mirrored (`PFam.mirror`), and its forward nodes are the
reverse nodes of the family.  `Along`: what a sequence spelled for a walk of the graph shares with the samples,
window by window.
-/
import SkaModel.Lemmas.LOCGraph

namespace SkaModel.LOC

open SkaModel SkaModel.Spec SkaModel.Props.C16 SkaModel.Skalo

structure PFam (k L : Nat) (S : List (List UInt8)) (P : List Nat) : Prop where
  sf : SFam L S
  ne : S ≠ []
  off : ∀ s ∈ S, ∀ t ∈ S, ∀ j, j < L → j ∉ P → s.getD j 0 = t.getD j 0
  poly : ∀ p ∈ P, ∃ s ∈ S, ∃ t ∈ S, s.getD p 0 ≠ t.getD p 0
  ends : ∀ p ∈ P, 2 * k ≤ p ∧ p + 2 * k < L
  apart : P.Pairwise (fun p q => p + 2 * k ≤ q)
  uniq : ∀ s ∈ S, ∀ t ∈ S, ∀ j j', j + (k - 1) ≤ L → j' + (k - 1) ≤ L →
    (win s j (k - 1) = win t j' (k - 1) → j = j') ∧ win s j (k - 1) ≠ rcSeq (win t j' (k - 1))

theorem mem_windowsOf (m : Nat) (T : List (List UInt8)) (a : Nat × List UInt8) :
    a ∈ windowsOf m T ↔ ∃ s ∈ T, ∃ j, j + m ≤ s.length ∧ a = (j, win s j m) := by
  unfold windowsOf
  simp only [List.mem_flatMap, List.mem_map, List.mem_range]
  constructor
  · rintro ⟨s, hs, j, hj, rfl⟩
    exact ⟨s, hs, j, (SNP.lt_windows_iff _ _ _).mp hj, rfl⟩
  · rintro ⟨s, hs, j, hj, rfl⟩
    exact ⟨s, hs, j, (SNP.lt_windows_iff _ _ _).mpr hj, rfl⟩

theorem uniqueB_spec {m : Nat} {T : List (List UInt8)} (h : uniqueB m T = true) :
    ∀ s ∈ T, ∀ t ∈ T, ∀ j j', j + m ≤ s.length → j' + m ≤ t.length →
      (win s j m = win t j' m → j = j') ∧ win s j m ≠ rcSeq (win t j' m) := by
  unfold uniqueB at h
  simp only [List.all_eq_true, Bool.and_eq_true, Bool.or_eq_true, bne_iff_ne, ne_eq, beq_iff_eq] at h
  intro s hs t ht j j' hj hj'
  have := h (j, win s j m) ((mem_windowsOf m T _).mpr ⟨s, hs, j, hj, rfl⟩)
    (j', win t j' m) ((mem_windowsOf m T _).mpr ⟨t, ht, j', hj', rfl⟩)
  simp only at this
  refine ⟨fun e => ?_, this.2⟩
  rcases this.1 with h1 | h1
  · exact absurd e h1
  · exact h1

theorem planted_spec {k L : Nat} {A : List UInt8} {S : List (List UInt8)} {P : List Nat}
    (h : plantedB k L A S P = true) :
    (5 ≤ k ∧ k % 2 = 1) ∧ PFam k L (A :: S) P ∧ 2 ≤ S.length ∧
      ∀ p ∈ P, ∃ s ∈ S, ∃ t ∈ S, s.getD p 0 ≠ t.getD p 0 := by
  unfold plantedB at h
  simp only [Bool.and_eq_true, decide_eq_true_eq, List.all_eq_true, List.mem_range, Bool.or_eq_true,
    List.contains_eq_mem, beq_iff_eq, List.any_eq_true, bne_iff_ne, ne_eq] at h
  obtain ⟨⟨⟨⟨⟨⟨⟨⟨⟨h5, hodd⟩, hlenA⟩, hbaseA⟩, htwo⟩, hS⟩, hpoly⟩, hends⟩, hapart⟩, huniq⟩ := h
  have hlen : ∀ s ∈ A :: S, s.length = L := by
    intro s hs
    rcases List.mem_cons.mp hs with rfl | hs
    · exact hlenA
    · exact (hS s hs).1.1
  have hoffA : ∀ s ∈ A :: S, ∀ j, j < L → j ∉ P → s.getD j 0 = A.getD j 0 := by
    intro s hs j hj hjP
    rcases List.mem_cons.mp hs with rfl | hs
    · rfl
    · exact ((hS s hs).2 j hj).resolve_left hjP
  refine ⟨⟨h5, hodd⟩, ⟨⟨hlen, ?_⟩, List.cons_ne_nil _ _, ?_, ?_, hends, hapart, ?_⟩, htwo, hpoly⟩
  · intro s hs
    rcases List.mem_cons.mp hs with rfl | hs
    · exact hbaseA
    · exact (hS s hs).1.2
  · intro s hs t ht j hj hjP
    rw [hoffA s hs j hj hjP, hoffA t ht j hj hjP]
  · intro p hp
    obtain ⟨s, hs, t, ht, hne⟩ := hpoly p hp
    exact ⟨s, List.mem_cons_of_mem _ hs, t, List.mem_cons_of_mem _ ht, hne⟩
  · intro s hs t ht j j' hj hj'
    exact uniqueB_spec huniq s hs t ht j j' (by rw [hlen s hs]; exact hj) (by rw [hlen t ht]; exact hj')

theorem PFam.tail {k L : Nat} {A : List UInt8} {S : List (List UInt8)} {P : List Nat} (h : PFam k L (A :: S) P)
    (hne : S ≠ []) (hpoly : ∀ p ∈ P, ∃ s ∈ S, ∃ t ∈ S, s.getD p 0 ≠ t.getD p 0) : PFam k L S P :=
  ⟨⟨fun s hs => h.sf.len s (List.mem_cons_of_mem _ hs), fun s hs => h.sf.base s (List.mem_cons_of_mem _ hs)⟩, hne,
    fun s hs t ht => h.off s (List.mem_cons_of_mem _ hs) t (List.mem_cons_of_mem _ ht), hpoly, h.ends, h.apart,
    fun s hs t ht => h.uniq s (List.mem_cons_of_mem _ hs) t (List.mem_cons_of_mem _ ht)⟩

theorem pfamA_of_planted {k L : Nat} {A : List UInt8} {S : List (List UInt8)} {P : List Nat}
    (h : plantedB k L A S P = true) : PFam k L (A :: S) P :=
  (planted_spec h).2.1

theorem pfam_of_planted {k L : Nat} {A : List UInt8} {S : List (List UInt8)} {P : List Nat}
    (h : plantedB k L A S P = true) : PFam k L S P := by
  obtain ⟨_, pfA, htwo, hpoly⟩ := planted_spec h
  exact pfA.tail (fun e => by rw [e] at htwo; exact absurd htwo (by decide)) hpoly

namespace PFam

variable {k L : Nat} {S : List (List UInt8)} {P : List Nat}

theorem len (h : PFam k L S P) {s : List UInt8} (hs : s ∈ S) : s.length = L := h.sf.len s hs

theorem base (h : PFam k L S P) {s : List UInt8} (hs : s ∈ S) : AllBase s := h.sf.base s hs

theorem le_len (h : PFam k L S P) {s : List UInt8} (hs : s ∈ S) {n : Nat} (hn : n ≤ L) : n ≤ s.length := by
  rw [h.len hs]
  exact hn

theorem getD_base (h : PFam k L S P) {s : List UInt8} (hs : s ∈ S) {q : Nat} (hq : q < L) :
    isBase (s.getD q 0) = true :=
  h.base hs _ (getD_mem (h.le_len hs hq))

theorem win_next (h : PFam k L S P) {s t : List UInt8} (hs : s ∈ S) (ht : t ∈ S) {j m : Nat}
    (hj : j + m < L) (hno : j + m ∉ P) (e : win s j m = win t j m) : win s (j + 1) m = win t (j + 1) m :=
  LOC.win_next (h.le_len hs hj) (h.le_len ht hj) e (h.off s hs t ht _ hj hno)

theorem win_prev (h : PFam k L S P) {s t : List UInt8} (hs : s ∈ S) (ht : t ∈ S) {j m : Nat}
    (hj : j + m < L) (hno : j ∉ P) (e : win s (j + 1) m = win t (j + 1) m) : win s j m = win t j m :=
  LOC.win_prev (h.le_len hs hj) (h.le_len ht hj) e (h.off s hs t ht _ (Nat.lt_of_le_of_lt (Nat.le_add_right j m) hj) hno)

/-- two sites are equal or `2k` apart, in the form `omega` uses -/
theorem sep' (h : PFam k L S P) {p q : Nat} (hp : p ∈ P) (hq : q ∈ P) :
    q = p ∨ p + 2 * k ≤ q ∨ q + 2 * k ≤ p := by
  have := h.apart
  rw [List.pairwise_iff_getElem] at this
  obtain ⟨i, hi, rfl⟩ := List.getElem_of_mem hp
  obtain ⟨i', hi', rfl⟩ := List.getElem_of_mem hq
  rcases Nat.lt_trichotomy i i' with hlt | heq | hgt
  · exact Or.inr (Or.inl (this i i' hi hi' hlt))
  · subst heq; exact Or.inl rfl
  · exact Or.inr (Or.inr (this i' i hi' hi hgt))

/-- with `q = a + k` (and `Nat.add_sub_cancel`) the entry node of `q` stands at `a + 1`, its arms begin at `a + 2`,
its exit node stands at `a + k + 1` -/
theorem site_add (h : PFam k L S P) {q : Nat} (hq : q ∈ P) : ∃ a, q = a + k ∧ k ≤ a ∧ a + 3 * k < L := by
  obtain ⟨h1, h2⟩ := h.ends q hq
  exact ⟨q - k, by omega⟩

theorem le_site (h : PFam k L S P) {q : Nat} (hq : q ∈ P) : k ≤ q :=
  Nat.le_trans (Nat.le_mul_of_pos_left k (by decide)) (h.ends q hq).1

theorem site_lt (h : PFam k L S P) {q : Nat} (hq : q ∈ P) : q < L :=
  Nat.lt_of_le_of_lt (Nat.le_add_right ..) (h.ends q hq).2

/-- the `k`-mer that starts at the exit node fits; the exit node itself does by `add_pred_le`, the node after it by
`succ_add_pred_le` -/
theorem exit_fit (h : PFam k L S P) {q : Nat} (hq : q ∈ P) : q + 1 + k ≤ L := by
  rw [Nat.add_right_comm]
  exact Nat.lt_of_le_of_lt (Nat.add_le_add_left (Nat.le_mul_of_pos_left k (by decide)) q) (h.ends q hq).2

theorem site_fit (h : PFam k L S P) {q : Nat} (hq : q ∈ P) : q + k ≤ L :=
  Nat.le_trans (Nat.add_le_add_right (Nat.le_succ q) k) (h.exit_fit hq)

/-- the entry node of a site `q` lies at `q - k + 1`: the site is the last letter of the `k`-mer that starts there -/
theorem entry_add (h : PFam k L S P) (hk : 1 ≤ k) {q : Nat} (hq : q ∈ P) : q - k + 1 + (k - 1) = q := by
  rw [Nat.add_assoc, Nat.add_sub_cancel' hk, Nat.sub_add_cancel (h.le_site hq)]

theorem entry_succ (h : PFam k L S P) {q : Nat} (hq : q ∈ P) : q - k + 1 + k = q + 1 := by
  rw [Nat.add_right_comm, Nat.sub_add_cancel (h.le_site hq)]

/-- read backwards: the `k`-mer that starts at `j` ends at a site, so `j` is the coordinate of its entry node -/
theorem entry_at (h : PFam k L S P) (hk : 1 ≤ k) {j : Nat} (hq : j + k - 1 ∈ P) : j + k - 1 - k + 1 = j := by
  refine Nat.add_right_cancel ((h.entry_succ hq).trans ?_)
  rw [Nat.sub_add_cancel (Nat.le_trans hk (Nat.le_add_left k j))]

theorem entry_fit (h : PFam k L S P) {q : Nat} (hq : q ∈ P) : q - k + 1 + k ≤ L := by
  rw [h.entry_succ hq]
  exact h.site_lt hq

theorem entry_mem (h : PFam k L S P) (hk : 1 ≤ k) {q : Nat} (hq : q ∈ P) : q - k + 1 ≤ q ∧ q < q - k + 1 + k :=
  have hc := h.entry_add hk hq
  ⟨Nat.le.intro hc, Nat.lt_of_le_of_lt (Nat.le_of_eq hc.symm) (Nat.add_lt_add_left (Nat.sub_lt hk Nat.one_pos) _)⟩

/-- the first node of an arm at a site `q` lies at `q - k + 2`: the site is its last letter -/
theorem arm_add (h : PFam k L S P) (hk : 2 ≤ k) {q : Nat} (hq : q ∈ P) : q - k + 2 + (k - 2) = q := by
  rw [Nat.add_assoc, Nat.add_sub_cancel' hk, Nat.sub_add_cancel (h.le_site hq)]

theorem arm_fit (h : PFam k L S P) (hk : 2 ≤ k) {q : Nat} (hq : q ∈ P) : q - k + 2 + (k - 1) ≤ L :=
  succ_add_pred_le (Nat.le_of_succ_le hk) (h.entry_fit hq)

theorem arm_mem (h : PFam k L S P) (hk : 2 ≤ k) {q : Nat} (hq : q ∈ P) :
    q - k + 2 ≤ q ∧ q < q - k + 2 + (k - 1) :=
  have e := h.arm_add hk hq
  ⟨Nat.le.intro e,
    Nat.lt_of_le_of_lt (Nat.le_of_eq e.symm) (Nat.add_lt_add_left (Nat.sub_lt_sub_left hk (by decide)) _)⟩

theorem site_eq (h : PFam k L S P) {p q : Nat} (hp : p ∈ P) (hq : q ∈ P) (hpq : p < q + 2 * k)
    (hqp : q < p + 2 * k) : p = q := by
  have := h.sep' hp hq
  omega

/-- by the uniqueness of the `(k-1)`-mers, applied to the first `k - 1` letters -/
theorem uniq_k (h : PFam k L S P) (hk : 1 ≤ k) {s t : List UInt8} (hs : s ∈ S) (ht : t ∈ S) {j j' : Nat}
    (hj : j + k ≤ L) (hj' : j' + k ≤ L) :
    (win s j k = win t j' k → j = j') ∧ win s j k ≠ rcSeq (win t j' k) := by
  have htake : ∀ u i, win u i (k - 1) = (win u i k).take (k - 1) := fun u i =>
    (win_take u i k (k - 1) (Nat.sub_le k 1)).symm
  constructor
  · intro hw
    refine (h.uniq s hs t ht j j' (add_pred_le hj) (add_pred_le hj')).1 ?_
    rw [htake, htake, hw]
  · intro hw
    refine (h.uniq s hs t ht j (j' + 1) (add_pred_le hj) (succ_add_pred_le hk hj')).2 ?_
    rw [htake, hw, rcSeq_take_pred' (n := k - 1) (by rw [win_length (h.le_len ht hj'), Nat.sub_add_cancel hk]),
      win_drop]

theorem win_agree_of (h : PFam k L S P) {s t : List UInt8} (hs : s ∈ S) (ht : t ∈ S) {j m : Nat}
    (hj : j + m ≤ L) (hsite : ∀ p ∈ P, j ≤ p → p < j + m → s.getD p 0 = t.getD p 0) :
    win s j m = win t j m := by
  rw [win_eq_iff (h.le_len hs hj) (h.le_len ht hj)]
  intro i hi
  have hlt : j + i < j + m := Nat.add_lt_add_left hi j
  by_cases hp : j + i ∈ P
  · exact hsite _ hp (Nat.le_add_right j i) hlt
  · exact h.off s hs t ht _ (Nat.lt_of_lt_of_le hlt hj) hp

theorem win_agree (h : PFam k L S P) {s t : List UInt8} (hs : s ∈ S) (ht : t ∈ S) {j m : Nat}
    (hj : j + m ≤ L) (hno : ∀ p ∈ P, ¬ (j ≤ p ∧ p < j + m)) : win s j m = win t j m :=
  h.win_agree_of hs ht hj fun p hp h1 h2 => absurd ⟨h1, h2⟩ (hno p hp)

theorem win_agree_site (h : PFam k L S P) {s t : List UInt8} (hs : s ∈ S) (ht : t ∈ S) {j m p : Nat}
    (hj : j + m ≤ L) (hm : m ≤ 2 * k) (hp : p ∈ P) (hjp : j ≤ p) (hpm : p < j + m)
    (hst : s.getD p 0 = t.getD p 0) : win s j m = win t j m := by
  refine h.win_agree_of hs ht hj fun q hq h1 h2 => ?_
  obtain rfl := h.site_eq hq hp (by omega) (by omega)
  exact hst

end PFam

def IsNext (PT : List Nat) (p q : Nat) : Prop := q ∈ PT ∧ p < q ∧ ∀ r ∈ PT, ¬ (p < r ∧ r < q)

def IsLast (PT : List Nat) (p : Nat) : Prop := ∀ r ∈ PT, r ≤ p

theorem next_or_last (PT : List Nat) (p : Nat) : IsLast PT p ∨ ∃ q, IsNext PT p q := by
  induction PT with
  | nil => exact Or.inl fun r hr => absurd hr List.not_mem_nil
  | cons a l ih =>
    rcases ih with hl | ⟨q, hq, hpq, hmin⟩
    · by_cases ha : a ≤ p
      · exact Or.inl (List.forall_mem_cons.mpr ⟨ha, hl⟩)
      · refine Or.inr ⟨a, List.mem_cons_self .., Nat.lt_of_not_le ha, List.forall_mem_cons.mpr ⟨fun h => ?_, fun r hr h => ?_⟩⟩
        · exact Nat.lt_irrefl _ h.2
        · exact Nat.not_lt_of_le (hl r hr) h.1
    · by_cases ha : p < a ∧ a < q
      · refine Or.inr ⟨a, List.mem_cons_self .., ha.1, List.forall_mem_cons.mpr ⟨fun h => ?_, fun r hr h => ?_⟩⟩
        · exact Nat.lt_irrefl _ h.2
        · exact hmin r hr ⟨h.1, Nat.lt_trans h.2 ha.2⟩
      · exact Or.inr ⟨q, List.mem_cons_of_mem _ hq, hpq, List.forall_mem_cons.mpr ⟨ha, hmin⟩⟩

theorem PFam.sorted {k L : Nat} {S : List (List UInt8)} {P : List Nat} (h : PFam k L S P) (hk : 1 ≤ k) :
    P.Pairwise (· < ·) :=
  h.apart.imp (fun hab => by omega)

theorem PFam.site_between {k L : Nat} {S : List (List UInt8)} {P : List Nat} (h : PFam k L S P) {p p' q : Nat}
    (hp : p ∈ P) (hp' : p' ∈ P) (hq : q ∈ P) (h1 : p < q + k) (h2 : q < p' + k) : p ≤ q ∧ q ≤ p' := by
  have := h.sep' hp hq
  have := h.sep' hp' hq
  omega

theorem PFam.next_far {k L : Nat} {S : List (List UInt8)} {P : List Nat} (h : PFam k L S P) {p q : Nat}
    (hp : p ∈ P) (hn : IsNext P p q) : p + 2 * k ≤ q := by
  have := h.sep' hp hn.1
  have := hn.2.1
  omega

def rcFam (S : List (List UInt8)) : List (List UInt8) := S.map rcSeq

/-- the sites on the other strand, increasing -/
def mirrorP (L : Nat) (P : List Nat) : List Nat := (P.map (fun p => L - 1 - p)).reverse

theorem mem_mirrorP (L : Nat) (P : List Nat) (q : Nat) : q ∈ mirrorP L P ↔ ∃ p ∈ P, q = L - 1 - p := by
  unfold mirrorP
  rw [List.mem_reverse, List.mem_map]
  constructor
  · rintro ⟨p, hp, rfl⟩; exact ⟨p, hp, rfl⟩
  · rintro ⟨p, hp, rfl⟩; exact ⟨p, hp, rfl⟩

theorem mem_rcFam {S : List (List UInt8)} {s' : List UInt8} : s' ∈ rcFam S ↔ ∃ s ∈ S, rcSeq s = s' :=
  List.mem_map

theorem getElem?_rcFam {S : List (List UInt8)} {i : Nat} {s' : List UInt8} :
    (rcFam S)[i]? = some s' ↔ ∃ s, S[i]? = some s ∧ rcSeq s = s' := by
  unfold rcFam
  rw [List.getElem?_map, Option.map_eq_some_iff]

theorem rcFam_closed {k L : Nat} {S : List (List UInt8)} {P : List Nat} (h : PFam k L S P) :
    ∀ s' ∈ rcFam S, s'.length = L ∧ rcSeq s' ∈ S := by
  intro s' hs'
  obtain ⟨s, hs, rfl⟩ := mem_rcFam.mp hs'
  exact ⟨by rw [rcSeq_length, h.len hs], by rw [rcSeq_rcSeq (h.base hs)]; exact hs⟩

theorem rN_eq_fN_add {k : Nat} {s : List UInt8} (hb : AllBase s) {j j' : Nat}
    (h : s.length = j' + (k - 1) + j) : rN k s j = fN k (rcSeq s) j' :=
  (kmerAt_rc (k := k - 1) hb h.symm).1.symm

theorem rN_edge {k : Nat} {s : List UInt8} (hb : AllBase s) (hk : 1 ≤ k) {j j' : Nat}
    (h : s.length = j' + k + j) :
    rN k s (j + 1) = fN k (rcSeq s) j' ∧ rN k s j = fN k (rcSeq s) (j' + 1) :=
  ⟨rN_eq_fN_add hb (by omega), rN_eq_fN_add hb (by omega)⟩

section

variable {k L : Nat} {S : List (List UInt8)} {P : List Nat} (h : PFam k L S P) {s : List UInt8} (hs : s ∈ S)
include h

theorem PFam.mirror_add {p : Nat} (hp : p ∈ P) : ∃ p', L - 1 - p = p' ∧ p + p' + 1 = L := by
  have := h.ends p hp
  exact ⟨_, rfl, by omega⟩

include hs

theorem PFam.getD_mirror {q q' : Nat} (hqq : q + q' + 1 = L) : (rcSeq s).getD q' 0 = compl (s.getD q 0) :=
  rcSeq_getD_add (by rw [h.len hs, ← hqq, Nat.add_comm q, Nat.add_right_comm])

theorem PFam.getD_mirror_site {p : Nat} (hp : p ∈ P) : (rcSeq s).getD (L - 1 - p) 0 = compl (s.getD p 0) := by
  obtain ⟨p', e, hpp⟩ := h.mirror_add hp
  exact e ▸ h.getD_mirror hs hpp

end

theorem PFam.mirror {k L : Nat} {S : List (List UInt8)} {P : List Nat} (h : PFam k L S P) :
    PFam k L (rcFam S) (mirrorP L P) := by
  refine ⟨⟨?_, ?_⟩, ?_, ?_, ?_, ?_, ?_, ?_⟩
  · exact fun s' hs' => (rcFam_closed h s' hs').1
  · intro s' hs'
    obtain ⟨s, hs, rfl⟩ := mem_rcFam.mp hs'
    exact (h.base hs).rcSeq
  · exact fun e => h.ne (List.map_eq_nil_iff.mp e)
  · intro s' hs' t' ht' j hj hjP
    obtain ⟨s, hs, rfl⟩ := mem_rcFam.mp hs'
    obtain ⟨t, ht, rfl⟩ := mem_rcFam.mp ht'
    obtain ⟨i, hi, hiL⟩ := mirror_idx (m := 1) hj
    rw [rcSeq_getD_add ((h.len hs).trans hi), rcSeq_getD_add ((h.len ht).trans hi),
      h.off s hs t ht i hiL fun hp => hjP ((mem_mirrorP L P j).mpr ⟨i, hp, by omega⟩)]
  · intro q hq
    obtain ⟨p, hp, rfl⟩ := (mem_mirrorP L P q).mp hq
    obtain ⟨s, hs, t, ht, hne⟩ := h.poly p hp
    refine ⟨rcSeq s, mem_rcFam.mpr ⟨s, hs, rfl⟩, rcSeq t, mem_rcFam.mpr ⟨t, ht, rfl⟩, ?_⟩
    rw [h.getD_mirror_site hs hp, h.getD_mirror_site ht hp]
    exact fun ec => hne (compl_inj ec)
  · intro q hq
    obtain ⟨p, hp, rfl⟩ := (mem_mirrorP L P q).mp hq
    have := h.ends p hp
    omega
  · unfold mirrorP
    rw [List.pairwise_reverse, List.pairwise_map]
    refine h.apart.imp_of_mem ?_
    intro a b ha hb hab
    have := h.ends b hb
    omega
  · intro s' hs' t' ht' j j' hj hj'
    obtain ⟨s, hs, rfl⟩ := mem_rcFam.mp hs'
    obtain ⟨t, ht, rfl⟩ := mem_rcFam.mp ht'
    obtain ⟨i, hi, hiL⟩ := mirror_idx hj
    obtain ⟨i', hi', hiL'⟩ := mirror_idx hj'
    rw [rcSeq_win_add ((h.len hs).trans hi), rcSeq_win_add ((h.len ht).trans hi')]
    constructor
    · intro e
      have := (h.uniq s hs t ht i i' hiL hiL').1
        (rcSeq_inj ((h.base hs).win _ _) ((h.base ht).win _ _) e)
      omega
    · rw [rcSeq_rcSeq ((h.base ht).win _ _)]
      exact fun e => (h.uniq t ht s hs i' i hiL' hiL).2 e.symm

theorem PFam.cross {k L : Nat} {S : List (List UInt8)} {P : List Nat} (h : PFam k L S P)
    {s t' : List UInt8} (hs : s ∈ S) (ht' : t' ∈ rcFam S) {j j' : Nat} (hj : j + (k - 1) ≤ L)
    (hj' : j' + (k - 1) ≤ L) : win s j (k - 1) ≠ win t' j' (k - 1) := by
  obtain ⟨t, ht, rfl⟩ := mem_rcFam.mp ht'
  obtain ⟨i, hi, hiL⟩ := mirror_idx hj'
  rw [rcSeq_win_add ((h.len ht).trans hi)]
  exact (h.uniq s hs t ht j i hj hiL).2

section mirror

variable {k L : Nat} {T : List (List UInt8)} {PT : List Nat}

theorem PFam.mirror_mirror (pf : PFam k L T PT) {p : Nat} (hp : p ∈ PT) : L - 1 - (L - 1 - p) = p := by
  obtain ⟨p', e, h⟩ := pf.mirror_add hp
  rw [e, ← h, Nat.add_sub_cancel, Nat.add_sub_cancel]

/-- a site `p` and its mirror image `L - 1 - p`: the entry node of the one and the exit node of the other cover the
same `k - 1` letters (the equations `rvN_mirror` asks for) -/
theorem PFam.mirror_ext (pf : PFam k L T PT) (hk : 1 ≤ k) {p : Nat} (hp : p ∈ PT) :
    L = L - 1 - p + 1 + (k - 1) + (p - k + 1) ∧ L = L - 1 - p - k + 1 + (k - 1) + (p + 1) := by
  obtain ⟨a, rfl, ha, hL⟩ := pf.site_add hp
  rw [Nat.add_sub_cancel]
  omega

theorem mirror_site (pf : PFam k L T PT) {q' : Nat} (hq' : q' ∈ mirrorP L PT) :
    L - 1 - q' ∈ PT ∧ L - 1 - q' + q' + 1 = L := by
  obtain ⟨p, hp, rfl⟩ := (mem_mirrorP L PT q').mp hq'
  obtain ⟨p', e, h⟩ := pf.mirror_add hp
  rw [pf.mirror_mirror hp]
  exact ⟨hp, e ▸ h⟩

theorem exists_mirror (F : Nat → List UInt8 → Prop) :
    (∃ p' ∈ mirrorP L PT, ∃ t' ∈ rcFam T, F p' t') ↔ ∃ p ∈ PT, ∃ s ∈ T, F (L - 1 - p) (rcSeq s) := by
  constructor
  · rintro ⟨p', hp', t', ht', h⟩
    obtain ⟨p, hp, rfl⟩ := (mem_mirrorP L PT p').mp hp'
    obtain ⟨s, hs, rfl⟩ := mem_rcFam.mp ht'
    exact ⟨p, hp, s, hs, h⟩
  · rintro ⟨p, hp, s, hs, h⟩
    exact ⟨_, (mem_mirrorP L PT _).mpr ⟨p, hp, rfl⟩, _, mem_rcFam.mpr ⟨s, hs, rfl⟩, h⟩

theorem PFam.mem_mirrorP (pf : PFam k L T PT) {p p' : Nat} (h : p + p' + 1 = L) : p' ∈ mirrorP L PT ↔ p ∈ PT := by
  rw [LOC.mem_mirrorP]
  constructor
  · rintro ⟨q, hq, rfl⟩
    obtain ⟨q', e, hq'⟩ := pf.mirror_add hq
    rw [e, ← hq'] at h
    exact Nat.add_right_cancel (Nat.add_right_cancel h) ▸ hq
  · intro hp
    exact ⟨p, hp, by rw [← h, Nat.add_sub_cancel, Nat.add_sub_cancel_left]⟩

theorem rcFam_rcFam (pf : PFam k L T PT) : rcFam (rcFam T) = T := by
  unfold rcFam
  rw [List.map_map]
  exact (List.map_congr_left (g := id) fun s hs => rcSeq_rcSeq (pf.base hs)).trans (List.map_id _)

theorem mirrorP_mirrorP (pf : PFam k L T PT) : mirrorP L (mirrorP L PT) = PT := by
  unfold mirrorP
  rw [List.map_reverse, List.reverse_reverse, List.map_map]
  exact (List.map_congr_left (g := id) fun p hp => pf.mirror_mirror hp).trans (List.map_id _)

theorem PFam.rvN_mirror (pf : PFam k L T PT) {W : Nat} (hW : 2 * k ≤ W) {s : List UInt8} (hs : s ∈ T) {j j' : Nat}
    (h : L = j' + (k - 1) + j) : rvN W k s j = fN k (rcSeq s) j' := by
  rw [rvN_eq hW (pf.base hs)]
  exact rN_eq_fN_add (pf.base hs) ((pf.len hs).trans h)

end mirror

structure Along (m L : Nat) (T : List (List UInt8)) (c len : Nat) (w : List UInt8) : Prop where
  hlen : w.length = len
  hbase : AllBase w
  hL : c + len ≤ L
  hm : m ≤ len
  hwin : ∀ i, i + m ≤ len → ∃ t ∈ T, win w i m = win t (c + i) m

theorem Along.of_le {m m' L c len : Nat} {T : List (List UInt8)} {w : List UInt8} (ha : Along m L T c len w)
    (h : m' ≤ m) : Along m' L T c len w := by
  refine ⟨ha.hlen, ha.hbase, ha.hL, Nat.le_trans h ha.hm, fun i hi => ?_⟩
  rcases Nat.le_total (i + m) len with hc | hc
  · obtain ⟨t, ht, hwt⟩ := ha.hwin i hc
    exact ⟨t, ht, by rw [← win_take w i m m' h, hwt, win_take _ _ _ _ h]⟩
  · -- the last window of `m` letters, at `a`, holds the window at `i = a + j`
    obtain ⟨a, rfl⟩ := Nat.exists_eq_add_of_le' ha.hm
    obtain ⟨j, rfl⟩ := Nat.exists_eq_add_of_le (Nat.le_of_add_le_add_right hc)
    obtain ⟨t, ht, hwt⟩ := ha.hwin a (Nat.le_refl _)
    have hj : j + m' ≤ m := by omega
    exact ⟨t, ht, by rw [← win_win w a m j m' hj, hwt, win_win t (c + a) m j m' hj, Nat.add_assoc]⟩

theorem Along.mirror {m L c' len c : Nat} {T' T : List (List UInt8)} {w : List UInt8} (ha : Along m L T' c' len w)
    (hT' : ∀ t' ∈ T', t'.length = L ∧ rcSeq t' ∈ T) (hc : c' + len + c = L) : Along m L T c len (rcSeq w) := by
  refine ⟨(rcSeq_length w).trans ha.hlen, ha.hbase.rcSeq, by omega, ha.hm, fun i hi => ?_⟩
  obtain ⟨j, hj⟩ := Nat.exists_eq_add_of_le hi
  obtain ⟨t', ht', hwt⟩ := ha.hwin j (by omega)
  obtain ⟨hl, hin⟩ := hT' t' ht'
  exact ⟨rcSeq t', hin, by
    rw [rcSeq_win_add (ha.hlen.trans hj), hwt, rcSeq_win_add (j := c' + j) (by rw [hl]; omega)]⟩

theorem Along.letter {L c len : Nat} {T : List (List UInt8)} {w : List UInt8} (ha : Along 1 L T c len w)
    (hT : ∀ t ∈ T, t.length = L) {pos : Nat} (hp : pos < len) : ∃ t ∈ T, w.getD pos 0 = t.getD (c + pos) 0 := by
  obtain ⟨t, ht, hwt⟩ := ha.hwin pos hp
  exact ⟨t, ht, (win_eq_iff (by rw [ha.hlen]; exact hp)
    (by rw [hT t ht]; exact Nat.le_trans (Nat.add_le_add_left hp c) ha.hL)).mp hwt 0 Nat.one_pos⟩

theorem Along.win_ref {k L : Nat} {R : List UInt8} {T : List (List UInt8)} {PT : List Nat} (pf : PFam k L (R :: T) PT)
    {m c len : Nat} {w : List UInt8} (ha : Along m L T c len w)
    {i : Nat} (hi : i + m ≤ len)
    (h : ∀ p ∈ PT, c + i ≤ p → p < c + i + m → w.getD (p - c) 0 = R.getD p 0) :
    win w i m = win R (c + i) m := by
  have hLc := ha.hL
  obtain ⟨t, ht, hwt⟩ := ha.hwin i hi
  have ht' : t ∈ R :: T := List.mem_cons_of_mem _ ht
  rw [hwt]
  refine pf.win_agree_of ht' (List.mem_cons_self ..) (by omega) fun p hp h1 h2 => ?_
  obtain ⟨j, rfl⟩ := Nat.exists_eq_add_of_le h1
  have e := h _ hp h1 h2
  rw [Nat.add_assoc, Nat.add_sub_cancel_left] at e
  -- `t` shows at `c + i + j` what `w` shows at `i + j`
  rw [← (win_eq_iff (by rw [ha.hlen]; exact hi) (by rw [pf.len ht']; omega)).mp hwt j (Nat.lt_of_add_lt_add_left h2),
    e, Nat.add_assoc]

end SkaModel.LOC
