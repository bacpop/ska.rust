/-
C18 completeness — successors of the nodes of the graph of a deletion family.  A strand of the graph (`GStrand`) is a
numbering of the valid nodes under which the successors of a node are its `RE`-successors (samples' strand) or its
`RE`-predecessors (other strand); the second strand is the first with `RE` reversed (`GStrand.of_edge`).  `RE` is
deterministic except at the node before a block (forwards) and at the node after a block (backwards).
-/
import SkaModel.Lemmas.LOEGraphD
import SkaModel.Lemmas.LOEBub

namespace SkaModel.LOE

open SkaModel SkaModel.Spec SkaModel.Props.C16 SkaModel.Skalo SkaModel.Props.C17G SkaModel.LOG SkaModel.LOC

structure Ctx (W k : Nat) (F : List UInt8) (B : List (Nat × Nat)) (C : List (List Bool)) (a : Arr)
    (names : List String) : Prop where
  h : DFam k F B C
  ha : IsArrOf a k names (dsamples F B C)
  hk : ValidK k
  hw : WidthOk W k

def nF (k : Nat) (F : List UInt8) (B : List (Nat × Nat)) (n : Nd) : Nat := nuF F (n.cols k B)
def nR (k : Nat) (F : List UInt8) (B : List (Nat × Nat)) (n : Nd) : Nat := nuR F (n.cols k B)

theorem re_succ_c {k N : Nat} {B : List (Nat × Nat)} {m : Nat → Nat} {x : Nat} {n' : Nd} (h : RE k N B m (.c x) n') :
    (n' = .c (x + 1) ∧ x + k ≤ N) ∨ (∃ t, t < B.length ∧ x = bS B t + m t - (k - 1) ∧ n' = .g t (x + 1)) := by
  cases h with
  | cc _ hx => exact Or.inl ⟨rfl, hx⟩
  | cg t ht => exact Or.inr ⟨t, ht, rfl, rfl⟩

theorem re_succ_g {k N : Nat} {B : List (Nat × Nat)} {m : Nat → Nat} {t x : Nat} {n' : Nd} (h : RE k N B m (.g t x) n') :
    (n' = .g t (x + 1) ∧ bS B t + 1 + m t < x + k ∧ x + 1 < bS B t) ∨ (x = bS B t - 1 ∧ n' = .c (bE B t)) := by
  cases h with
  | gg _ _ _ h1 h2 => exact Or.inl ⟨rfl, h1, h2⟩
  | gc _ _ => exact Or.inr ⟨rfl, rfl⟩

theorem re_pred_c {k N : Nat} {B : List (Nat × Nat)} {m : Nat → Nat} {y : Nat} {n : Nd} (h : RE k N B m n (.c y)) :
    (∃ x, n = .c x ∧ y = x + 1 ∧ x + k ≤ N) ∨ (∃ t, t < B.length ∧ n = .g t (bS B t - 1) ∧ y = bE B t) := by
  cases h with
  | cc x hx => exact Or.inl ⟨x, rfl, rfl, hx⟩
  | gc t ht => exact Or.inr ⟨t, ht, rfl, rfl⟩

theorem re_pred_g {k N : Nat} {B : List (Nat × Nat)} {m : Nat → Nat} {t y : Nat} {n : Nd} (h : RE k N B m n (.g t y)) :
    t < B.length ∧ ((n = .c (bS B t + m t - (k - 1)) ∧ y = bS B t + m t - (k - 1) + 1) ∨
    (∃ x, n = .g t x ∧ y = x + 1 ∧ bS B t + 1 + m t < x + k ∧ x + 1 < bS B t)) := by
  cases h with
  | cg _ ht => exact ⟨ht, Or.inl ⟨rfl, rfl⟩⟩
  | gg _ x ht h1 h2 => exact ⟨ht, Or.inr ⟨x, rfl, rfl, h1, h2⟩⟩

theorem re_det_fw {k N : Nat} {B : List (Nat × Nat)} {m : Nat → Nat} {n n1 n2 : Nd} (h1 : RE k N B m n n1)
    (h2 : RE k N B m n n2) : n1 = n2 ∨ ∃ t, t < B.length ∧ n = .c (bS B t + m t - (k - 1)) := by
  cases n with
  | c x =>
    rcases re_succ_c h1 with ⟨rfl, _⟩ | ⟨t, ht, rfl, _⟩
    · rcases re_succ_c h2 with ⟨rfl, _⟩ | ⟨t, ht, rfl, _⟩
      · exact Or.inl rfl
      · exact Or.inr ⟨t, ht, rfl⟩
    · exact Or.inr ⟨t, ht, rfl⟩
  | g t x =>
    left
    rcases re_succ_g h1 with ⟨rfl, _, h3⟩ | ⟨rfl, rfl⟩
    · rcases re_succ_g h2 with ⟨rfl, _, _⟩ | ⟨rfl, rfl⟩
      · rfl
      · omega
    · rcases re_succ_g h2 with ⟨rfl, _, h3⟩ | ⟨_, rfl⟩
      · omega
      · rfl

theorem re_det_bw {k N : Nat} {B : List (Nat × Nat)} {m : Nat → Nat} (hB : ∀ t, t < B.length → k ≤ bS B t)
    {n n1 n2 : Nd} (h1 : RE k N B m n1 n) (h2 : RE k N B m n2 n) :
    n1 = n2 ∨ ∃ t, t < B.length ∧ n = .c (bE B t) := by
  cases n with
  | c y =>
    rcases re_pred_c h1 with ⟨x, rfl, rfl, _⟩ | ⟨t, ht, rfl, rfl⟩
    · rcases re_pred_c h2 with ⟨x', rfl, e, _⟩ | ⟨t, ht, rfl, e⟩
      · left
        rw [show x = x' by omega]
      · exact Or.inr ⟨t, ht, by rw [e]⟩
    · exact Or.inr ⟨t, ht, rfl⟩
  | g t y =>
    left
    obtain ⟨ht, hc1⟩ := re_pred_g h1
    obtain ⟨_, hc2⟩ := re_pred_g h2
    have hb := hB t ht
    rcases hc1 with ⟨rfl, e1⟩ | ⟨x, rfl, e1, h3, _⟩
    · rcases hc2 with ⟨rfl, _⟩ | ⟨x', rfl, e2, h4, _⟩
      · rfl
      · omega
    · rcases hc2 with ⟨rfl, e2⟩ | ⟨x', rfl, e2, _, _⟩
      · omega
      · rw [show x = x' by omega]

structure GStrand (g : Graph) (V : Nd → Prop) (R : Nd → Nd → Prop) (ν : Nd → Nat) : Prop where
  nd : ∀ x, (succs g x).Nodup
  lk : ∀ x, Assoc.lookup g x = if succs g x = [] then none else some (succs g x)
  val : ∀ {n n'}, R n n' → V n ∧ V n'
  inj : ∀ {n n'}, V n → V n' → ν n = ν n' → n = n'
  succ : ∀ {n}, V n → ∀ Y, Y ∈ succs g (ν n) ↔ ∃ n', R n n' ∧ Y = ν n'
  pred : ∀ {n'}, V n' → ∀ X, ν n' ∈ succs g X ↔ ∃ n, R n n' ∧ X = ν n

namespace GStrand

variable {g : Graph} {V : Nd → Prop} {R : Nd → Nd → Prop} {ν : Nd → Nat}

theorem of_edge {ν' : Nd → Nat} (nd : ∀ x, (succs g x).Nodup)
    (lk : ∀ x, Assoc.lookup g x = if succs g x = [] then none else some (succs g x))
    (val : ∀ {n n'}, R n n' → V n ∧ V n') (inj : ∀ {n n'}, V n → V n' → ν n = ν n' → n = n')
    (cross : ∀ {n n'}, V n → V n' → ν n ≠ ν' n')
    (edge : ∀ X Y, Y ∈ succs g X ↔ ∃ n n', R n n' ∧ ((X = ν n ∧ Y = ν n') ∨ (X = ν' n' ∧ Y = ν' n))) :
    GStrand g V R ν where
  nd := nd
  lk := lk
  val := val
  inj := inj
  succ := by
    intro n hv Y
    rw [edge]
    constructor
    · rintro ⟨m, m', hr, ⟨e1, e2⟩ | ⟨e1, _⟩⟩
      · rw [inj hv (val hr).1 e1]
        exact ⟨m', hr, e2⟩
      · exact absurd e1 (cross hv (val hr).2)
    · rintro ⟨n', hr, rfl⟩
      exact ⟨n, n', hr, Or.inl ⟨rfl, rfl⟩⟩
  pred := by
    intro n' hv X
    rw [edge]
    constructor
    · rintro ⟨m, m', hr, ⟨e1, e2⟩ | ⟨_, e2⟩⟩
      · rw [inj hv (val hr).2 e2]
        exact ⟨m, hr, e1⟩
      · exact absurd e2 (cross hv (val hr).1)
    · rintro ⟨n, hr, rfl⟩
      exact ⟨n, n', hr, Or.inl ⟨rfl, rfl⟩⟩

theorem single (s : GStrand g V R ν) {n n' : Nd} (h : ∀ m, R n m ↔ m = n') : succs g (ν n) = [ν n'] := by
  have hv := (s.val ((h n').mpr rfl)).1
  apply LO.eq_singleton (s.nd _) ((s.succ hv _).mpr ⟨n', (h n').mpr rfl, rfl⟩)
  intro y hy
  obtain ⟨m, hr, rfl⟩ := (s.succ hv y).mp hy
  rw [(h m).mp hr]

theorem lookup (s : GStrand g V R ν) {n n' : Nd} (h : ∀ m, R n m ↔ m = n') :
    Assoc.lookup g (ν n) = some [ν n'] := by
  rw [s.lk, s.single h]
  rfl

theorem pair (s : GStrand g V R ν) {n n1 n2 : Nd} (hne : n1 ≠ n2) (h : ∀ m, R n m ↔ m = n1 ∨ m = n2) :
    succs g (ν n) = [ν n1, ν n2] ∨ succs g (ν n) = [ν n2, ν n1] := by
  have h1 := s.val ((h n1).mpr (Or.inl rfl))
  have h2 := s.val ((h n2).mpr (Or.inr rfl))
  apply eq_pair (s.nd _) (fun e => hne (s.inj h1.2 h2.2 e))
  intro Y
  rw [s.succ h1.1]
  constructor
  · rintro ⟨m, hr, rfl⟩
    rcases (h m).mp hr with rfl | rfl
    · exact Or.inl rfl
    · exact Or.inr rfl
  · rintro (rfl | rfl)
    · exact ⟨n1, (h n1).mpr (Or.inl rfl), rfl⟩
    · exact ⟨n2, (h n2).mpr (Or.inr rfl), rfl⟩

theorem pred_eq (s : GStrand g V R ν) {n n' : Nd} (h : ∀ m, R m n' ↔ m = n) {X : Nat} (hX : ν n' ∈ succs g X) :
    X = ν n := by
  obtain ⟨m, hr, rfl⟩ := (s.pred (s.val ((h n).mpr rfl)).2 X).mp hX
  rw [(h m).mp hr]

end GStrand

namespace Ctx

variable {W k : Nat} {F : List UInt8} {B : List (Nat × Nat)} {C : List (List Bool)} {a : Arr} {names : List String}

theorem strandF (cx : Ctx W k F B C a names) :
    GStrand (buildGraph W a).1 (Nd.valid k F.length B (shf k F B)) (RE k F.length B (shf k F B)) (nF k F B) :=
  GStrand.of_edge (succs_nodup W a) (lookup_buildGraph W a) cx.h.re_valid cx.h.nuF_inj cx.h.nuF_ne_nuR
    (cx.h.edge_iff cx.ha cx.hk cx.hw)

theorem strandR (cx : Ctx W k F B C a names) :
    GStrand (buildGraph W a).1 (Nd.valid k F.length B (shf k F B)) (fun n n' => RE k F.length B (shf k F B) n' n)
      (nR k F B) :=
  GStrand.of_edge (succs_nodup W a) (lookup_buildGraph W a) (fun hr => (cx.h.re_valid hr).symm) cx.h.nuR_inj
    (fun hv hv' e => cx.h.nuF_ne_nuR hv' hv e.symm)
    (fun X Y => (cx.h.edge_iff cx.ha cx.hk cx.hw X Y).trans
      ⟨fun ⟨n, n', hr, h⟩ => ⟨n', n, hr, h.symm⟩, fun ⟨n, n', hr, h⟩ => ⟨n', n, hr, h.symm⟩⟩)

theorem source (cx : Ctx W k F B C a names) {X Y : Nat} (hY : Y ∈ succs (buildGraph W a).1 X) :
    ∃ n, n.valid k F.length B (shf k F B) ∧ (X = nF k F B n ∨ X = nR k F B n) := by
  obtain ⟨m, m', hr, ⟨e1, _⟩ | ⟨e1, _⟩⟩ := (cx.h.edge_iff cx.ha cx.hk cx.hw X Y).mp hY
  · exact ⟨m, (cx.h.re_valid hr).1, Or.inl e1⟩
  · exact ⟨m', (cx.h.re_valid hr).2, Or.inr e1⟩

theorem two_succs (cx : Ctx W k F B C a names) {X : Nat} (h2 : 2 ≤ (succs (buildGraph W a).1 X).length) :
    ∃ t, t < B.length ∧ (X = nF k F B (.c (bS B t + shf k F B t - (k - 1))) ∨ X = nR k F B (.c (bE B t))) := by
  -- two different successors number two different `RE`-successors (on the other strand: predecessors) of one node
  rw [← Dedup.eraseDups_of_nodup (succs_nodup W a X), Dedup.two_le_eraseDups_iff] at h2
  obtain ⟨Y1, hY1, Y2, hY2, hne⟩ := h2
  obtain ⟨n, hv, rfl | rfl⟩ := cx.source hY1
  · obtain ⟨n1, hr1, rfl⟩ := (cx.strandF.succ hv Y1).mp hY1
    obtain ⟨n2, hr2, rfl⟩ := (cx.strandF.succ hv Y2).mp hY2
    obtain ⟨t, ht, e⟩ := (re_det_fw hr1 hr2).resolve_left (fun e => hne (e ▸ rfl))
    exact ⟨t, ht, Or.inl (e ▸ rfl)⟩
  · obtain ⟨n1, hr1, rfl⟩ := (cx.strandR.succ hv Y1).mp hY1
    obtain ⟨n2, hr2, rfl⟩ := (cx.strandR.succ hv Y2).mp hY2
    obtain ⟨t, ht, e⟩ := (re_det_bw (fun t ht => by have := cx.h.bt ht; omega) hr1 hr2).resolve_left
      (fun e => hne (e ▸ rfl))
    exact ⟨t, ht, Or.inr (e ▸ rfl)⟩

end Ctx

end SkaModel.LOE
