/-
C17 completeness — the table of a family of samples (one record each, both strands): which rows it has
and what the cells are, in terms of the `k`-windows of the samples and their reverse complements.  `IsArrOf`:
an array holding these rows in any order; its keys are distinct, below `4^(k-1)` and canonical.
-/
import SkaModel.Lemmas.LOCStr
import SkaModel.Lemmas.SNPRows
import SkaModel.Lemmas.E2ETable
import SkaModel.Lemmas.LOColourRow
import SkaModel.Lemmas.LOCFold

namespace SkaModel.LOC

open SkaModel SkaModel.Spec SkaModel.Props.C16 SkaModel.Skalo SkaModel.SNP

theorem toArray_getD (s : List UInt8) (i : Nat) : s.toArray.getD i 0 = s.getD i 0 := by
  simp [Array.getD, List.getD_eq_getElem?_getD]
  split <;> rename_i h
  · rw [List.getElem?_eq_getElem h]; rfl
  · rw [List.getElem?_eq_none (by omega)]; rfl

theorem codesAt_toArray (s : List UInt8) (a n : Nat) (h : a + n ≤ s.length) :
    codesAt s.toArray a n = cds (win s a n) := by
  unfold codesAt cds
  rw [win_eq_map_range h, List.map_map]
  simp only [toArray_getD, Function.comp_def]

theorem armsAt_toArray {k : Nat} {s : List UInt8} {j : Nat} (hj : j + k ≤ s.length) (hk : k = 2 * halfK k + 1) :
    armsAt k s.toArray j = cds (win s j (halfK k)) ++ cds (win s (j + halfK k + 1) (halfK k)) ∧
    (cds (win s j (halfK k))).length = halfK k ∧ (cds (win s (j + halfK k + 1) (halfK k))).length = halfK k := by
  have h1 : j + halfK k ≤ s.length := by omega
  have h2 : j + halfK k + 1 + halfK k ≤ s.length := by omega
  refine ⟨?_, by rw [cds_length, win_length h1], by rw [cds_length, win_length h2]⟩
  unfold armsAt
  simp only
  rw [show (k - 1) / 2 = halfK k from rfl, codesAt_toArray _ _ _ h1, codesAt_toArray _ _ _ h2]

theorem midAt_toArray (k : Nat) (s : List UInt8) (j : Nat) :
    midAt k s.toArray j = code (s.getD (j + halfK k) 0) := by
  unfold midAt
  rw [toArray_getD]
  rfl

theorem rcCodes_full (u l : List Nat) (c : Nat) :
    rcCodes (u ++ [c] ++ l) = rcCodes l ++ [c ^^^ 2] ++ rcCodes u := by
  rw [rcCodes_append, rcCodes_append, ← List.append_assoc]
  rfl

theorem mem_windows_base {s : List UInt8} (hb : AllBase s) (k j : Nat) :
    j ∈ windows k s.toArray ↔ j + k ≤ s.length := by
  rw [mem_windows, List.size_toArray, and_iff_left_iff_imp]
  intro h t ht
  rw [toArray_getD]
  exact SNP.acgt_valid (hb _ (getD_mem (by omega)))

/-- no window of `k` letters of `s` is a palindromic split k-mer (no theorem assumes it; it is what fails
in the counterexample for the unrepaired program) -/
def NoPalin (k : Nat) (s : List UInt8) : Prop :=
  ∀ j, j + k ≤ s.length → win s j (halfK k) ≠ rcSeq (win s (j + halfK k + 1) (halfK k))

theorem noPalinB_iff (k : Nat) (T : List (List UInt8)) : noPalinB k T = true ↔ ∀ s ∈ T, NoPalin k s := by
  unfold noPalinB NoPalin
  simp only [List.all_eq_true, List.mem_range, bne_iff_ne, ne_eq]
  constructor
  · intro h s hs j hj
    exact h s hs j ((SNP.lt_windows_iff _ _ _).mpr hj)
  · intro h s hs j hj
    exact h s hs j ((SNP.lt_windows_iff _ _ _).mp hj)

theorem obs_window {k : Nat} {s : List UInt8} {j : Nat} (hj : j + k ≤ s.length) (hk : k = 2 * halfK k + 1) :
    let a1 := cds (win s j (halfK k))
    let a2 := cds (win s (j + halfK k + 1) (halfK k))
    let m := code (s.getD (j + halfK k) 0)
    cds (win s j k) = a1 ++ [m] ++ a2 ∧ a1.length = halfK k ∧ a2.length = halfK k ∧
    (obs k true s.toArray j).1 =
      (if packL (a1 ++ a2) > packL (rcCodes (a1 ++ a2)) then packL (rcCodes (a1 ++ a2)) else packL (a1 ++ a2)) ∧
    obsMask k true s.toArray j =
      (if packL (a1 ++ a2) = packL (rcCodes (a1 ++ a2)) then (1 <<< m) ||| (1 <<< (m ^^^ 2))
        else if packL (a1 ++ a2) > packL (rcCodes (a1 ++ a2)) then 1 <<< (m ^^^ 2) else 1 <<< m) := by
  intro a1 a2 m
  have hsp : cds (win s j (2 * halfK k + 1)) = a1 ++ [m] ++ a2 := by
    rw [win_split (h := halfK k) (hk ▸ hj), cds_append, cds_append]
    rfl
  rw [← hk] at hsp
  obtain ⟨harms, hlu, hll⟩ := armsAt_toArray hj hk
  have hobs : obs k true s.toArray j =
      (if packL (a1 ++ a2) > packL (rcCodes (a1 ++ a2)) then (packL (rcCodes (a1 ++ a2)), m ^^^ 2, true)
        else (packL (a1 ++ a2), m, false)) := by
    unfold obs
    simp only [Bool.true_and, decide_eq_true_eq]
    rw [harms, midAt_toArray]
  refine ⟨hsp, hlu, hll, by rw [hobs, apply_ite Prod.fst], ?_⟩
  unfold obsMask isPalin
  simp only [Bool.true_and, beq_iff_eq]
  rw [harms, hobs]
  by_cases he : packL (a1 ++ a2) = packL (rcCodes (a1 ++ a2))
  · rw [if_pos he, if_pos he, if_neg (Nat.not_lt.mpr (Nat.le_of_eq he))]
  · rw [if_neg he, if_neg he]
    by_cases hgt : packL (a1 ++ a2) > packL (rcCodes (a1 ++ a2))
    · rw [if_pos hgt, if_pos hgt]
    · rw [if_neg hgt, if_neg hgt]

structure ArmsOf (k : Nat) (w : List Nat) (key : Nat) (u : List Nat) (c : Nat) (l : List Nat) : Prop where
  strand : w = u ++ [c] ++ l ∨ rcCodes w = u ++ [c] ++ l
  ulen : u.length = halfK k
  llen : l.length = halfK k
  ucodes : Codes u
  lcodes : Codes l
  key_eq : key = packL (u ++ l)

theorem obs_canon {k : Nat} {s : List UInt8} {j : Nat} (hj : j + k ≤ s.length) (hk : k = 2 * halfK k + 1) :
    ∃ u c l, ArmsOf k (cds (win s j k)) (obs k true s.toArray j).1 u c l ∧ c < 4 := by
  obtain ⟨hsp, h1, h2, hkey, _⟩ := obs_window hj hk
  rw [hkey, hsp]
  split
  · exact ⟨_, _, _, ⟨Or.inr (rcCodes_full _ _ _), by rw [rcCodes_length, h2], by rw [rcCodes_length, h1],
      rcCodes_codes (cds_codes _), rcCodes_codes (cds_codes _), by rw [rcCodes_append]⟩, xor2_lt (code_lt _)⟩
  · exact ⟨_, _, _, ⟨Or.inl rfl, h1, h2, cds_codes _, cds_codes _, rfl⟩, code_lt _⟩

def Shows (k : Nat) (s : List UInt8) (u : List Nat) (n : UInt8) (l : List Nat) : Prop :=
  ∃ j, j + k ≤ s.length ∧
    (cds (win s j k) = u ++ [code n] ++ l ∨ rcCodes (cds (win s j k)) = u ++ [code n] ++ l)

theorem letter_fin : ∀ m : Fin 16, ∀ n ∈ ([65, 67, 71, 84] : List UInt8),
    (((if m.val == 0 then gap else letterOfMask m.val) ≠ 45 ∧
      n ∈ degenerate (if m.val == 0 then gap else letterOfMask m.val)) ↔ m.val.testBit (code n) = true) := by
  decide +kernel

theorem cellOfObs_shows (o : List (Nat × Nat)) (key : Nat) (hm : maskOf o key < 16) {n : UInt8}
    (hn4 : n ∈ ([65, 67, 71, 84] : List UInt8)) :
    (cellOfObs o key ≠ 45 ∧ n ∈ degenerate (cellOfObs o key)) ↔ (maskOf o key).testBit (code n) = true :=
  letter_fin ⟨_, hm⟩ n hn4

theorem testBit_one_shl (b c : Nat) : (1 <<< b).testBit c = decide (b = c) := by
  rw [Nat.one_shiftLeft, Nat.testBit_two_pow]

theorem arms_eq_iff {a1 a2 u l : List Nat} (h1 : a1.length = u.length) (h2 : a2.length = l.length)
    (c1 : Codes a1) (c2 : Codes a2) (cu : Codes u) (cl : Codes l) :
    packL (a1 ++ a2) = packL (u ++ l) ↔ a1 = u ∧ a2 = l := by
  constructor
  · intro e
    exact List.append_inj (packL_inj (Codes.append c1 c2) (Codes.append cu cl)
      (by rw [List.length_append, List.length_append, h1, h2]) e) h1
  · rintro ⟨rfl, rfl⟩
    rfl

theorem full_eq_iff {a1 a2 u l : List Nat} {m c : Nat} (h1 : a1.length = u.length) :
    a1 ++ [m] ++ a2 = u ++ [c] ++ l ↔ a1 = u ∧ m = c ∧ a2 = l := by
  constructor
  · exact LORL.split_full h1
  · rintro ⟨rfl, rfl, rfl⟩
    rfl

/-- A window with arms `a1`, `a2` and middle code `m` is stored under the smaller of the packed arms of its
two strands, with the middle code of that strand (of both, if the arms are their own reverse complement).
Against a canonical key `packL (u ++ l)`: it is stored there with bit `c` iff one of its strands is `u c l`. -/
theorem strand_bit {h : Nat} {a1 a2 u l : List Nat} {m c key mask : Nat}
    (h1 : a1.length = h) (h2 : a2.length = h) (hu : u.length = h) (hl : l.length = h)
    (c1 : Codes a1) (c2 : Codes a2) (cu : Codes u) (cl : Codes l)
    (hcan : packL (u ++ l) ≤ packL (rcCodes (u ++ l)))
    (hkey : key = if packL (a1 ++ a2) > packL (rcCodes (a1 ++ a2)) then packL (rcCodes (a1 ++ a2))
      else packL (a1 ++ a2))
    (hmask : mask = if packL (a1 ++ a2) = packL (rcCodes (a1 ++ a2)) then (1 <<< m) ||| (1 <<< (m ^^^ 2))
      else if packL (a1 ++ a2) > packL (rcCodes (a1 ++ a2)) then 1 <<< (m ^^^ 2) else 1 <<< m) :
    (key = packL (u ++ l) ∧ mask.testBit c = true) ↔
      (a1 ++ [m] ++ a2 = u ++ [c] ++ l ∨ rcCodes (a1 ++ [m] ++ a2) = u ++ [c] ++ l) := by
  subst hkey hmask
  have eA : packL (a1 ++ a2) = packL (u ++ l) ↔ a1 = u ∧ a2 = l :=
    arms_eq_iff (h1.trans hu.symm) (h2.trans hl.symm) c1 c2 cu cl
  have eR : packL (rcCodes a2 ++ rcCodes a1) = packL (u ++ l) ↔ rcCodes a2 = u ∧ rcCodes a1 = l :=
    arms_eq_iff (by rw [rcCodes_length, h2, hu]) (by rw [rcCodes_length, h1, hl]) (rcCodes_codes c2)
      (rcCodes_codes c1) cu cl
  rw [rcCodes_full, full_eq_iff (h1.trans hu.symm), full_eq_iff (by rw [rcCodes_length, h2, hu]),
    rcCodes_append a1 a2]
  rcases Nat.lt_trichotomy (packL (a1 ++ a2)) (packL (rcCodes a2 ++ rcCodes a1)) with hlt | heq | hgt
  · rw [if_neg (Nat.lt_asymm hlt), if_neg (Nat.ne_of_lt hlt), if_neg (Nat.lt_asymm hlt), eA, testBit_one_shl,
      decide_eq_true_eq]
    constructor
    · rintro ⟨⟨e1, e2⟩, e3⟩
      exact Or.inl ⟨e1, e3, e2⟩
    · rintro (⟨e1, e3, e2⟩ | ⟨e1, _, e2⟩)
      · exact ⟨⟨e1, e2⟩, e3⟩
      · -- the other strand would have the smaller key
        subst e1 e2
        rw [rcCodes_append, rcCodes_rcCodes, rcCodes_rcCodes] at hcan
        exact absurd hlt (Nat.not_lt.mpr hcan)
  · -- both strands have the same arms: both middle codes are stored
    obtain ⟨f1, f2⟩ := (arms_eq_iff (by rw [rcCodes_length, h1, h2]) (by rw [rcCodes_length, h1, h2]) c1 c2
      (rcCodes_codes c2) (rcCodes_codes c1)).mp heq
    rw [if_neg (Nat.not_lt.mpr (Nat.le_of_eq heq)), if_pos heq, eA, Nat.testBit_or, testBit_one_shl, testBit_one_shl, Bool.or_eq_true,
      decide_eq_true_eq, decide_eq_true_eq]
    constructor
    · rintro ⟨⟨e1, e2⟩, e3 | e3⟩
      · exact Or.inl ⟨e1, e3, e2⟩
      · exact Or.inr ⟨f1.symm.trans e1, e3, f2.symm.trans e2⟩
    · rintro (⟨e1, e3, e2⟩ | ⟨e1, e3, e2⟩)
      · exact ⟨⟨e1, e2⟩, Or.inl e3⟩
      · exact ⟨⟨f1.trans e1, f2.trans e2⟩, Or.inr e3⟩
  · rw [if_pos hgt, if_neg (Nat.ne_of_gt hgt), if_pos hgt, eR, testBit_one_shl, decide_eq_true_eq]
    constructor
    · rintro ⟨⟨e1, e2⟩, e3⟩
      exact Or.inr ⟨e1, e3, e2⟩
    · rintro (⟨e1, _, e2⟩ | ⟨e1, e3, e2⟩)
      · subst e1 e2
        rw [rcCodes_append] at hcan
        exact absurd hgt (Nat.not_lt.mpr hcan)
      · exact ⟨⟨e1, e2⟩, e3⟩

theorem cell_shows {k : Nat} {s : List UInt8} (hb : AllBase s)
    (hk : k = 2 * halfK k + 1) (u l : List Nat) (hu : u.length = halfK k) (hl : l.length = halfK k)
    (hcu : Codes u) (hcl : Codes l) (hcan : packL (u ++ l) ≤ packL (rcCodes (u ++ l)))
    (n : UInt8) (hn4 : n ∈ ([65, 67, 71, 84] : List UInt8)) :
    (cellOfObs (observations k true [s.toArray]) (packL (u ++ l)) ≠ 45 ∧
      n ∈ degenerate (cellOfObs (observations k true [s.toArray]) (packL (u ++ l)))) ↔ Shows k s u n l := by
  have hwin : ∀ j, j + k ≤ s.length →
      (((obs k true s.toArray j).1 = packL (u ++ l) ∧ (obsMask k true s.toArray j).testBit (code n) = true) ↔
        (cds (win s j k) = u ++ [code n] ++ l ∨ rcCodes (cds (win s j k)) = u ++ [code n] ++ l)) := by
    intro j hj
    obtain ⟨hsp, h1, h2, hkey, hmask⟩ := obs_window hj hk
    rw [hsp]
    exact strand_bit h1 h2 hu hl (cds_codes _) (cds_codes _) hcu hcl hcan hkey hmask
  rw [cellOfObs_shows _ _ (E2E.maskFor_lt k true [s.toArray] (packL (u ++ l))) hn4, maskOf_testBit,
    List.any_eq_true]
  constructor
  · rintro ⟨o, ho, hp⟩
    obtain ⟨j, hj, rfl⟩ := (mem_observations_single ..).mp ho
    rw [mem_windows_base hb] at hj
    simp only [Bool.and_eq_true, beq_iff_eq] at hp
    exact ⟨j, hj, (hwin j hj).mp hp⟩
  · rintro ⟨j, hj, hc⟩
    refine ⟨_, (mem_observations_single ..).mpr ⟨j, (mem_windows_base hb k j).mpr hj, rfl⟩, ?_⟩
    simp only [Bool.and_eq_true, beq_iff_eq]
    exact (hwin j hj).mpr hc

theorem key_le_rcKey {k : Nat} {s : List UInt8} {j : Nat} (hk : k = 2 * halfK k + 1) :
    (obs k true s.toArray j).1 ≤ LORL.rcKey k (obs k true s.toArray j).1 := by
  rw [obs_key]
  have hlen : (armsAt k s.toArray j).length = k - 1 := by rw [armsAt_length]; unfold halfK at hk; omega
  have hr := LORL.rcKey_packL k _ (armsAt_codes k s.toArray j) hlen
  have hr' : LORL.rcKey k (packL (rcCodes (armsAt k s.toArray j))) = packL (armsAt k s.toArray j) := by
    rw [LORL.rcKey_packL k _ (rcCodes_codes (armsAt_codes _ _ _)) (by rw [rcCodes_length, hlen]), rcCodes_rcCodes]
  by_cases hgt : packL (armsAt k s.toArray j) > packL (rcCodes (armsAt k s.toArray j))
  · rw [if_pos ⟨rfl, hgt⟩, hr']
    omega
  · rw [if_neg (by simp [hgt]), hr]
    omega

open SkaModel.LOG

structure SFam (L : Nat) (S : List (List UInt8)) : Prop where
  len : ∀ s ∈ S, s.length = L
  base : ∀ s ∈ S, AllBase s

def VFam (S : List (List UInt8)) : Prop := ∀ s ∈ S, AllBase s

structure IsArrOf (a : Arr) (k : Nat) (names : List String) (S : List (List UInt8)) : Prop where
  hk : a.k = k
  len : a.kmers.length = a.variants.length
  perm : (a.kmers.zip a.variants).Perm (tableOf k names S).rows

def Sa (S : List (List UInt8)) : List (Array UInt8) := S.map List.toArray

theorem tableOf_rows (k : Nat) (names : List String) (S : List (List UInt8)) :
    (tableOf k names S).rows = (keysOf k true (Sa S)).map (fun key => (key, rowOf k true (Sa S) key)) := by
  unfold tableOf
  rw [← specTable_rows_single k true names (Sa S)]
  unfold Sa
  rw [List.map_map]
  rfl

theorem isArrOf_arrOf (W k : Nat) (names : List String) (S : List (List UInt8)) :
    IsArrOf (arrOf W k names S) k names S :=
  ⟨rfl, by simp [arrOf, arrOfRows], by
    have : (arrOf W k names S).kmers.zip (arrOf W k names S).variants = (tableOf k names S).rows := ZipFilter.rezip2 _
    rw [this]⟩

theorem isArrOf_rows (W k : Nat) (names : List String) (S : List (List UInt8)) (rows' : List (Nat × List UInt8))
    (hp : rows'.Perm (tableOf k names S).rows) : IsArrOf (arrOfRows W k names rows') k names S :=
  ⟨rfl, by simp [arrOfRows], by
    have : (arrOfRows W k names rows').kmers.zip (arrOfRows W k names rows').variants = rows' := ZipFilter.rezip2 _
    rw [this]
    exact hp⟩

theorem mem_keysOf_base {S : List (List UInt8)} (hb : ∀ s ∈ S, AllBase s) (k : Nat) (key : Nat) :
    key ∈ keysOf k true (Sa S) ↔ ∃ s ∈ S, ∃ j, j + k ≤ s.length ∧ (obs k true s.toArray j).1 = key := by
  unfold keysOf allKeys
  rw [List.mem_eraseDups]
  simp only [List.mem_flatMap, List.mem_map]
  constructor
  · rintro ⟨o, ⟨s', hs', rfl⟩, ⟨x, hx, rfl⟩⟩
    obtain ⟨s, hs, rfl⟩ := List.mem_map.mp hs'
    obtain ⟨j, hj, rfl⟩ := (mem_observations_single ..).mp hx
    exact ⟨s, hs, j, (mem_windows_base (hb s hs) k j).mp hj, rfl⟩
  · rintro ⟨s, hs, j, hj, rfl⟩
    exact ⟨_, ⟨s.toArray, List.mem_map.mpr ⟨s, hs, rfl⟩, rfl⟩, _,
      (mem_observations_single ..).mpr ⟨j, (mem_windows_base (hb s hs) k j).mpr hj, rfl⟩, rfl⟩

theorem decodeBase_mem4 (c : Nat) : decodeBase c ∈ ([65, 67, 71, 84] : List UInt8) := by
  simpa [or_assoc] using isBase_cases (isBase_decodeBase c)

theorem mem_samplesOf_map {α : Type} (f : α → UInt8) (S : List α) (n : UInt8) (i : Nat) :
    i ∈ samplesOf (S.map f) n ↔ ∃ s, S[i]? = some s ∧ f s ≠ 45 ∧ n ∈ degenerate (f s) := by
  rw [mem_samplesOf, List.length_map, List.getD_eq_getElem?_getD, List.getElem?_map]
  constructor
  · rintro ⟨hi, h⟩
    rw [List.getElem?_eq_getElem hi] at h
    exact ⟨S[i], List.getElem?_eq_getElem hi, h⟩
  · rintro ⟨s, hs, h⟩
    rw [hs]
    exact ⟨(List.getElem?_eq_some_iff.mp hs).1, h⟩

/-! The samples may have different lengths: all that is used is that they consist of A, C, G, T (`hb`). -/
section
variable {a : Arr} {k : Nat} {names : List String} {S : List (List UInt8)}

theorem IsArrOf.mem_rows (ha : IsArrOf a k names S) (kv : Nat × List UInt8) :
    kv ∈ a.kmers.zip a.variants ↔ ∃ key ∈ keysOf k true (Sa S), kv = (key, rowOf k true (Sa S) key) := by
  rw [ha.perm.mem_iff, tableOf_rows, List.mem_map]
  constructor
  · rintro ⟨key, hk, e⟩; exact ⟨key, hk, e.symm⟩
  · rintro ⟨key, hk, e⟩; exact ⟨key, hk, e.symm⟩

theorem IsArrOf.kmers_perm (ha : IsArrOf a k names S) : a.kmers.Perm (keysOf k true (Sa S)) := by
  have h := ha.perm.map (·.1)
  rwa [List.map_fst_zip (by rw [ha.len]; exact Nat.le_refl _), tableOf_rows, List.map_map,
    show ((fun x : Nat × List UInt8 => x.1) ∘ fun key => (key, rowOf k true (Sa S) key)) = id from rfl,
    List.map_id] at h

theorem IsArrOf.nodup (ha : IsArrOf a k names S) : a.kmers.Nodup :=
  (ha.kmers_perm.nodup_iff).mpr (allKeys_nodup _ _ _)

theorem IsArrOf.mem_keys (ha : IsArrOf a k names S) (hb : ∀ s ∈ S, AllBase s) (key : Nat) :
    key ∈ a.kmers ↔ ∃ s ∈ S, ∃ j, j + k ≤ s.length ∧ (obs k true s.toArray j).1 = key := by
  rw [ha.kmers_perm.mem_iff, mem_keysOf_base hb]

theorem IsArrOf.hkeys (ha : IsArrOf a k names S) (hb : ∀ s ∈ S, AllBase s) (hk : k = 2 * halfK k + 1) :
    ∀ key ∈ a.kmers, key < 4 ^ (k - 1) := by
  intro key hkey
  obtain ⟨s, hs, j, hj, rfl⟩ := (ha.mem_keys hb key).mp hkey
  obtain ⟨u, c, l, hA, _⟩ := obs_canon hj hk
  rw [hA.key_eq, ← arms_length hA.ulen hA.llen hk]
  exact packL_lt (Codes.append hA.ucodes hA.lcodes)

theorem IsArrOf.hcanon (ha : IsArrOf a k names S) (hb : ∀ s ∈ S, AllBase s) (hk : k = 2 * halfK k + 1) :
    ∀ key ∈ a.kmers, key ≤ LORL.rcKey k key := by
  intro key hkey
  obtain ⟨s, hs, j, hj, rfl⟩ := (ha.mem_keys hb key).mp hkey
  exact key_le_rcKey hk

theorem IsArrOf.row_cells (ha : IsArrOf a k names S) (kv : Nat × List UInt8) (hkv : kv ∈ a.kmers.zip a.variants) :
    kv.2 = S.map (fun s => cellOfObs (observations k true [s.toArray]) kv.1) := by
  obtain ⟨key, _, rfl⟩ := (ha.mem_rows kv).mp hkv
  simp only [rowOf, Sa, List.map_map, Function.comp_def]

theorem IsArrOf.mem_samplesOf_row (ha : IsArrOf a k names S) (hb : ∀ s ∈ S, AllBase s) (hk : k = 2 * halfK k + 1)
    (kv : Nat × List UInt8) (hkv : kv ∈ a.kmers.zip a.variants)
    (u l : List Nat) (e : kv.1 = packL (u ++ l)) (hu : u.length = halfK k) (hl : l.length = halfK k)
    (hcu : Codes u) (hcl : Codes l) (n : UInt8) (hn4 : n ∈ ([65, 67, 71, 84] : List UInt8)) (i : Nat) :
    i ∈ samplesOf kv.2 n ↔ ∃ s, S[i]? = some s ∧ Shows k s u n l := by
  have hcan : packL (u ++ l) ≤ packL (rcCodes (u ++ l)) := by
    have := ha.hcanon hb hk kv.1 (List.of_mem_zip hkv).1
    rwa [e, LORL.rcKey_arms k u l hcu hcl (arms_length hu hl hk), ← rcCodes_append] at this
  rw [ha.row_cells kv hkv, mem_samplesOf_map, e]
  exact exists_congr fun s => and_congr_right fun hs =>
    cell_shows (hb s (List.mem_of_getElem? hs)) hk u l hu hl hcu hcl hcan n hn4

theorem IsArrOf.mem_shown_row (ha : IsArrOf a k names S) (hb : ∀ s ∈ S, AllBase s) (hk : k = 2 * halfK k + 1)
    (kv : Nat × List UInt8) (hkv : kv ∈ a.kmers.zip a.variants)
    (u l : List Nat) (e : kv.1 = packL (u ++ l)) (hu : u.length = halfK k) (hl : l.length = halfK k)
    (hcu : Codes u) (hcl : Codes l) (n : UInt8) :
    n ∈ shownBases kv.2 ↔ n ∈ ([65, 67, 71, 84] : List UInt8) ∧ ∃ s ∈ S, Shows k s u n l := by
  rw [mem_shownBases]
  constructor
  · rintro ⟨hn4, i, hi⟩
    obtain ⟨s, hs, hsh⟩ := (ha.mem_samplesOf_row hb hk kv hkv u l e hu hl hcu hcl n hn4 i).mp
      ((mem_samplesOf kv.2 n i).mpr hi)
    exact ⟨hn4, s, List.mem_of_getElem? hs, hsh⟩
  · rintro ⟨hn4, s, hs, hsh⟩
    obtain ⟨i, hi, rfl⟩ := List.getElem_of_mem hs
    exact ⟨hn4, i, (mem_samplesOf kv.2 n i).mp ((ha.mem_samplesOf_row hb hk kv hkv u l e hu hl hcu hcl n hn4 i).mpr
      ⟨S[i], List.getElem?_eq_getElem hi, hsh⟩)⟩

theorem IsArrOf.row_of_window (ha : IsArrOf a k names S) (hb : ∀ s ∈ S, AllBase s) (hk : k = 2 * halfK k + 1)
    (s : List UInt8) (hs : s ∈ S) (j : Nat) (hj : j + k ≤ s.length) :
    ∃ kv ∈ a.kmers.zip a.variants, ∃ u l n,
      n ∈ shownBases kv.2 ∧ ArmsOf k (cds (win s j k)) kv.1 u (code n) l := by
  obtain ⟨u, c, l, hA, hc4⟩ := obs_canon hj hk
  rw [← code_decodeBase hc4] at hA
  have hmem : (obs k true s.toArray j).1 ∈ keysOf k true (Sa S) :=
    (mem_keysOf_base hb k _).mpr ⟨s, hs, j, hj, rfl⟩
  have hrow := (ha.mem_rows _).mpr ⟨_, hmem, rfl⟩
  exact ⟨_, hrow, u, l, decodeBase c,
    (ha.mem_shown_row hb hk _ hrow u l hA.key_eq hA.ulen hA.llen hA.ucodes hA.lcodes _).mpr
      ⟨decodeBase_mem4 c, s, hs, j, hj, hA.strand⟩, hA⟩

end

end SkaModel.LOC
