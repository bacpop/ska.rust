/-
Specification of `Skalo.rowGraph` (the (k-1)-mer edges and the coloured k-mers one
table row of `ska lo`'s `build_graph` contributes), in terms of lists of 2-bit codes.
-/
import SkaModel.Impl.Skalo
import SkaModel.Props.C16Bits
import SkaModel.Lemmas.ListLemmas

namespace SkaModel.LOG

open SkaModel SkaModel.Skalo SkaModel.Spec SkaModel.Props.C16

def shownBases (cells : List UInt8) : List UInt8 :=
  ([65, 67, 71, 84] : List UInt8).filter
    (fun n => decide (∃ c ∈ cells, c ≠ 45 ∧ n ∈ degenerate c))

def samplesOf (cells : List UInt8) (n : UInt8) : List Nat :=
  (List.range cells.length).filter
    (fun i => decide (cells.getD i 45 ≠ 45 ∧ n ∈ degenerate (cells.getD i 45)))

def edgesOf (k : Nat) (u l : List Nat) (n : UInt8) : List (Nat × Nat) :=
  let full := u ++ [code n] ++ l
  [ (packL (full.take (k - 1)), packL (full.drop 1)),
    (packL (rcCodes (full.drop 1)), packL (rcCodes (full.take (k - 1)))) ]

def colorsOf (cells : List UInt8) (u l : List Nat) (n : UInt8) : List (Nat × List Nat) :=
  let full := u ++ [code n] ++ l
  [ (packL full, samplesOf cells n), (packL (rcCodes full), samplesOf cells n) ]

theorem code_decodeBase {c : Nat} (h : c < 4) : code (decodeBase c) = c := by
  have : c = 0 ∨ c = 1 ∨ c = 2 ∨ c = 3 := by omega
  rcases this with rfl | rfl | rfl | rfl <;> decide

theorem map_code_decodeBase (u : List Nat) (hu : ∀ c ∈ u, c < 4) :
    (u.map decodeBase).map code = u := by
  induction u with
  | nil => rfl
  | cons a t ih =>
    rw [List.map_cons, List.map_cons, code_decodeBase (hu a (List.mem_cons_self ..)),
      ih (fun c hc => hu c (List.mem_cons_of_mem _ hc))]

theorem map_code_full (u l : List Nat) (hcu : ∀ c ∈ u, c < 4) (hcl : ∀ c ∈ l, c < 4) (n : UInt8) :
    (u.map decodeBase ++ [n] ++ l.map decodeBase).map code = u ++ [code n] ++ l := by
  rw [List.map_append, List.map_append, map_code_decodeBase u hcu, map_code_decodeBase l hcl]
  rfl

theorem foldl_pair_flatMap {α β γ : Type} (F : List β × List γ → α → List β × List γ)
    (f : α → List β) (g : α → List γ) (bs : List α)
    (hF : ∀ n ∈ bs, ∀ acc, F acc n = (acc.1 ++ f n, acc.2 ++ g n)) (acc : List β × List γ) :
    bs.foldl F acc = (acc.1 ++ bs.flatMap f, acc.2 ++ bs.flatMap g) := by
  induction bs generalizing acc with
  | nil => simp
  | cons b t ih =>
    rw [List.foldl_cons, hF b (List.mem_cons_self ..),
      ih (fun n hn => hF n (List.mem_cons_of_mem _ hn))]
    simp [List.flatMap_cons, List.append_assoc]

theorem pred_eq (n c : UInt8) :
    (c != 45 && (degenerate c).contains n) = decide (c ≠ 45 ∧ n ∈ degenerate c) := by
  rw [Bool.eq_iff_iff]
  simp

theorem mem_samplesOf (cells : List UInt8) (n : UInt8) (i : Nat) :
    i ∈ samplesOf cells n ↔
      i < cells.length ∧ cells.getD i 45 ≠ 45 ∧ n ∈ degenerate (cells.getD i 45) := by
  unfold samplesOf
  rw [List.mem_filter, List.mem_range, decide_eq_true_iff]

theorem samplesOf_pairwise (cells : List UInt8) (n : UInt8) :
    (samplesOf cells n).Pairwise (· < ·) := by
  unfold samplesOf
  exact List.Pairwise.filter _ List.pairwise_lt_range

theorem samples_sorted (cells : List UInt8) (p : UInt8 × Nat → Bool) :
    ((cells.zipIdx.filter p).map (·.2)).Pairwise (· < ·) := by
  have hs : ((cells.zipIdx.filter p).map (·.2)).Sublist (cells.zipIdx.map (·.2)) :=
    List.Sublist.map _ List.filter_sublist
  refine List.Pairwise.sublist hs ?_
  have : cells.zipIdx.map (·.2) = List.range' 0 cells.length := by
    simp
  rw [this]
  exact List.pairwise_lt_range'

/-- both lists are increasing, so it is enough that they have the same members -/
theorem samples_eq (cells : List UInt8) (n : UInt8) :
    (cells.zipIdx.filter (fun ci => ci.1 != 45 && (degenerate ci.1).contains n)).map (·.2)
      = samplesOf cells n := by
  refine eq_of_sorted_mem (samples_sorted cells _) (samplesOf_pairwise cells n) fun i => ?_
  rw [mem_samplesOf, List.mem_map]
  constructor
  · rintro ⟨⟨c, j⟩, h, rfl⟩
    obtain ⟨hm, hp⟩ := List.mem_filter.mp h
    have hc : cells[j]? = some c := List.mem_zipIdx_iff_getElem?.mp hm
    rw [List.getD_eq_getElem?_getD, hc]
    exact ⟨(List.getElem?_eq_some_iff.mp hc).1, of_decide_eq_true ((pred_eq n c).symm.trans hp)⟩
  · rintro ⟨hi, hp⟩
    rw [List.getD_eq_getElem?_getD, List.getElem?_eq_getElem hi] at hp
    exact ⟨(cells[i], i), List.mem_filter.mpr ⟨List.mem_zipIdx_iff_getElem?.mpr (List.getElem?_eq_getElem hi),
      (pred_eq n _).trans (decide_eq_true hp)⟩, rfl⟩

theorem bases_eq (cells : List UInt8) :
    ([65, 67, 71, 84] : List UInt8).filter
        (fun n => cells.any (fun c => c != 45 && (degenerate c).contains n))
      = shownBases cells := by
  unfold shownBases
  apply List.filter_congr
  intro n _
  rw [Bool.eq_iff_iff]
  simp only [pred_eq, List.any_eq_true, decide_eq_true_iff]

theorem step_spec (W k : Nat) (hk : ValidK k) (hw : WidthOk W k) (u l : List Nat)
    (hu : u.length = halfK k) (hl : l.length = halfK k)
    (hcu : ∀ c ∈ u, c < 4) (hcl : ∀ c ∈ l, c < 4) (n : UInt8) :
    let full := u.map decodeBase ++ [n] ++ l.map decodeBase
    let cf := u ++ [code n] ++ l
    encodeKmer W (full.take (k - 1)) = packL (cf.take (k - 1)) ∧
    encodeKmer W (full.drop 1) = packL (cf.drop 1) ∧
    encodeKmer W full = packL cf ∧
    revComp W (packL (cf.drop 1)) (k - 1) = packL (rcCodes (cf.drop 1)) ∧
    revComp W (packL (cf.take (k - 1))) (k - 1) = packL (rcCodes (cf.take (k - 1))) ∧
    revComp W (packL cf) k = packL (rcCodes cf) := by
  intro full cf
  obtain ⟨_, hkh, hkW⟩ := validK_bounds hk hw
  have hmap : full.map code = cf := map_code_full u l hcu hcl n
  have hflen : full.length = k := by
    simp only [full, List.length_append, List.length_map, List.length_cons, List.length_nil, hu, hl]
    rw [Nat.add_right_comm, ← Nat.two_mul]
    exact hkh.symm
  have hclen : cf.length = k := by rw [← hmap, List.length_map, hflen]
  have hcodes : Codes cf := by
    rw [← hmap]; exact Codes.map_of _ _ code_lt
  have hkW2 : k ≤ W / 2 := (Nat.le_div_iff_mul_le Nat.two_pos).mpr (Nat.mul_comm k 2 ▸ hkW)
  have hk1 : k - 1 ≤ W / 2 := Nat.le_trans (Nat.sub_le k 1) hkW2
  have hdrop : (cf.drop 1).length = k - 1 := by rw [List.length_drop, hclen]
  have htake : (cf.take (k - 1)).length = k - 1 := by
    rw [List.length_take, hclen]; exact Nat.min_eq_left (Nat.sub_le k 1)
  have hdropW : 2 * (full.drop 1).length ≤ W := by
    rw [List.length_drop, hflen]; exact Nat.le_trans (Nat.mul_le_mul_left 2 (Nat.sub_le k 1)) hkW
  have htakeW : 2 * (full.take (k - 1)).length ≤ W := by
    rw [List.length_take, hflen, Nat.min_eq_left (Nat.sub_le k 1)]
    exact Nat.le_trans (Nat.mul_le_mul_left 2 (Nat.sub_le k 1)) hkW
  have hW : W = 64 ∨ W = 128 := widthOk_cases hw
  refine ⟨?_, ?_, ?_, T16_rc W hW _ (hcodes.drop 1) (k - 1) hdrop hk1,
    T16_rc W hW _ (hcodes.take (k - 1)) (k - 1) htake hk1, T16_rc W hW _ hcodes k hclen hkW2⟩
  · rw [T16_encode W _ htakeW, List.map_take, hmap]
  · rw [T16_encode W _ hdropW, List.map_drop, hmap]
  · rw [T16_encode W _ (hflen.symm ▸ hkW), hmap]

theorem decode_key (W k : Nat) (hk : ValidK k) (hw : WidthOk W k) (u l : List Nat)
    (hu : u.length = halfK k) (hl : l.length = halfK k)
    (hcu : ∀ c ∈ u, c < 4) (hcl : ∀ c ∈ l, c < 4) :
    decodeKmer W k (packL (u ++ l)) = (u.map decodeBase, l.map decodeBase) := by
  rw [T16_decode W k (u ++ l) (Codes.append hcu hcl) (by rw [List.length_append, hu, hl, Nat.two_mul]) hk hw,
    List.take_left' hu, List.drop_left' hu]

/-- for the key packing the arms `u`, `l` (2-bit codes), the row contributes, for every base `n` shown by
some sample (IUPAC expanded, in the order A C G T), the edge prefix → suffix of the k-mer `u n l`, the
reverse-complement edge, and the sample set of the k-mer and of its reverse complement -/
theorem rowGraph_spec' (W k : Nat) (hk : ValidK k) (hw : WidthOk W k) (u l : List Nat)
    (hu : u.length = halfK k) (hl : l.length = halfK k)
    (hcu : ∀ c ∈ u, c < 4) (hcl : ∀ c ∈ l, c < 4) (cells : List UInt8) :
    rowGraph W k (packL (u ++ l)) cells =
      ((shownBases cells).flatMap (edgesOf k u l),
       (shownBases cells).flatMap (colorsOf cells u l)) := by
  unfold rowGraph
  rw [decode_key W k hk hw u l hu hl hcu hcl]
  simp only
  rw [bases_eq cells]
  rw [foldl_pair_flatMap _ (edgesOf k u l) (colorsOf cells u l) (shownBases cells) ?_ ([], [])]
  · simp
  · intro n _ acc
    obtain ⟨h1, h2, h3, h4, h5, h6⟩ := step_spec W k hk hw u l hu hl hcu hcl n
    rw [samples_eq cells n, h1, h2, h3, h4, h5, h6]
    rfl

theorem mem_shownBases (cells : List UInt8) (n : UInt8) :
    n ∈ shownBases cells ↔
      n ∈ ([65, 67, 71, 84] : List UInt8) ∧
        ∃ i, i < cells.length ∧ cells.getD i 45 ≠ 45 ∧ n ∈ degenerate (cells.getD i 45) := by
  unfold shownBases
  rw [List.mem_filter, decide_eq_true_iff]
  constructor
  · rintro ⟨hn, c, hc, h⟩
    obtain ⟨i, hi, rfl⟩ := List.getElem_of_mem hc
    refine ⟨hn, i, hi, ?_⟩
    rw [← List.getElem_eq_getD (h := hi) 45]
    exact h
  · rintro ⟨hn, i, hi, h⟩
    rw [← List.getElem_eq_getD (h := hi) 45] at h
    exact ⟨hn, cells[i], List.getElem_mem hi, h⟩

theorem mem_rowGraph_edges (W k : Nat) (hk : ValidK k) (hw : WidthOk W k) (u l : List Nat)
    (hu : u.length = halfK k) (hl : l.length = halfK k)
    (hcu : ∀ c ∈ u, c < 4) (hcl : ∀ c ∈ l, c < 4) (cells : List UInt8) (e : Nat × Nat) :
    e ∈ (rowGraph W k (packL (u ++ l)) cells).1 ↔
      ∃ n ∈ shownBases cells,
        e = (packL ((u ++ [code n] ++ l).take (k - 1)), packL ((u ++ [code n] ++ l).drop 1)) ∨
        e = (packL (rcCodes ((u ++ [code n] ++ l).drop 1)),
             packL (rcCodes ((u ++ [code n] ++ l).take (k - 1)))) := by
  rw [rowGraph_spec' W k hk hw u l hu hl hcu hcl cells]
  simp only [List.mem_flatMap, edgesOf, List.mem_cons, List.not_mem_nil, or_false]

theorem mem_rowGraph_colors (W k : Nat) (hk : ValidK k) (hw : WidthOk W k) (u l : List Nat)
    (hu : u.length = halfK k) (hl : l.length = halfK k)
    (hcu : ∀ c ∈ u, c < 4) (hcl : ∀ c ∈ l, c < 4) (cells : List UInt8) (e : Nat × List Nat) :
    e ∈ (rowGraph W k (packL (u ++ l)) cells).2 ↔
      ∃ n ∈ shownBases cells,
        e = (packL (u ++ [code n] ++ l), samplesOf cells n) ∨
        e = (packL (rcCodes (u ++ [code n] ++ l)), samplesOf cells n) := by
  rw [rowGraph_spec' W k hk hw u l hu hl hcu hcl cells]
  simp only [List.mem_flatMap, colorsOf, List.mem_cons, List.not_mem_nil, or_false]

theorem full_take_drop (k : Nat) (u l : List Nat) (c : Nat)
    (hu : u.length = halfK k) (hl : l.length = halfK k) (hkh : k = 2 * halfK k + 1)
    (hh : 1 ≤ halfK k) :
    (u ++ [c] ++ l).take (k - 1) = u ++ [c] ++ l.take (halfK k - 1) ∧
    (u ++ [c] ++ l).drop 1 = u.drop 1 ++ [c] ++ l := by
  constructor
  · -- by hand: the certificate `omega` leaves for this equation is slow in the kernel
    have e : k - 1 = (u ++ [c]).length + (halfK k - 1) := by
      rw [List.length_append, hu, List.length_singleton, Nat.add_assoc, Nat.add_sub_cancel' hh,
        ← Nat.two_mul]
      exact Nat.sub_eq_of_eq_add hkh
    rw [e, List.take_length_add_append]
  · cases u with
    | nil => exact absurd (hu ▸ hh) (by decide)
    | cons a t => rfl

example : ValidK 5 ∧ WidthOk 64 5 := by unfold ValidK WidthOk; omega

example : shownBases [65, 45, 82, 78] = [65, 67, 71, 84] := by decide
example : shownBases [65, 45, 82] = [65, 71] := by decide
example : samplesOf [65, 45, 82, 78] 65 = [0, 2, 3] := by decide
example : samplesOf [65, 45, 82, 78] 71 = [2, 3] := by decide

/-- the implementation on a concrete row (k = 5, arms AC / TG, cells A - R N), 64-bit -/
example : rowGraph 64 5 27 [65, 45, 82, 78] =
    ([(18, 75), (75, 46), (22, 91), (79, 62), (30, 123), (71, 30), (26, 107), (67, 14)],
     [(75, [0, 2, 3]), (302, [0, 2, 3]), (91, [3]), (318, [3]), (123, [2, 3]), (286, [2, 3]),
      (107, [3]), (270, [3])]) := by
  decide +kernel

example : rowGraph 128 5 27 [65, 45, 82, 78] = rowGraph 64 5 27 [65, 45, 82, 78] := by
  decide +kernel

example :
    ((shownBases [65, 45, 82, 78]).flatMap (edgesOf 5 [0, 1] [2, 3]),
     (shownBases [65, 45, 82, 78]).flatMap (colorsOf [65, 45, 82, 78] [0, 1] [2, 3])) =
    ([(18, 75), (75, 46), (22, 91), (79, 62), (30, 123), (71, 30), (26, 107), (67, 14)],
     [(75, [0, 2, 3]), (302, [0, 2, 3]), (91, [3]), (318, [3]), (123, [2, 3]), (286, [2, 3]),
      (107, [3]), (270, [3])]) := by
  decide +kernel

example : rowGraph 64 5 (packL ([0, 1] ++ [2, 3])) [65, 45, 82, 78] =
    ((shownBases [65, 45, 82, 78]).flatMap (edgesOf 5 [0, 1] [2, 3]),
     (shownBases [65, 45, 82, 78]).flatMap (colorsOf [65, 45, 82, 78] [0, 1] [2, 3])) :=
  rowGraph_spec' 64 5 (by unfold ValidK; omega) (by unfold WidthOk; omega) [0, 1] [2, 3]
    (by decide) (by decide) (by decide) (by decide) _

end SkaModel.LOG
