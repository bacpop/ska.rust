/-
C18 completeness — colours of the k-mers of a deletion family: the colour set of a window of `k` columns of a
sample (on either strand) is the list of the samples that have the same window; a window through a block is a
window of exactly the samples that keep the block (`keepIdx`), a window over it of exactly those that delete it
(`delIdx`).
-/
import SkaModel.Lemmas.LOESeq

namespace SkaModel.LOE

open SkaModel.Spec SkaModel.Skalo SkaModel.LOC

def keepIdx (C : List (List Bool)) (t : Nat) : List Nat :=
  (List.range C.length).filter (fun i => (C.getD i []).getD t false)
def delIdx (C : List (List Bool)) (t : Nat) : List Nat :=
  (List.range C.length).filter (fun i => !(C.getD i []).getD t false)

theorem eq_of_take_drop {α : Type} {u v : List α} {m : Nat} (hm : 1 ≤ m) (hu : u.length = m + 1) (hv : v.length = m + 1)
    (h1 : u.take m = v.take m) (h2 : u.drop 1 = v.drop 1) : u = v := by
  rw [← List.take_append_drop m u, ← List.take_append_drop m v, h1]
  congr 1
  have e1 : u.drop m = (u.drop 1).drop (m - 1) := by rw [List.drop_drop]; congr 1; omega
  have e2 : v.drop m = (v.drop 1).drop (m - 1) := by rw [List.drop_drop]; congr 1; omega
  rw [e1, e2, h2]

theorem keepIdx_sorted (C : List (List Bool)) (t : Nat) : (keepIdx C t).Pairwise (· < ·) :=
  List.Pairwise.filter _ List.pairwise_lt_range
theorem delIdx_sorted (C : List (List Bool)) (t : Nat) : (delIdx C t).Pairwise (· < ·) :=
  List.Pairwise.filter _ List.pairwise_lt_range

theorem mem_keepIdx (C : List (List Bool)) (t i : Nat) :
    i ∈ keepIdx C t ↔ ∃ c, C[i]? = some c ∧ c.getD t false = true :=
  mem_filter_range_getD [] (fun c => c.getD t false) C i

theorem mem_delIdx (C : List (List Bool)) (t i : Nat) :
    i ∈ delIdx C t ↔ ∃ c, C[i]? = some c ∧ c.getD t false = false := by
  simp only [← Bool.not_eq_true']
  exact mem_filter_range_getD [] (fun c => !c.getD t false) C i

theorem idx_part (C : List (List Bool)) (t i : Nat) (hi : i < C.length) : i ∈ delIdx C t ↔ ¬ i ∈ keepIdx C t := by
  rw [mem_delIdx, mem_keepIdx]
  simp only [List.getElem?_eq_getElem hi, Option.some.injEq, exists_eq_left', Bool.not_eq_true]

theorem keepIdx_length (C : List (List Bool)) (t : Nat) : (keepIdx C t).length = carriers C t :=
  LO.filter_range_length [] (fun c => c.getD t false) C

theorem delIdx_length (C : List (List Bool)) (t : Nat) : (delIdx C t).length = C.length - carriers C t := by
  have h1 : (delIdx C t).length = (C.filter (fun c => !c.getD t false)).length :=
    LO.filter_range_length [] (fun c => !c.getD t false) C
  have h2 := ZipFilter.length_filter_add_length_filter_not (fun (c : List Bool) => c.getD t false) C
  unfold carriers
  omega

/-- the genotype strings of the expected record -/
theorem calls_eq (C : List (List Bool)) (t : Nat) (D : Bool) :
    (List.range C.length).map (fun i => if (decide (i ∈ keepIdx C t)) == D then "0" else "1") =
      C.map (fun c => if c.getD t false == D then "0" else "1") := by
  rw [LO.map_range_getD [] (fun c => if c.getD t false == D then "0" else "1") C]
  apply List.map_congr_left
  intro i hi
  rw [List.mem_range] at hi
  have : decide (i ∈ keepIdx C t) = (C.getD i []).getD t false := by
    rw [Bool.eq_iff_iff, decide_eq_true_eq, keepIdx, List.mem_filter, List.mem_range]
    exact and_iff_right hi
  rw [this]

theorem canon_head (F : List UInt8) (w : List Nat) (hw : w ≠ []) : (canonW F w).headD 0 = w.headD 0 := by
  unfold canonW
  simp only
  split
  · obtain ⟨m, hm⟩ : ∃ m, w.length = m + 1 := ⟨w.length - 1, by have := List.length_pos_iff.mpr hw; omega⟩
    rw [hm, List.range'_succ]
    rfl
  · rfl

theorem cwin_head {K : List Nat} {j m x : Nat} (hm : 1 ≤ m) (hx : K[j]? = some x) : (cwin K j m).headD 0 = x := by
  have h0 := cwin_getElem? K j m 0 (by omega)
  rw [Nat.add_zero, hx] at h0
  rw [List.headD_eq_head?_getD, List.head?_eq_getElem?, h0]
  rfl

theorem blk_col {k x s e : Nat} (hk : 0 < k) (hse : s < e) (h1 : s < x + k) (h2 : x < e) :
    ∃ y, (x ≤ y ∧ y < x + k) ∧ s ≤ y ∧ y < e := by
  rcases Nat.le_total x s with hx | hx
  · exact ⟨s, ⟨hx, h1⟩, Nat.le_refl _, hse⟩
  · exact ⟨x, ⟨Nat.le_refl _, Nat.lt_add_of_pos_right hk⟩, hx, h2⟩

namespace DFam

variable {k : Nat} {F : List UInt8} {B : List (Nat × Nat)} {C : List (List Bool)}

theorem isWin_parts (h : DFam k F B C) {c : List Bool} (hc : c ∈ C) {u : List Nat}
    (hu : IsWin k F.length B c u) :
    u.length = k ∧ u.take (k - 1) ∈ colWindows (k - 1) F.length B C ∧ u.drop 1 ∈ colWindows (k - 1) F.length B C := by
  have hk5 := h.k5
  obtain ⟨j, hj, rfl⟩ := hu
  refine ⟨cwin_length hj, ?_, ?_⟩
  · rw [cwin_take _ _ _ _ (by omega)]
    exact (mem_colWindows _ _ _ _ _).mpr ⟨c, hc, j, by omega, rfl⟩
  · rw [cwin_drop]
    exact (mem_colWindows _ _ _ _ _).mpr ⟨c, hc, j + 1, by omega, rfl⟩

theorem kwin_norc (h : DFam k F B C) {c c' : List Bool} (hc : c ∈ C) (hc' : c' ∈ C) {u u' : List Nat}
    (hu : IsWin k F.length B c u) (hu' : IsWin k F.length B c' u') :
    cds (lets F u') ≠ rcCodes (cds (lets F u)) := by
  have hk5 := h.k5
  obtain ⟨hl, ht, hd⟩ := h.isWin_parts hc hu
  obtain ⟨hl', ht', hd'⟩ := h.isWin_parts hc' hu'
  have hb := h.isWin_base hu
  intro e
  rw [← cds_rcSeq hb] at e
  have e' : lets F u' = rcSeq (lets F u) := cds_inj (h.isWin_base hu') hb.rcSeq e
  apply (h.uniq _ ht' _ hd).2
  have := congrArg (List.take (k - 1)) e'
  rw [rcSeq_take] at this
  unfold lets at this
  rw [← List.map_take, List.length_map, hl, ← List.map_drop, show k - (k - 1) = 1 by omega] at this
  exact this

theorem isWin_keep (h : DFam k F B C) {t : Nat} (ht : t < B.length) (c : List Bool) {x : Nat}
    (h1 : bS B t < x + k) (h2 : x < bE B t) :
    IsWin k F.length B c (List.range' x k) ↔ c.getD t false = true := by
  have hb := h.bt ht
  have hk5 := h.k5
  constructor
  · rintro ⟨j, hj, e⟩
    obtain ⟨y, hy, hyb⟩ := blk_col (by omega) hb.1 h1 h2
    have hym : y ∈ keepCols F.length B c := cwin_subset (j := j) (m := k) (by rw [e, List.mem_range'_1]; exact hy)
    have := ((mem_keepCols _ _ _ _).mp hym).2
    rwa [h.keep_blk c ht hyb.1 hyb.2] at this
  · intro hc
    exact win_cont F.length B c (by omega) (fun z hz1 hz2 => h.keep_run ht hc (by omega) (by omega))

theorem isWin_del (h : DFam k F B C) {t : Nat} (ht : t < B.length) (c : List Bool) {x : Nat}
    (h1 : x < bS B t) (h2 : bS B t < x + k) :
    IsWin k F.length B c (List.range' x (bS B t - x) ++ List.range' (bE B t) (k - (bS B t - x))) ↔
      c.getD t false = false := by
  have hb := (h.bt ht).1
  constructor
  · rintro ⟨j, hj, e⟩
    -- the last column before the jump and the first column behind it are consecutive columns of the sample
    obtain ⟨a, r, ha, rfl, eJ⟩ := jump_eq (bE B t) h1 h2
    have e1 := cwin_getElem? (keepCols F.length B c) j (a + 1 + (r + 1)) a (Nat.lt_add_right _ (Nat.lt_succ_self a))
    have e2 := cwin_getElem? (keepCols F.length B c) j (a + 1 + (r + 1)) (a + 1)
      (Nat.lt_add_of_pos_right (Nat.succ_pos r))
    rw [e, eJ, List.getElem?_append_left (by rw [List.length_range']; exact Nat.lt_succ_self a),
      List.getElem?_range' (Nat.lt_succ_self a)] at e1
    rw [e, eJ, List.getElem?_append_right (by rw [List.length_range']; exact Nat.le_refl _), List.length_range',
      Nat.sub_self, List.getElem?_range' (Nat.succ_pos r)] at e2
    obtain ⟨_, _, _, _, hbetween⟩ := next_kept e1.symm e2.symm
    have hkb := hbetween (bS B t) (by omega) (by omega)
    rwa [h.keep_blk c ht (Nat.le_refl _) hb] at hkb
  · intro hc
    exact h.win_gap c ht hc h1 h2 (Nat.le_mul_of_pos_left k (Nat.succ_pos 2))

theorem win_at (h : DFam k F B C) {t : Nat} (ht : t < B.length) {c : List Bool} {j x : Nat}
    (hj : j + k ≤ (keepCols F.length B c).length) (hx : (keepCols F.length B c)[j]? = some x)
    (h1 : bS B t ≤ x + k) (h2 : x ≤ bE B t) :
    cwin (keepCols F.length B c) j k = List.range' x k ∨
    (c.getD t false = false ∧ x < bS B t ∧ bS B t < x + k ∧
      cwin (keepCols F.length B c) j k =
        List.range' x (bS B t - x) ++ List.range' (bE B t) (k - (bS B t - x))) := by
  have hb := h.bt ht
  have hk5 := h.k5
  obtain ⟨x', hx', hsh⟩ := h.win_class c (by omega) (Nat.le_refl k) hj
  rw [hx] at hx'
  have := Option.some.inj hx'
  subst this
  rcases hsh with e | ⟨t', ht', hct, hxb, hbx, e⟩
  · exact Or.inl e
  · right
    have htt : t' = t := by
      apply Classical.byContradiction
      intro hne
      have hb' := h.bt ht'
      have := h.sep_ne ht' ht hne
      omega
    subst htt
    exact ⟨hct, hxb, hbx, e⟩

/-- the two windows differ in the letter `shf` columns behind the block -/
theorem gap_ne (h : DFam k F B C) {t : Nat} (ht : t < B.length) {x : Nat} (h1 : x < bS B t)
    (hsh : bS B t + shf k F B t < x + k) :
    lets F (List.range' x k) ≠
      lets F (List.range' x (bS B t - x) ++ List.range' (bE B t) (k - (bS B t - x))) := by
  intro e
  obtain ⟨a, r, ha, hk, eJ⟩ := jump_eq (bE B t) h1 (Nat.lt_of_le_of_lt (Nat.le_add_right _ _) hsh)
  have e3 := congrArg (fun l => l[a + 1 + shf k F B t]?) e
  unfold lets at e3
  simp only [List.getElem?_map] at e3
  rw [eJ, List.getElem?_append_right (by simp), List.length_range', Nat.add_sub_cancel_left,
    List.getElem?_range' (by omega), List.getElem?_range' (by omega)] at e3
  simp only [Nat.one_mul, Option.map_some, Option.some.injEq] at e3
  apply h.sh_ne ht
  rw [ha, Nat.add_assoc]
  exact e3

theorem win_start (h : DFam k F B C) {c : List Bool} (hc : c ∈ C) {j : Nat}
    (hj : j + k ≤ (keepCols F.length B c).length) {u : List Nat}
    (e : lets F (cwin (keepCols F.length B c) j k) = lets F u) {n : Nd} (hv : n.valid k F.length B (shf k F B))
    (en : lets F (u.take (k - 1)) = lets F (n.cols k B)) :
    (keepCols F.length B c)[j]? = some ((n.cols k B).headD 0) := by
  have hk5 := h.k5
  have hj' : j + (k - 1) ≤ (keepCols F.length B c).length := by omega
  have e1 : lets F (cwin (keepCols F.length B c) j (k - 1)) = lets F (n.cols k B) := by
    rw [← en]
    have := congrArg (List.take (k - 1)) e
    unfold lets at this ⊢
    rwa [← List.map_take, ← List.map_take, cwin_take _ _ _ _ (Nat.sub_le k 1)] at this
  -- the two windows of `k - 1` columns have the same canonical columns
  have hcan := (h.uniq _ ((mem_colWindows _ _ _ _ _).mpr ⟨c, hc, j, hj', rfl⟩) _ (h.cols_mem hv)).1 e1
  rw [h.canon_valid hv] at hcan
  have hx : (keepCols F.length B c)[j]? = some (keepCols F.length B c)[j] := List.getElem?_eq_getElem (by omega)
  have hne : cwin (keepCols F.length B c) j (k - 1) ≠ [] := by
    intro e0
    have := cwin_length hj'
    rw [e0, List.length_nil] at this
    omega
  have h1 := canon_head F _ hne
  rw [hcan, cwin_head (by omega) hx] at h1
  rw [hx, h1]

theorem spell_keep_iff (h : DFam k F B C) {t : Nat} (ht : t < B.length) {c : List Bool} (hc : c ∈ C)
    {x : Nat} (h2 : x < bE B t) (hsh : bS B t + shf k F B t < x + k) :
    (∃ u', IsWin k F.length B c u' ∧ lets F u' = lets F (List.range' x k)) ↔ c.getD t false = true := by
  have h1 : bS B t < x + k := Nat.lt_of_le_of_lt (Nat.le_add_right _ _) hsh
  constructor
  · rintro ⟨u', ⟨j, hj, rfl⟩, e⟩
    have hx := h.win_start hc hj e (n := .c x) (h.valid_c ht (Nat.le_trans (Nat.le_of_lt h2) (Nat.le_add_right _ _)))
      (by rw [List.take_range'_of_length_ge (Nat.sub_le k 1)]; rfl)
    rw [c_head k B x h.k2] at hx
    -- the window at `x` is contiguous, or jumps over the block and then spells differently
    rcases h.win_at ht hj hx (Nat.le_of_lt h1) (Nat.le_of_lt h2) with e2 | ⟨_, hxb, _, e2⟩
    · exact (h.isWin_keep ht c h1 h2).mp ⟨j, hj, e2⟩
    · rw [e2] at e
      exact absurd e.symm (h.gap_ne ht hxb hsh)
  · intro hf
    exact ⟨_, (h.isWin_keep ht c h1 h2).mpr hf, rfl⟩

theorem spell_del_iff (h : DFam k F B C) {t : Nat} (ht : t < B.length) {c : List Bool} (hc : c ∈ C)
    {x : Nat} (h1 : x < bS B t) (hsh : bS B t + shf k F B t < x + k) :
    (∃ u', IsWin k F.length B c u' ∧
      lets F u' = lets F (List.range' x (bS B t - x) ++ List.range' (bE B t) (k - (bS B t - x)))) ↔
      c.getD t false = false := by
  have h2 : bS B t < x + k := Nat.lt_of_le_of_lt (Nat.le_add_right _ _) hsh
  have hxE : x ≤ bE B t := Nat.le_of_lt (Nat.lt_trans h1 (h.bt ht).1)
  constructor
  · rintro ⟨u', ⟨j, hj, rfl⟩, e⟩
    -- the window starts at `x`: its first `k - 1` columns are the jumping node at `x`, which is valid or, not behind
    -- the entry column, spells the contiguous node at `x`
    have hx : (keepCols F.length B c)[j]? = some x := by
      by_cases hr : bS B t + 1 + shf k F B t < x + k
      · have := h.win_start hc hj e (n := .g t x) ⟨ht, hr, h1⟩ (by rw [gap_take h1 h2]; rfl)
        rwa [g_head k B t x h1] at this
      · have he := (h.eX_bounds ht).1
        have := h.win_start hc hj e (n := .c x) (h.valid_c ht (Nat.le_trans hxE (Nat.le_add_right _ _)))
          (by rw [gap_take h1 h2]; exact h.cols_g_cont ht (by omega) h2)
        rwa [c_head k B x h.k2] at this
    rcases h.win_at ht hj hx (Nat.le_of_lt h2) hxE with e2 | ⟨hf, _, _, _⟩
    · rw [e2] at e
      exact absurd e (h.gap_ne ht h1 hsh)
    · exact hf
  · intro hf
    exact ⟨_, (h.isWin_del ht c h1 h2).mpr hf, rfl⟩

theorem exists_keeper (h : DFam k F B C) {t : Nat} (ht : t < B.length) :
    ∃ i, i < C.length ∧ i ∈ keepIdx C t := by
  obtain ⟨c, hc, hf⟩ := h.kept t ht
  obtain ⟨i, hi, e⟩ := List.getElem_of_mem hc
  exact ⟨i, hi, (mem_keepIdx C t i).mpr ⟨c, by rw [List.getElem?_eq_getElem hi, e], hf⟩⟩

theorem exists_deleter (h : DFam k F B C) {t : Nat} (ht : t < B.length) :
    ∃ i, i < C.length ∧ i ∈ delIdx C t := by
  obtain ⟨c, hc, hf⟩ := h.del t ht
  obtain ⟨i, hi, e⟩ := List.getElem_of_mem hc
  exact ⟨i, hi, (mem_delIdx C t i).mpr ⟨c, by rw [List.getElem?_eq_getElem hi, e], hf⟩⟩

theorem isWin_en (h : DFam k F B C) {t : Nat} (ht : t < B.length) (c : List Bool) :
    (IsWin k F.length B c (enK k F B t) ↔ c.getD t false = true) ∧
    (IsWin k F.length B c (enD k F B t) ↔ c.getD t false = false) ∧
    (IsWin k F.length B c (twK k B t) ↔ c.getD t false = true) ∧
    (IsWin k F.length B c (twD k B t) ↔ c.getD t false = false) := by
  have he := (h.ex_lt ht).1
  have hk := h.eX_near ht
  obtain ⟨b1, b2, -⟩ := pred_window (h.bE_pred ht) (Nat.le_of_lt (h.ex_lt ht).2) (h.sh_lt ht)
  obtain ⟨d1, d2, -⟩ := pred_window (h.bS_pred ht) (Nat.le_refl _) (h.sh_lt ht)
  refine ⟨h.isWin_keep ht c hk (h.eX_lt_bE ht), h.isWin_del ht c (Nat.lt_of_succ_lt he) hk,
    h.isWin_keep ht c b2 b1, ?_⟩
  have hd := h.isWin_del ht c d1 d2
  rwa [h.bS_back ht] at hd

theorem spell_en (h : DFam k F B C) {t : Nat} (ht : t < B.length) {c : List Bool} (hc : c ∈ C) :
    ((∃ u', IsWin k F.length B c u' ∧ lets F u' = lets F (enK k F B t)) ↔ c.getD t false = true) ∧
    ((∃ u', IsWin k F.length B c u' ∧ lets F u' = lets F (enD k F B t)) ↔ c.getD t false = false) ∧
    ((∃ u', IsWin k F.length B c u' ∧ lets F u' = lets F (twK k B t)) ↔ c.getD t false = true) ∧
    ((∃ u', IsWin k F.length B c u' ∧ lets F u' = lets F (twD k B t)) ↔ c.getD t false = false) := by
  obtain ⟨b1, -, b3⟩ := pred_window (h.bE_pred ht) (Nat.le_of_lt (h.ex_lt ht).2) (h.sh_lt ht)
  obtain ⟨d1, -, d3⟩ := pred_window (h.bS_pred ht) (Nat.le_refl _) (h.sh_lt ht)
  refine ⟨h.spell_keep_iff ht hc (h.eX_lt_bE ht) (h.en_sh ht),
    h.spell_del_iff ht hc (Nat.lt_of_succ_lt (h.ex_lt ht).1) (h.en_sh ht), h.spell_keep_iff ht hc b1 b3, ?_⟩
  have hd := h.spell_del_iff ht hc d1 d3
  rwa [h.bS_back ht] at hd

end DFam

namespace Ctx

variable {W k : Nat} {F : List UInt8} {B : List (Nat × Nat)} {C : List (List Bool)} {a : Arr} {names : List String}

theorem colour_win (cx : Ctx W k F B C a names) {c0 : List Bool} (hc0 : c0 ∈ C) {u : List Nat}
    (hu : IsWin k F.length B c0 u) (Fk : List Nat) (hF : Fk = cds (lets F u) ∨ Fk = rcCodes (cds (lets F u))) :
    ∃ Cs, Assoc.lookup (buildGraph W a).2 (packL Fk) = some Cs ∧ Cs.Pairwise (· < ·) ∧
      ∀ i, i ∈ Cs ↔ ∃ c, C[i]? = some c ∧ ∃ u', IsWin k F.length B c u' ∧ lets F u' = lets F u := by
  obtain ⟨j, hj, hju⟩ := hu
  have hs : dsample F B c0 ∈ dsamples F B C := List.mem_map.mpr ⟨c0, hc0, rfl⟩
  have hwin : ∀ (c : List Bool) (j' : Nat), win (dsample F B c) j' k = lets F (cwin (keepCols F.length B c) j' k) := by
    intro c j'
    unfold dsample lets
    rw [win_map]
  obtain ⟨Cs, h1, h2, h3⟩ := IsArrOf.colour cx.ha cx.h.vfam cx.hk cx.hw (dsample F B c0) hs j
    (by rw [dsample_length]; exact hj) Fk (by rw [hwin, hju]; exact hF)
  refine ⟨Cs, h1, h2, ?_⟩
  intro i
  rw [h3]
  constructor
  · rintro ⟨t', ht', j', hj', hcase⟩
    unfold dsamples at ht'
    rw [List.getElem?_map] at ht'
    cases hci : C[i]? with
    | none => rw [hci] at ht'; simp at ht'
    | some c =>
      rw [hci] at ht'
      simp only [Option.map_some, Option.some.injEq] at ht'
      subst ht'
      rw [dsample_length] at hj'
      have hcm : c ∈ C := List.mem_of_getElem? hci
      have hu' : IsWin k F.length B c (cwin (keepCols F.length B c) j' k) := ⟨j', hj', rfl⟩
      have hu0 : IsWin k F.length B c0 u := ⟨j, hj, hju⟩
      rw [hwin, hwin, hju] at hcase
      rcases hcase with e | e
      · refine ⟨c, rfl, _, hu', ?_⟩
        exact cds_inj (cx.h.isWin_base hu') (cx.h.isWin_base hu0) e
      · exact absurd e (cx.h.kwin_norc hc0 hcm hu0 hu')
  · rintro ⟨c, hci, u', ⟨j', hj', rfl⟩, e⟩
    refine ⟨dsample F B c, ?_, j', by rw [dsample_length]; exact hj', Or.inl ?_⟩
    · unfold dsamples
      rw [List.getElem?_map, hci]
      rfl
    · rw [hwin, hwin, e, hju]

theorem colour_of_spell (cx : Ctx W k F B C a names) {c0 : List Bool} (hc0 : c0 ∈ C) {u : List Nat}
    (hu : IsWin k F.length B c0 u) {P : List Bool → Prop}
    (hsp : ∀ c ∈ C, (∃ u', IsWin k F.length B c u' ∧ lets F u' = lets F u) ↔ P c) {I : List Nat}
    (hs : I.Pairwise (· < ·)) (hm : ∀ i, i ∈ I ↔ ∃ c, C[i]? = some c ∧ P c) (Fk : List Nat)
    (hF : Fk = cds (lets F u) ∨ Fk = rcCodes (cds (lets F u))) :
    Assoc.lookup (buildGraph W a).2 (packL Fk) = some I := by
  obtain ⟨Cs, hl, hs', hm'⟩ := cx.colour_win hc0 hu Fk hF
  rw [hl]
  congr 1
  apply eq_of_sorted_mem hs' hs
  intro i
  rw [hm', hm]
  constructor
  · rintro ⟨c, hc, hw⟩
    exact ⟨c, hc, (hsp c (List.mem_of_getElem? hc)).mp hw⟩
  · rintro ⟨c, hc, hp⟩
    exact ⟨c, hc, (hsp c (List.mem_of_getElem? hc)).mpr hp⟩

end Ctx

end SkaModel.LOE
