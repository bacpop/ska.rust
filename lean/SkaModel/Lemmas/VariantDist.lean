/-
`Arr.variantDist` as three independent sums over the zipped cells, and the
concrete per-pair contributions on the alphabet {A, C, G, T, -}.
-/
import SkaModel.Impl.MergeArray
import SkaModel.Lemmas.ListLemmas

namespace SkaModel.VD

open SkaModel SkaModel.ZipFilter

/-- 36 × (overlap of the two weight vectors) -/
def ov (x y : UInt8) : Nat := ((List.range 4).map (fun j => prob6 x j * prob6 y j)).sum

/-- the fold step of `Arr.variantDist`, verbatim -/
def step (acc : Nat × Nat × Nat) (vv : UInt8 × UInt8) : Nat × Nat × Nat :=
  let (d, mm, m) := acc
  if vv.1 == GAP || vv.2 == GAP then
    if !(vv.1 == GAP && vv.2 == GAP) then (d, mm + 1, m) else (d, mm, m)
  else
    let overlap36 := ((List.range 4).map (fun j => prob6 vv.1 j * prob6 vv.2 j)).sum
    (d + (36 - overlap36), mm, m + 1)

theorem variantDist_eq_foldl (c1 c2 : List UInt8) (cst : Nat) :
    Arr.variantDist c1 c2 cst = (c1.zip c2).foldl step (0, 0, cst) := rfl

/-- contribution of one cell pair to the (36×) distance -/
def D (p : UInt8 × UInt8) : Nat := if p.1 == GAP || p.2 == GAP then 0 else 36 - ov p.1 p.2
/-- contribution to the mismatch count: exactly one of the two is a gap -/
def M (p : UInt8 × UInt8) : Nat := if (p.1 == GAP) != (p.2 == GAP) then 1 else 0
/-- contribution to the match count: neither is a gap -/
def B (p : UInt8 × UInt8) : Nat := if p.1 == GAP || p.2 == GAP then 0 else 1

theorem step_eq (acc : Nat × Nat × Nat) (p : UInt8 × UInt8) :
    step acc p = (acc.1 + D p, acc.2.1 + M p, acc.2.2 + B p) := by
  obtain ⟨d, mm, m⟩ := acc
  obtain ⟨x, y⟩ := p
  simp only [step, D, M, B, ov]
  cases hx : (x == GAP) <;> cases hy : (y == GAP) <;> simp

theorem foldl_step (l : List (UInt8 × UInt8)) (acc : Nat × Nat × Nat) :
    l.foldl step acc
      = (acc.1 + (l.map D).sum, acc.2.1 + (l.map M).sum, acc.2.2 + (l.map B).sum) := by
  induction l generalizing acc with
  | nil => simp
  | cons p ps ih =>
    simp only [List.foldl_cons, ih, step_eq, List.map_cons, List.sum_cons]
    simp only [Nat.add_assoc]

theorem variantDist_sums (c1 c2 : List UInt8) (cst : Nat) :
    Arr.variantDist c1 c2 cst
      = (((c1.zip c2).map D).sum, ((c1.zip c2).map M).sum, cst + ((c1.zip c2).map B).sum) := by
  rw [variantDist_eq_foldl, foldl_step]; simp

theorem M_sum (l : List (UInt8 × UInt8)) :
    (l.map M).sum = (l.filter (fun p => (p.1 == GAP) != (p.2 == GAP))).length :=
  sum_map_indicator M _ l fun _ _ => rfl

theorem B_eq (p : UInt8 × UInt8) : B p = if (p.1 != GAP && p.2 != GAP) then 1 else 0 := by
  obtain ⟨x, y⟩ := p
  simp only [B]
  cases hx : (x == GAP) <;> cases hy : (y == GAP) <;> simp [bne, hx, hy]

theorem B_sum (l : List (UInt8 × UInt8)) :
    (l.map B).sum = (l.filter (fun p => p.1 != GAP && p.2 != GAP)).length :=
  sum_map_indicator B _ l fun p _ => B_eq p

theorem D_le (p : UInt8 × UInt8) : D p ≤ 36 * B p := by
  unfold D B
  split
  · exact Nat.le_refl 0
  · exact Nat.sub_le 36 _

theorem M_add_B_le (p : UInt8 × UInt8) : M p + B p ≤ 1 := by
  obtain ⟨x, y⟩ := p
  simp only [M, B]
  cases (x == GAP) <;> cases (y == GAP) <;> simp

theorem sum_D_le (l : List (UInt8 × UInt8)) : (l.map D).sum ≤ 36 * (l.map B).sum := by
  induction l with
  | nil => exact Nat.le_refl 0
  | cons p ps ih =>
    rw [List.map_cons, List.map_cons, List.sum_cons, List.sum_cons, Nat.mul_add]
    exact Nat.add_le_add (D_le p) ih

theorem sum_M_add_sum_B_le (l : List (UInt8 × UInt8)) : (l.map M).sum + (l.map B).sum ≤ l.length := by
  induction l with
  | nil => exact Nat.le_refl 0
  | cons p ps ih =>
    rw [List.map_cons, List.map_cons, List.sum_cons, List.sum_cons, Nat.add_add_add_comm,
      List.length_cons, Nat.add_comm]
    exact Nat.add_le_add ih (M_add_B_le p)

theorem ov_comm (x y : UInt8) : ov x y = ov y x := by
  simp only [ov, Nat.mul_comm]

theorem D_swap (p : UInt8 × UInt8) : D p.swap = D p := by
  obtain ⟨x, y⟩ := p; simp only [D, Prod.swap, ov_comm y x, Bool.or_comm]

theorem M_swap (p : UInt8 × UInt8) : M p.swap = M p := by
  obtain ⟨x, y⟩ := p
  have h : ((y == GAP) != (x == GAP)) = ((x == GAP) != (y == GAP)) := bne_comm
  simp only [M, Prod.swap, h]

theorem B_swap (p : UInt8 × UInt8) : B p.swap = B p := by
  obtain ⟨x, y⟩ := p; simp only [B, Prod.swap, Bool.or_comm]

/-- cell is one of A C G T - -/
def Base5 (b : UInt8) : Prop := b = 65 ∨ b = 67 ∨ b = 71 ∨ b = 84 ∨ b = GAP

def alphabet : List UInt8 := [65, 67, 71, 84, 45]

theorem base5_mem {b : UInt8} (h : Base5 b) : b ∈ alphabet := by
  simp only [alphabet, List.mem_cons, List.mem_nil_iff, or_false]
  exact h

/-- the concrete weight vectors of A, C, T, G -/
theorem prob6_acgt :
    (List.range 4).map (prob6 65) = [6, 0, 0, 0] ∧ (List.range 4).map (prob6 67) = [0, 6, 0, 0]
    ∧ (List.range 4).map (prob6 84) = [0, 0, 6, 0] ∧ (List.range 4).map (prob6 71) = [0, 0, 0, 6] := by
  decide +kernel

theorem ov_acgt : ∀ x ∈ [65, 67, 71, 84], ∀ y ∈ [65, 67, 71, 84],
    ov x y = if x = y then 36 else 0 := by
  decide +kernel

theorem D_alphabet : ∀ x ∈ alphabet, ∀ y ∈ alphabet,
    D (x, y) = if (x != GAP && y != GAP && x != y) then 36 else 0 := by
  decide +kernel

theorem D_base5 {p : UInt8 × UInt8} (h1 : Base5 p.1) (h2 : Base5 p.2) :
    D p = if (p.1 != GAP && p.2 != GAP && p.1 != p.2) then 36 else 0 :=
  D_alphabet p.1 (base5_mem h1) p.2 (base5_mem h2)

theorem D_sum (l : List (UInt8 × UInt8)) (h : ∀ p ∈ l, Base5 p.1 ∧ Base5 p.2) :
    (l.map D).sum = 36 * (l.filter (fun p => p.1 != GAP && p.2 != GAP && p.1 != p.2)).length :=
  sum_map_ite 36 D _ l fun p hp => D_base5 (h p hp).1 (h p hp).2

theorem isAmbiguous_alphabet : ∀ x ∈ alphabet, isAmbiguous x = false := by decide +kernel

theorem isAmbiguous_base5 {b : UInt8} (h : Base5 b) : isAmbiguous b = false :=
  isAmbiguous_alphabet b (base5_mem h)

end SkaModel.VD
