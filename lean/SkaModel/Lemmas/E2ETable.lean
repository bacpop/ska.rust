/-
For the end-to-end theorems (`Props/EndToEnd.lean`): the cells of `Spec.specTable` against the bytes a
built dictionary holds, its lookup function (rows as in `Lemmas/SpecRows.lean`), and its behaviour under
appending samples and under column selection.
-/
import SkaModel.Spec.BuildTable
import SkaModel.Lemmas.E2EBuild
import SkaModel.Lemmas.TableLemmas
import SkaModel.Lemmas.DeleteLemmas
import SkaModel.Lemmas.SpecRows

namespace SkaModel.E2E

open SkaModel SkaModel.Spec SkaModel.Props.C16

theorem letterOfMask_ne_gap (m : Nat) : letterOfMask m ≠ gap := by
  unfold letterOfMask
  split <;> decide

theorem cellOfObs_eq (o : List (Nat × Nat)) (key : Nat) :
    cellOfObs o key = if maskOf o key = 0 then gap else letterOfMask (maskOf o key) := by
  unfold cellOfObs
  by_cases h : maskOf o key = 0
  · simp [h]
  · simp [h]

theorem cellFor_eq (k : Nat) (rc : Bool) (recs : List (Array UInt8)) (key : Nat) :
    cellFor k rc recs key
      = if maskFor k rc recs key = 0 then gap else letterOfMask (maskFor k rc recs key) :=
  cellOfObs_eq _ key

theorem cellFor_eq_gap_iff (k : Nat) (rc : Bool) (recs : List (Array UInt8)) (key : Nat) :
    cellFor k rc recs key = gap ↔ maskFor k rc recs key = 0 := by
  rw [cellFor_eq]
  by_cases h : maskFor k rc recs key = 0
  · simp [h]
  · rw [if_neg h]
    exact ⟨fun e => absurd e (letterOfMask_ne_gap _), fun e => absurd e h⟩

theorem cellFor_nil (k : Nat) (rc : Bool) (key : Nat) : cellFor k rc [] key = gap := rfl

theorem maskFor_lt (k : Nat) (rc : Bool) (recs : List (Array UInt8)) (key : Nat) :
    maskFor k rc recs key < 16 := by
  unfold maskFor
  rw [Props.C01.observations_eq]
  exact (maskOf_bounds (Props.C01.obsT_wf k rc recs) key).1

theorem letter_ge_fin : ∀ m : Fin 16, m.val ≠ 0 → max (letterOfMask m.val) GAP = letterOfMask m.val := by
  decide +kernel

theorem max_letter {m : Nat} (h : m < 16) (h0 : m ≠ 0) : max (letterOfMask m) GAP = letterOfMask m :=
  letter_ge_fin ⟨m, h⟩ h0

/-- the cell `MergeSkaArray::new` writes for the byte the joint dictionary holds
(the sample's letter, 0 when the sample lacks the k-mer) is the specification's cell -/
theorem max_dictLookup (k : Nat) (rc : Bool) (recs : List (Array UInt8)) (key : Nat) :
    max ((dictLookup k rc recs key).getD 0) GAP = cellFor k rc recs key := by
  rw [cellFor_eq]
  unfold dictLookup
  by_cases h : maskFor k rc recs key = 0
  · rw [if_pos h, if_pos h]; rfl
  · rw [if_neg h, if_neg h]
    exact max_letter (maskFor_lt k rc recs key) h

theorem specTable_names (k : Nat) (rc : Bool) (names : List String)
    (samples : List (List (Array UInt8))) : (specTable k rc names samples).names = names := rfl

theorem specTable_keys (k : Nat) (rc : Bool) (names : List String)
    (samples : List (List (Array UInt8))) :
    (specTable k rc names samples).keys = allKeys k rc samples := by
  unfold Table.keys
  rw [specTable_rows, List.map_map]
  exact List.map_id' _

theorem mem_allKeys (k : Nat) (rc : Bool) (samples : List (List (Array UInt8))) (key : Nat) :
    key ∈ allKeys k rc samples ↔ ∃ recs ∈ samples, maskFor k rc recs key ≠ 0 := by
  simp only [mem_allKeys_obs, Props.C01.maskFor_ne_zero_iff]

theorem cellRow_append (k : Nat) (rc : Bool) (A B : List (List (Array UInt8))) (key : Nat) :
    cellRow k rc (A ++ B) key = cellRow k rc A key ++ cellRow k rc B key := by
  unfold cellRow; rw [List.map_append]

theorem mem_allKeys_iff_cell (k : Nat) (rc : Bool) (samples : List (List (Array UInt8))) (key : Nat) :
    key ∈ allKeys k rc samples ↔ ∃ b ∈ cellRow k rc samples key, b ≠ gap := by
  rw [mem_allKeys]
  unfold cellRow
  constructor
  · rintro ⟨recs, hr, h0⟩
    exact ⟨_, List.mem_map.2 ⟨recs, hr, rfl⟩, fun e => h0 ((cellFor_eq_gap_iff k rc recs key).1 e)⟩
  · rintro ⟨b, hb, hne⟩
    obtain ⟨recs, hr, rfl⟩ := List.mem_map.1 hb
    exact ⟨recs, hr, fun h0 => hne ((cellFor_eq_gap_iff k rc recs key).2 h0)⟩

theorem cellRow_of_not_mem (k : Nat) (rc : Bool) (samples : List (List (Array UInt8))) (key : Nat)
    (h : key ∉ allKeys k rc samples) :
    cellRow k rc samples key = List.replicate samples.length gap := by
  rw [List.eq_replicate_iff]
  exact ⟨cellRow_length k rc samples key, fun b hb =>
    Classical.byContradiction fun hne => h ((mem_allKeys_iff_cell k rc samples key).2 ⟨b, hb, hne⟩)⟩

theorem specTable_lookupRow (k : Nat) (rc : Bool) (names : List String)
    (samples : List (List (Array UInt8))) (key : Nat) :
    (specTable k rc names samples).lookupRow key
      = if key ∈ allKeys k rc samples then some (cellRow k rc samples key) else none := by
  unfold Table.lookupRow
  rw [specTable_rows]
  exact Assoc.lookup_map_keys _ _ key

theorem specTable_rowOrGaps (k : Nat) (rc : Bool) (names : List String)
    (samples : List (List (Array UInt8))) (hlen : names.length = samples.length) (key : Nat) :
    ((specTable k rc names samples).lookupRow key).getD
        (List.replicate (specTable k rc names samples).width gap)
      = cellRow k rc samples key := by
  rw [specTable_lookupRow]
  by_cases h : key ∈ allKeys k rc samples
  · rw [if_pos h]; rfl
  · rw [if_neg h, cellRow_of_not_mem k rc samples key h]
    show List.replicate names.length gap = _
    rw [hlen]

theorem specTable_wf (k : Nat) (rc : Bool) (names : List String)
    (samples : List (List (Array UInt8))) (hlen : names.length = samples.length) :
    Table.WF (specTable k rc names samples) := by
  constructor
  · intro r hr
    rw [specTable_rows] at hr
    obtain ⟨key, _, rfl⟩ := List.mem_map.1 hr
    show (cellRow k rc samples key).length = names.length
    rw [cellRow_length, hlen]
  · have := specTable_keys k rc names samples
    unfold Table.keys at this
    rw [this]
    exact allKeys_nodup k rc samples

theorem mem_allKeys_append (k : Nat) (rc : Bool) (A B : List (List (Array UInt8))) (key : Nat) :
    key ∈ allKeys k rc (A ++ B) ↔ key ∈ allKeys k rc A ∨ key ∈ allKeys k rc B := by
  rw [mem_allKeys, mem_allKeys, mem_allKeys, exists_mem_append_iff]

theorem cellRow_getD (k : Nat) (rc : Bool) (samples : List (List (Array UInt8))) (key i : Nat) :
    (cellRow k rc samples key).getD i gap = cellFor k rc (samples.getD i []) key := by
  unfold cellRow
  exact getD_map _ samples i (cellFor_nil k rc key)

theorem cellRow_eq_range (k : Nat) (rc : Bool) (samples : List (List (Array UInt8))) (key : Nat) :
    cellRow k rc samples key = (List.range samples.length).map fun i => cellFor k rc (samples.getD i []) key := by
  apply List.ext_getElem
  · rw [cellRow_length, List.length_map, List.length_range]
  · intro i h1 _
    rw [List.getElem_map, List.getElem_range, ← cellRow_getD, getD_eq_getElem _ _ h1]

theorem cellRow_select (k : Nat) (rc : Bool) (samples : List (List (Array UInt8))) (idx : List Nat)
    (key : Nat) :
    idx.map (fun i => (cellRow k rc samples key).getD i gap)
      = cellRow k rc (idx.map (fun i => samples.getD i [])) key := by
  induction idx with
  | nil => rfl
  | cons i idx ih =>
    rw [List.map_cons, ih, cellRow_getD]
    rfl

theorem cellRow_any_present (k : Nat) (rc : Bool) (samples : List (List (Array UInt8))) (key : Nat) :
    (cellRow k rc samples key).any Table.present = true ↔ key ∈ allKeys k rc samples := by
  rw [mem_allKeys_iff_cell, List.any_eq_true]
  simp only [Table.present, bne_iff_ne]

theorem allKeys_select_sub (k : Nat) (rc : Bool) (samples : List (List (Array UInt8)))
    (idx : List Nat) (key : Nat)
    (h : key ∈ allKeys k rc (idx.map (fun i => samples.getD i []))) : key ∈ allKeys k rc samples := by
  rw [mem_allKeys] at h ⊢
  obtain ⟨recs, hr, h0⟩ := h
  obtain ⟨i, _, rfl⟩ := List.mem_map.1 hr
  -- an index beyond the list selects `[]`, which has no keys
  exact ⟨_, (getD_mem_or samples i []).resolve_right fun e => h0 (by rw [e]; rfl), h0⟩

theorem specTable_selectCols (k : Nat) (rc : Bool) (names : List String)
    (samples : List (List (Array UInt8))) (idx : List Nat) :
    ((specTable k rc names samples).selectCols idx).Equiv
      (specTable k rc (idx.map (fun i => names.getD i "")) (idx.map (fun i => samples.getD i []))) := by
  refine ⟨rfl, ?_⟩
  unfold Table.selectCols
  rw [specTable_rows, specTable_rows]
  simp only [List.map_map, List.filter_map]
  apply perm_map_of_nodup_mem _ _ ((allKeys_nodup k rc samples).sublist List.filter_sublist)
    (allKeys_nodup k rc _)
  · intro key
    simp only [List.mem_filter, Function.comp_def]
    rw [cellRow_select, cellRow_any_present]
    constructor
    · exact fun h => h.2
    · exact fun h => ⟨allKeys_select_sub k rc samples idx key h, h⟩
  · intro key _
    simp only [Function.comp_def]
    rw [cellRow_select]

end SkaModel.E2E
