/-
`repeatsOf` (keys seen at least twice) and the `repeat_coors` loop of `RefSka::new`. The loop
(`coorStep`: per-contig positions, a running offset) is reduced to one over pairs (is repeat,
absolute centre) (`absStep`, `coor_fold`), whose invariant `AInv` gives membership and order of the
output (`repeatCoorsOf_spec`).
-/
import SkaModel.Lemmas.RMKmers

namespace SkaModel.RM

open SkaModel SkaModel.Spec SkaModel.AW

/-- the step of `RefSka.repeatsOf` on (keys seen, keys seen again) -/
def repStep (acc : List Nat × List Nat) (k : Nat) : List Nat × List Nat :=
  if acc.2.contains k then acc
  else if acc.1.contains k then (acc.1, k :: acc.2)
  else (k :: acc.1, acc.2)

theorem repeatsOf_eq (ks : List Nat) : RefSka.repeatsOf ks = (ks.foldl repStep ([], [])).2 := rfl

structure RInv (pre : List Nat) (st : List Nat × List Nat) : Prop where
  single : ∀ x, x ∈ st.1 ↔ 1 ≤ pre.count x
  rep : ∀ x, x ∈ st.2 ↔ 2 ≤ pre.count x
  nd1 : st.1.Nodup
  nd2 : st.2.Nodup

theorem count_snoc (pre : List Nat) (x y : Nat) :
    (pre ++ [x]).count y = pre.count y + (if x = y then 1 else 0) := by
  simp only [List.count_append, List.count_singleton, beq_iff_eq]

theorem rinv_step (pre : List Nat) (st : List Nat × List Nat) (x : Nat) (hi : RInv pre st) :
    RInv (pre ++ [x]) (repStep st x) := by
  obtain ⟨S, R⟩ := st
  have h1 : ∀ y, y ∈ S ↔ 1 ≤ pre.count y := hi.single
  have h2 : ∀ y, y ∈ R ↔ 2 ≤ pre.count y := hi.rep
  -- what the step does to membership: `x` joins the singles, and the repeats if it was a single
  have key : (∀ y, y ∈ (repStep (S, R) x).1 ↔ y ∈ S ∨ y = x) ∧
      (∀ y, y ∈ (repStep (S, R) x).2 ↔ y ∈ R ∨ (y = x ∧ x ∈ S)) ∧
      (repStep (S, R) x).1.Nodup ∧ (repStep (S, R) x).2.Nodup := by
    unfold repStep
    dsimp only
    by_cases hR : x ∈ R
    · have hS : x ∈ S := (h1 x).2 (Nat.le_of_succ_le ((h2 x).1 hR))
      rw [if_pos (List.contains_iff_mem.2 hR)]
      exact ⟨fun y => ⟨Or.inl, fun h => h.elim id (fun e => e ▸ hS)⟩,
        fun y => ⟨Or.inl, fun h => h.elim id (fun e => e.1 ▸ hR)⟩, hi.nd1, hi.nd2⟩
    · rw [if_neg (fun h => hR (List.contains_iff_mem.1 h))]
      by_cases hS : x ∈ S
      · rw [if_pos (List.contains_iff_mem.2 hS)]
        refine ⟨fun y => ⟨Or.inl, fun h => h.elim id (fun e => e ▸ hS)⟩, fun y => ?_, hi.nd1,
          List.nodup_cons.2 ⟨hR, hi.nd2⟩⟩
        rw [List.mem_cons]
        exact ⟨fun h => h.elim (fun e => Or.inr ⟨e, hS⟩) Or.inl, fun h => h.elim Or.inr (fun e => Or.inl e.1)⟩
      · rw [if_neg (fun h => hS (List.contains_iff_mem.1 h))]
        refine ⟨fun y => ?_, fun y => ⟨Or.inl, fun h => h.elim id (fun e => absurd e.2 hS)⟩,
          List.nodup_cons.2 ⟨hS, hi.nd1⟩, hi.nd2⟩
        rw [List.mem_cons]
        exact or_comm
  refine ⟨fun y => ?_, fun y => ?_, key.2.2.1, key.2.2.2⟩
  · rw [key.1 y, h1 y, count_snoc]
    by_cases hxy : x = y
    · rw [if_pos hxy]
      exact iff_of_true (Or.inr hxy.symm) (Nat.le_add_left _ _)
    · rw [if_neg hxy]
      exact or_iff_left fun e => hxy e.symm
  · rw [key.2.1 y, h2 y, h1 x, count_snoc]
    by_cases hxy : x = y
    · subst hxy
      rw [if_pos rfl]
      exact ⟨fun h => h.elim Nat.le_succ_of_le fun h => Nat.succ_le_succ h.2,
        fun h => Or.inr ⟨rfl, Nat.le_of_succ_le_succ h⟩⟩
    · rw [if_neg hxy]
      exact or_iff_left fun e => hxy e.1.symm

theorem rinv_repeatsOf (ks : List Nat) : RInv ks (ks.foldl repStep ([], [])) := by
  refine foldl_inv_full repStep RInv ks (fun pre x _ st _ hi => rinv_step pre st x hi) ?_
  exact ⟨by simp, by simp, List.nodup_nil, List.nodup_nil⟩

theorem mem_repeatsOf (ks : List Nat) (x : Nat) : x ∈ RefSka.repeatsOf ks ↔ 2 ≤ ks.count x := by
  rw [repeatsOf_eq]; exact (rinv_repeatsOf ks).rep x

theorem repeatsOf_nodup (ks : List Nat) : (RefSka.repeatsOf ks).Nodup := by
  rw [repeatsOf_eq]; exact (rinv_repeatsOf ks).nd2

/-- `coorStep` on (last end, output) alone, the k-mer given as (is repeat, absolute centre) -/
def absStep (h : Nat) (st : Nat × List Nat) (ia : Bool × Nat) : Nat × List Nat :=
  if ia.1 then
    (ia.2 + h, st.2 ++ (List.range (ia.2 + h + 1 -
        (if ia.2 - h > st.1 || ia.2 - h == 0 then ia.2 - h else st.1 + 1))).map
      (· + (if ia.2 - h > st.1 || ia.2 - h == 0 then ia.2 - h else st.1 + 1)))
  else st

theorem mem_rangeFrom (stop f q : Nat) :
    q ∈ (List.range (stop + 1 - f)).map (· + f) ↔ f ≤ q ∧ q ≤ stop := by
  simp only [List.mem_map, List.mem_range, Nat.lt_sub_iff_add_lt, Nat.lt_succ_iff]
  constructor
  · rintro ⟨t, ht, rfl⟩
    exact ⟨Nat.le_add_left _ _, ht⟩
  · rintro ⟨h1, h2⟩
    obtain ⟨t, rfl⟩ := Nat.exists_eq_add_of_le' h1
    exact ⟨t, h2, rfl⟩

theorem rangeFrom_pairwise (n f : Nat) : ((List.range n).map (· + f)).Pairwise (· < ·) := by
  rw [List.pairwise_map]
  exact List.Pairwise.imp (fun {a b} (h : a < b) => by omega) List.pairwise_lt_range

structure AInv (h : Nat) (pre : List (Bool × Nat)) (st : Nat × List Nat) : Prop where
  mem : ∀ q, q ∈ st.2 ↔ ∃ ia ∈ pre, ia.1 = true ∧ ia.2 ≤ q + h ∧ q ≤ ia.2 + h
  sorted : st.2.Pairwise (· < ·)
  le_end : ∀ q ∈ st.2, q ≤ st.1
  last : (st.2 = [] ∧ st.1 = 0) ∨ ∃ ia ∈ pre, ia.1 = true ∧ st.1 = ia.2 + h

/-- A repeat centred at `a` appends the range from `f` to `a + h`, for any start `f` that is not
before `a - h`, lies beyond everything written, and leaves nothing of `[a - h, f)` unwritten. -/
theorem AInv.push {h : Nat} {pre : List (Bool × Nat)} {le : Nat} {out : List Nat}
    (hi : AInv h pre (le, out)) (a f : Nat) (hle : le ≤ a + h) (hf1 : a ≤ f + h)
    (hf2 : ∀ q ∈ out, q < f) (hf3 : ∀ q, a ≤ q + h → q < f → q ∈ out) :
    AInv h (pre ++ [(true, a)]) (a + h, out ++ (List.range (a + h + 1 - f)).map (· + f)) := by
  have hlast : (true, a) ∈ pre ++ [(true, a)] := List.mem_concat_self
  refine ⟨fun q => ?_, ?_, fun q hq => ?_, Or.inr ⟨(true, a), hlast, rfl, rfl⟩⟩
  · show q ∈ out ++ _ ↔ _
    rw [List.mem_append, mem_rangeFrom, hi.mem q, exists_mem_snoc]
    constructor
    · rintro (h1 | h1)
      · exact Or.inl h1
      · exact Or.inr ⟨rfl, Nat.le_trans hf1 (Nat.add_le_add_right h1.1 h), h1.2⟩
    · rintro (h1 | ⟨_, h2, h3⟩)
      · exact Or.inl h1
      · by_cases hq : q < f
        · exact Or.inl ((hi.mem q).1 (hf3 q h2 hq))
        · exact Or.inr ⟨Nat.le_of_not_lt hq, h3⟩
  · show (out ++ _).Pairwise _
    rw [List.pairwise_append]
    refine ⟨hi.sorted, rangeFrom_pairwise _ _, fun q hq q' hq' => ?_⟩
    obtain ⟨t, _, rfl⟩ := List.mem_map.1 hq'
    exact Nat.lt_of_lt_of_le (hf2 q hq) (Nat.le_add_left _ _)
  · show q ≤ a + h
    rcases List.mem_append.1 hq with h1 | h1
    · exact Nat.le_trans (hi.le_end q h1) hle
    · exact ((mem_rangeFrom _ _ _).1 h1).2

theorem ainv_step (h : Nat) (full : List (Bool × Nat)) (hp : full.Pairwise (fun a b => a.2 < b.2))
    (hb : ∀ ia ∈ full, h ≤ ia.2)
    (pre : List (Bool × Nat)) (x : Bool × Nat) (post : List (Bool × Nat)) (st : Nat × List Nat)
    (hf : full = pre ++ x :: post) (hi : AInv h pre st) : AInv h (pre ++ [x]) (absStep h st x) := by
  obtain ⟨le, out⟩ := st
  obtain ⟨b, a⟩ := x
  unfold absStep
  cases b with
  | false =>
    rw [if_neg Bool.false_ne_true]
    refine ⟨fun q => ?_, hi.sorted, hi.le_end, hi.last.imp_right ?_⟩
    · rw [hi.mem q, exists_mem_snoc]
      exact (or_iff_left fun h1 => Bool.false_ne_true h1.1).symm
    · rintro ⟨ia, hia, h1⟩
      exact ⟨ia, List.mem_append_left _ hia, h1⟩
  | true =>
    -- the window of the repeat starts at `s`: its centre is `s + h`, and every earlier centre
    -- lies below that
    obtain ⟨s, rfl⟩ : ∃ s, a = s + h :=
      ⟨a - h, (Nat.sub_add_cancel (hb _ (hf ▸ List.mem_append_right _ List.mem_cons_self))).symm⟩
    have hlt : ∀ ia ∈ pre, ia.2 < s + h := fun ia hia =>
      (List.pairwise_append.1 (hf ▸ hp)).2.2 ia hia _ List.mem_cons_self
    have hlast : (out = [] ∧ le = 0) ∨ ∃ ia ∈ pre, ia.1 = true ∧ le = ia.2 + h := hi.last
    have hle_end : ∀ q ∈ out, q ≤ le := hi.le_end
    have hle_stop : le ≤ s + h + h := by
      rcases hlast with ⟨_, h0⟩ | ⟨ia, hia, _, h1⟩
      · rw [h0]; exact Nat.zero_le _
      · rw [h1]; exact Nat.add_le_add_right (Nat.le_of_lt (hlt ia hia)) h
    rw [if_pos rfl]
    dsimp only
    rw [Nat.add_sub_cancel]
    show AInv h (pre ++ [(true, s + h)]) (s + h + h, out ++ _)
    by_cases hc : (decide (s > le) || (s == 0)) = true
    · -- a fresh range from `s`: everything written so far lies before it
      rw [if_pos hc]
      rw [Bool.or_eq_true, decide_eq_true_eq, beq_iff_eq] at hc
      refine hi.push (s + h) s hle_stop (Nat.le_refl _) (fun q hq => ?_)
        (fun q h1 h2 => absurd (Nat.le_of_add_le_add_right h1) (Nat.not_le.2 h2))
      rcases hc with h1 | h1
      · exact Nat.lt_of_le_of_lt (hle_end q hq) h1
      · rcases hlast with ⟨h0, _⟩ | ⟨ia, hia, _, _⟩
        · rw [h0] at hq; cases hq
        · have := hlt ia hia
          have := hb ia (hf ▸ List.mem_append_left _ hia)
          omega
    · -- the new window overlaps the previous one: continue after the previous end
      rw [if_neg hc]
      rw [Bool.or_eq_true, decide_eq_true_eq, beq_iff_eq, not_or] at hc
      obtain ⟨ia0, hia0, hia0t, hia0e⟩ : ∃ ia ∈ pre, ia.1 = true ∧ le = ia.2 + h := by
        rcases hlast with ⟨_, h0⟩ | h1
        · exact absurd (Nat.pos_of_ne_zero hc.2) (h0 ▸ hc.1)
        · exact h1
      exact hi.push (s + h) (le + 1) hle_stop
        (Nat.add_le_add_right (Nat.le_succ_of_le (Nat.le_of_not_lt hc.1)) h)
        (fun q hq => Nat.lt_succ_of_le (hle_end q hq))
        (fun q h1 h2 => (hi.mem q).2 ⟨ia0, hia0, hia0t, Nat.le_trans (Nat.le_of_lt (hlt ia0 hia0)) h1,
          hia0e ▸ Nat.le_of_lt_succ h2⟩)

theorem ainv_fold (h : Nat) (full : List (Bool × Nat)) (hp : full.Pairwise (fun a b => a.2 < b.2))
    (hb : ∀ ia ∈ full, h ≤ ia.2) : AInv h full (full.foldl (absStep h) (0, [])) := by
  refine foldl_inv_full (absStep h) (AInv h) full
    (fun pre x post st hf hi => ainv_step h full hp hb pre x post st hf hi) ?_
  exact ⟨by simp, List.Pairwise.nil, by simp, Or.inl ⟨rfl, rfl⟩⟩

/-- the body of the `repeat_coors` loop (`repeatCoorsOf_eq`); state: last contig, last end,
offset of the last contig, output -/
def coorStep (h : Nat) (seq : List (Array UInt8)) (repeats : List Nat)
    (st : Nat × Nat × Nat × List Nat) (sk : RefKmer) : Nat × Nat × Nat × List Nat :=
  let (lastChrom, lastEnd, off, out) := st
  let off := ((List.range (sk.chrom - lastChrom)).map (fun d => (seq.getD (lastChrom + d) #[]).size)).foldl (· + ·) off
  let lastChrom := max lastChrom sk.chrom
  if repeats.contains sk.kmer then
    let start := sk.pos - h + off
    let stop := sk.pos + h + off
    let from_ := if start > lastEnd || start == 0 then start else lastEnd + 1
    (sk.chrom, stop, off, out ++ (List.range (stop + 1 - from_)).map (· + from_))
  else (lastChrom, lastEnd, off, out)

theorem repeatCoorsOf_eq (h : Nat) (seq : List (Array UInt8)) (repeats : List Nat) (kmers : List RefKmer) :
    RefSka.repeatCoorsOf h seq repeats kmers = (kmers.foldl (coorStep h seq repeats) (0, 0, 0, [])).2.2.2 := rfl

def absPos (seq : List (Array UInt8)) (rk : RefKmer) : Nat := contigOffset seq rk.chrom + rk.pos

def absOf (seq : List (Array UInt8)) (repeats : List Nat) (sk : RefKmer) : Bool × Nat :=
  (repeats.contains sk.kmer, absPos seq sk)

theorem coorStep_eq (h : Nat) (seq : List (Array UInt8)) (repeats : List Nat)
    (lc le : Nat) (out : List Nat) (sk : RefKmer) (hlc : lc ≤ sk.chrom) (hpos : h ≤ sk.pos) :
    coorStep h seq repeats (lc, le, contigOffset seq lc, out) sk
      = (sk.chrom, (absStep h (le, out) (absOf seq repeats sk)).1, contigOffset seq sk.chrom,
          (absStep h (le, out) (absOf seq repeats sk)).2) := by
  unfold coorStep absStep absOf absPos
  simp only
  -- the `while` loop that advances the offset over the contigs in between is `off_add`
  rw [← off_add, Nat.add_sub_cancel' hlc, Nat.max_eq_right hlc, ← Nat.sub_add_comm hpos,
    Nat.add_right_comm sk.pos h, Nat.add_comm sk.pos]
  cases repeats.contains sk.kmer <;> rfl

theorem coor_fold (h : Nat) (seq : List (Array UInt8)) (repeats : List Nat) :
    ∀ (l : List RefKmer) (lc le : Nat) (out : List Nat),
      l.Pairwise (fun a b => a.chrom ≤ b.chrom) → (∀ rk ∈ l, lc ≤ rk.chrom ∧ h ≤ rk.pos) →
      (l.foldl (coorStep h seq repeats) (lc, le, contigOffset seq lc, out)).2.2.2
        = ((l.map (absOf seq repeats)).foldl (absStep h) (le, out)).2 := by
  intro l
  induction l with
  | nil => intros; rfl
  | cons sk l ih =>
    intro lc le out hp hb
    rw [List.pairwise_cons] at hp
    have hsk := hb sk (List.mem_cons_self ..)
    rw [List.foldl_cons, List.map_cons, List.foldl_cons, coorStep_eq h seq repeats lc le out sk hsk.1 hsk.2]
    exact ih sk.chrom _ _ hp.2 (fun rk hrk => ⟨hp.1 rk hrk, (hb rk (List.mem_cons_of_mem _ hrk)).2⟩)

theorem absPos_lt (seq : List (Array UInt8)) {a b : RefKmer} (hab : RKlt a b)
    (ha : a.pos < (seq.getD a.chrom #[]).size) : absPos seq a < absPos seq b := by
  rcases hab with h1 | ⟨h1, h2⟩
  · exact abs_lt seq _ h1 ha
  · unfold absPos
    rw [h1]
    exact Nat.add_lt_add_left h2 _

theorem repeatCoorsOf_spec (h : Nat) (seq : List (Array UInt8)) (repeats : List Nat) (l : List RefKmer)
    (hp : l.Pairwise RKlt) (hb : ∀ rk ∈ l, h ≤ rk.pos ∧ rk.pos < (seq.getD rk.chrom #[]).size) :
    (∀ q, q ∈ RefSka.repeatCoorsOf h seq repeats l ↔
      ∃ rk ∈ l, repeats.contains rk.kmer = true ∧ absPos seq rk ≤ q + h ∧ q ≤ absPos seq rk + h) ∧
    (RefSka.repeatCoorsOf h seq repeats l).Pairwise (· < ·) := by
  have hp1 : l.Pairwise (fun a b => a.chrom ≤ b.chrom) := by
    refine List.Pairwise.imp ?_ hp
    intro a b hab
    rcases hab with h1 | ⟨h1, _⟩ <;> omega
  have hfold := coor_fold h seq repeats l 0 0 [] hp1 (fun rk hrk => ⟨Nat.zero_le _, (hb rk hrk).1⟩)
  rw [off_zero] at hfold
  rw [repeatCoorsOf_eq, hfold]
  have hpa : (l.map (absOf seq repeats)).Pairwise (fun a b => a.2 < b.2) := by
    rw [List.pairwise_map]
    exact hp.imp_of_mem fun ha _ hab => absPos_lt seq hab (hb _ ha).2
  have hba : ∀ ia ∈ l.map (absOf seq repeats), h ≤ ia.2 :=
    List.forall_mem_map.2 fun rk hrk => Nat.le_trans (hb rk hrk).1 (Nat.le_add_left _ _)
  have hinv := ainv_fold h _ hpa hba
  refine ⟨fun q => ?_, hinv.sorted⟩
  rw [hinv.mem q]
  exact exists_mem_map (absOf seq repeats) l

end SkaModel.RM
