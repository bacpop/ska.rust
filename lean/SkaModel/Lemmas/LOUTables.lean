/-
`ColourCons` in terms of the rows of the table: two coloured k-mers with the same key have full k-mers
`u n l` that are the same up to the strand (`full_cases`), so it is enough that such rows and bases are shown
by the same samples.  `PalinSym` is what this asks of a palindromic row (`key = rcKey key`: the arms are reverse
complements of each other), where `u n l` and `u n' l`, `n'` the complement of `n`, are the two strands of
one k-mer.
-/
import SkaModel.Lemmas.LOUFold
import SkaModel.Lemmas.LOColourRow

namespace SkaModel.LOU

open SkaModel SkaModel.Skalo SkaModel.Spec SkaModel.Props.C16 SkaModel.Props.C17G SkaModel.LOG
open SkaModel.LORL

theorem colourCons_of_rows (W : Nat) (a : Arr) (hk : ValidK a.k) (hw : WidthOk W a.k)
    (hkeys : ∀ key ∈ a.kmers, key < 4 ^ (a.k - 1))
    (h : ∀ kv ∈ a.kmers.zip a.variants, ∀ kv' ∈ a.kmers.zip a.variants, ∀ u l u' l',
      kv.1 = packL (u ++ l) → kv'.1 = packL (u' ++ l') → u.length = halfK a.k → l.length = halfK a.k →
      u'.length = halfK a.k → l'.length = halfK a.k → Codes u → Codes l → Codes u' → Codes l' →
      ∀ n ∈ shownBases kv.2, ∀ n' ∈ shownBases kv'.2,
        (u ++ [code n] ++ l = u' ++ [code n'] ++ l' ∨ u ++ [code n] ++ l = rcCodes (u' ++ [code n'] ++ l')) →
        samplesOf kv.2 n = samplesOf kv'.2 n') :
    ColourCons W a := by
  intro e1 h1 e2 h2 he
  obtain ⟨kv, u, l, n, r, hf, hS⟩ := (mem_colourEntries W a hk hw hkeys e1.1 e1.2).mp h1
  obtain ⟨kv', u', l', n', r', hf', hS'⟩ := (mem_colourEntries W a hk hw hkeys e2.1 e2.2).mp h2
  rw [← he] at hf'
  rw [hS, hS']
  exact h kv r.row kv' r'.row u l u' l' r.key r'.key r.lenU r.lenL r'.lenU r'.lenL r.codesU r.codesL
    r'.codesU r'.codesL n r.shown n' r'.shown
    (full_cases a.k u l u' l' (code n) (code n') r.lenU r.lenL r'.lenU r'.lenL r.codesU r.codesL
      r'.codesU r'.codesL (code_lt n) (code_lt n') e1.1 hf hf')

/-- the cells of every palindromic row (key = its own reverse complement) are symmetric: a base and its
complement are shown by the same samples (in a table built with both strands a sample that contains
`u n l` with `l = rc u` contains `u n' l`, `n'` the complement of `n`, on the other strand) -/
def PalinSym (a : Arr) : Prop :=
  ∀ kv ∈ a.kmers.zip a.variants, kv.1 = rcKey a.k kv.1 →
    ∀ n ∈ shownBases kv.2, ∀ n' ∈ shownBases kv.2, code n = code n' ^^^ 2 →
      samplesOf kv.2 n = samplesOf kv.2 n'

instance (a : Arr) : Decidable (PalinSym a) := by
  unfold PalinSym; infer_instance

end SkaModel.LOU
