/-
The uniqueness conditions of the planted families (`uniqueB`; `dalignedSB` of the deletion model) compare every
pair of windows of all samples, letter by letter, and the samples of a family are nearly identical.  `pairsB`
decides the same with less work for the kernel, so that the hypotheses can be evaluated on an example family.
-/
import SkaModel.Lemmas.LOCDefs

namespace SkaModel.LOC

def strCode : List UInt8 → Nat
  | [] => 0
  | b :: l => strCode l * 256 + b.toNat + 1

theorem strCode_inj : ∀ {l l' : List UInt8}, strCode l = strCode l' ↔ l = l'
  | [], [] => by simp
  | [], _ :: _ => by simp [strCode]
  | _ :: _, [] => by simp [strCode]
  | b :: l, b' :: l' => by
    have hb := b.toNat_lt
    have hb' := b'.toNat_lt
    rw [List.cons.injEq, ← strCode_inj (l := l), ← UInt8.toNat_inj]
    simp only [strCode]
    omega

/-- the condition "windows with the same letters `L` are the `same`, and no window spells the reverse complement
of a window" on the DISTINCT windows of `ws`, the letters of each window and of its reverse complement packed
into a number once (`Nat.beq` on numerals is one step of the kernel; `==` unfolds through `Decidable`) -/
def pairsB {α : Type} [BEq α] (ws : List α) (L : α → List UInt8) (same : α → α → Bool) : Bool :=
  let cs := ws.eraseDups.map (fun a => (a, strCode (L a), strCode (rcSeq (L a))))
  cs.all (fun a => cs.all (fun b => (!Nat.beq a.2.1 b.2.1 || same a.1 b.1) && !Nat.beq a.2.1 b.2.2))

theorem pairsB_eq {α : Type} [BEq α] [LawfulBEq α] {ws ws' : List α} (h : ∀ x, x ∈ ws' ↔ x ∈ ws)
    (L : α → List UInt8) (same : α → α → Bool) :
    pairsB ws' L same = ws.all (fun a => ws.all (fun b => (L a != L b || same a b) && L a != rcSeq (L b))) := by
  rw [Bool.eq_iff_iff]
  simp [pairsB, List.mem_eraseDups, ← Bool.not_eq_true, Nat.beq_eq, strCode_inj, h]

theorem uniqueB_eq (m : Nat) (T : List (List UInt8)) :
    uniqueB m T = pairsB (windowsOf m T.eraseDups) (·.2) (fun a b => a.1 == b.1) :=
  (pairsB_eq (fun x => by simp [windowsOf]) _ _).symm

end SkaModel.LOC
