/-
The dictionary loop of `ska build` over an abstract stream of observations
`(key, middle base, palindrome flag)`: after any stream in which the palindrome
flag is a function of the key, the dictionary holds, for every key, the IUPAC
letter of the union of the observed base sets, and the `panic!` is not reached; sorted by key, such
a dictionary is the specification's list (`dict_sorted_eq`).
-/
import SkaModel.Impl.SkaDict
import SkaModel.Spec.Dict
import SkaModel.Lemmas.AssocFold
import SkaModel.Lemmas.MaskOf
import SkaModel.Props.C15

namespace SkaModel

open SkaModel.Spec SkaModel.Props.C15

theorem distinctKeys_eq (os : List (Nat × Nat)) : distinctKeys os = (os.map (·.1)).eraseDups := by
  unfold distinctKeys
  rw [Assoc.foldl_pushOnce_eq Prod.fst, List.nil_append]
  exact congrArg List.eraseDups (List.filter_eq_self.2 fun _ _ => rfl)

theorem distinctKeys_nodup (os : List (Nat × Nat)) : (distinctKeys os).Nodup :=
  distinctKeys_eq os ▸ Dedup.eraseDups_nodup _

theorem mem_distinctKeys (os : List (Nat × Nat)) (key : Nat) :
    key ∈ distinctKeys os ↔ ∃ o ∈ os, o.1 = key := by
  rw [distinctKeys_eq, List.mem_eraseDups, List.mem_map]

/-- base set of a palindromic window: the middle base and its complement -/
def palMask (b : Nat) : Nat := (1 <<< b) ||| (1 <<< (b ^^^ 2))

def stepO (d : Assoc Nat UInt8) (o : Nat × Nat × Bool) : Option (Assoc Nat UInt8) :=
  if o.2.2 then addPalindromeToDict d o.1 o.2.1 else some (addToDict d o.1 o.2.1)

def foldO : Assoc Nat UInt8 → List (Nat × Nat × Bool) → Option (Assoc Nat UInt8)
  | d, [] => some d
  | d, o :: os =>
    match stepO d o with
    | none => none
    | some d' => foldO d' os

theorem foldO_append (d : Assoc Nat UInt8) (a b : List (Nat × Nat × Bool)) :
    foldO d (a ++ b) = (foldO d a).bind (fun d' => foldO d' b) := by
  induction a generalizing d with
  | nil => rfl
  | cons o os ih =>
    simp only [List.cons_append, foldO]
    cases stepO d o with
    | none => rfl
    | some d' => exact ih d'

def maskO (o : Nat × Nat × Bool) : Nat × Nat :=
  (o.1, if o.2.2 then palMask o.2.1 else 1 <<< o.2.1)

def WF (P : Nat → Prop) (os : List (Nat × Nat × Bool)) : Prop :=
  ∀ o ∈ os, o.2.1 < 4 ∧ (o.2.2 = true ↔ P o.1)

theorem WF.append {P : Nat → Prop} {a b : List (Nat × Nat × Bool)} (ha : WF P a) (hb : WF P b) :
    WF P (a ++ b) := by
  intro o ho
  rcases List.mem_append.1 ho with h | h
  · exact ha o h
  · exact hb o h

theorem WF.left {P : Nat → Prop} {a b : List (Nat × Nat × Bool)} (h : WF P (a ++ b)) : WF P a :=
  fun o ho => h o (List.mem_append_left _ ho)

theorem WF.right {P : Nat → Prop} {a b : List (Nat × Nat × Bool)} (h : WF P (a ++ b)) : WF P b :=
  fun o ho => h o (List.mem_append_right _ ho)

theorem palMask_cases : ∀ b : Fin 4, palMask b.val = 5 ∨ palMask b.val = 10 := by decide

theorem maskO_range {o : Nat × Nat × Bool} (hb : o.2.1 < 4) : (maskO o).2 ≠ 0 ∧ (maskO o).2 < 16 :=
  (show ∀ (b : Fin 4) (p : Bool), (if p then palMask b.val else 1 <<< b.val) ≠ 0 ∧
      (if p then palMask b.val else 1 <<< b.val) < 16 by decide) ⟨o.2.1, hb⟩ o.2.2

theorem maskO_ne_zero {o : Nat × Nat × Bool} (hb : o.2.1 < 4) : (maskO o).2 ≠ 0 :=
  (maskO_range hb).1

/-- the base set of a key is a 4-bit mask; of a palindromic key, one of {}, W, S, N -/
theorem maskOf_bounds {P : Nat → Prop} {os : List (Nat × Nat × Bool)} (hwf : WF P os) (key : Nat) :
    maskOf (os.map maskO) key < 16 ∧
    (P key → (maskOf (os.map maskO) key = 0 ∨ maskOf (os.map maskO) key = 5 ∨
              maskOf (os.map maskO) key = 10 ∨ maskOf (os.map maskO) key = 15)) := by
  induction os with
  | nil => exact ⟨by rw [List.map_nil, maskOf_nil]; decide, fun _ => Or.inl rfl⟩
  | cons o os ih =>
    have ih' := ih (fun x hx => hwf x (List.mem_cons_of_mem _ hx))
    obtain ⟨hb, hp⟩ := hwf o List.mem_cons_self
    rw [List.map_cons, maskOf_cons]
    by_cases hk : (maskO o).1 = key
    · rw [if_pos hk]
      have hk' : o.1 = key := hk
      constructor
      · exact Nat.or_lt_two_pow (n := 4) (maskO_range hb).2 ih'.1
      · intro hP
        have hpp : o.2.2 = true := hp.2 (by rw [hk']; exact hP)
        have hm : (maskO o).2 = palMask o.2.1 := by unfold maskO; simp [hpp]
        rw [hm]
        rcases palMask_cases ⟨_, hb⟩ with e | e <;> rcases ih'.2 hP with e' | e' | e' | e' <;>
          rw [e, e'] <;> decide
    · rw [if_neg hk]; exact ih'

theorem pal_insert : ∀ b : Fin 4,
    (if (b.val == 0 || b.val == 2) then (87 : UInt8) else 83) = letterOfMask (palMask b.val) := by
  decide +kernel

theorem pal_update : ∀ b : Fin 4, ∀ M : Fin 16, (M.val = 5 ∨ M.val = 10 ∨ M.val = 15) →
    palindromeUpdate b.val (letterOfMask M.val) = some (letterOfMask (M.val ||| palMask b.val)) := by
  decide +kernel

theorem add_update {b M : Nat} (hb : b < 4) (hM : M < 16) (h0 : M ≠ 0) :
    iupacAdd b (letterOfMask M) = letterOfMask (M ||| (1 <<< b)) := by
  rw [T15_add b hb (letterOfMask M), mask_letter_roundtrip ⟨M, hM⟩ h0]

def DictInv (d : Assoc Nat UInt8) (ms : List (Nat × Nat)) : Prop :=
  (Assoc.keys d).Nodup ∧
  ∀ key, Assoc.lookup d key
    = if maskOf ms key = 0 then none else some (letterOfMask (maskOf ms key))

theorem DictInv.nil : DictInv [] [] :=
  ⟨by simp [Assoc.keys], fun _ => rfl⟩

theorem DictInv.upsert {d : Assoc Nat UInt8} {ms : List (Nat × Nat)} (hinv : DictInv d ms)
    (key : Nat) {m : Nat} (hm0 : m ≠ 0) {ins : UInt8} (hins : ins = letterOfMask m)
    {g : UInt8 → UInt8}
    (hg : maskOf ms key ≠ 0 →
      g (letterOfMask (maskOf ms key)) = letterOfMask (maskOf ms key ||| m)) :
    DictInv (Assoc.upsert d key ins g) (ms ++ [(key, m)]) := by
  refine ⟨Assoc.nodup_keys_upsert d key ins g hinv.1, fun key' => ?_⟩
  rw [maskOf_snoc]
  by_cases hk : key = key'
  · subst hk
    rw [if_pos rfl, Assoc.lookup_upsert_self, hinv.2 key,
      if_neg (fun h => hm0 (Nat.or_eq_zero_iff.1 h).2)]
    by_cases h0 : maskOf ms key = 0
    · rw [if_pos h0, h0, Nat.zero_or]
      simp only
      rw [hins]
    · rw [if_neg h0]
      simp only
      rw [hg h0]
  · rw [if_neg hk, Assoc.lookup_upsert_ne d _ _ hk]
    exact hinv.2 key'

theorem stepO_inv {P : Nat → Prop} (d : Assoc Nat UInt8) (pre : List (Nat × Nat × Bool))
    (o : Nat × Nat × Bool) (hwf : WF P (pre ++ [o])) (hinv : DictInv d (pre.map maskO)) :
    ∃ d', stepO d o = some d' ∧ DictInv d' ((pre ++ [o]).map maskO) := by
  obtain ⟨key, b, p⟩ := o
  obtain ⟨hb, hp⟩ := hwf (key, b, p) (List.mem_append_right _ List.mem_cons_self)
  simp only at hb hp
  have hbound := maskOf_bounds hwf.left key
  have hlk := hinv.2 key
  rw [List.map_append, List.map_cons, List.map_nil]
  by_cases hpp : p = true
  · -- palindromic window
    subst hpp
    have hP : P key := hp.1 rfl
    have hM := hbound.2 hP
    let g : UInt8 → UInt8 := fun v => (palindromeUpdate b v).getD 0
    have hupd : maskOf (pre.map maskO) key ≠ 0 →
        palindromeUpdate b (letterOfMask (maskOf (pre.map maskO) key))
          = some (letterOfMask (maskOf (pre.map maskO) key ||| palMask b)) := by
      intro h0
      exact pal_update ⟨b, hb⟩ ⟨_, hbound.1⟩ (by
        rcases hM with e | e | e | e
        · exact absurd e h0
        · exact Or.inl e
        · exact Or.inr (Or.inl e)
        · exact Or.inr (Or.inr e))
    refine ⟨Assoc.upsert d key (if (b == 0 || b == 2) then 87 else 83) g, ?_, ?_⟩
    · show addPalindromeToDict d key b = _
      unfold addPalindromeToDict
      apply Assoc.upsertM_eq_upsert
      intro v hv
      rw [hlk] at hv
      by_cases h0 : maskOf (pre.map maskO) key = 0
      · rw [if_pos h0] at hv; cases hv
      · rw [if_neg h0] at hv
        have : letterOfMask (maskOf (pre.map maskO) key) = v := by simpa using hv
        subst this
        show _ = some ((palindromeUpdate b _).getD 0)
        rw [hupd h0]; rfl
    · refine hinv.upsert key (maskO_ne_zero (o := (key, b, true)) hb) (pal_insert ⟨b, hb⟩)
        (g := g) fun h0 => ?_
      show (palindromeUpdate b _).getD 0 = _
      rw [hupd h0]; rfl
  · -- ordinary window
    have hpf : p = false := by simpa using hpp
    subst hpf
    refine ⟨addToDict d key b, rfl, ?_⟩
    exact hinv.upsert key (maskO_ne_zero (o := (key, b, false)) hb) (decode_is_singleton b hb)
      fun h0 => add_update hb hbound.1 h0

theorem foldO_inv {P : Nat → Prop} (os : List (Nat × Nat × Bool)) :
    ∀ (d : Assoc Nat UInt8) (pre : List (Nat × Nat × Bool)),
      WF P (pre ++ os) → DictInv d (pre.map maskO) →
      ∃ d', foldO d os = some d' ∧ DictInv d' ((pre ++ os).map maskO) := by
  induction os with
  | nil =>
    intro d pre _ hinv
    exact ⟨d, rfl, by rw [List.append_nil]; exact hinv⟩
  | cons o os ih =>
    intro d pre hwf hinv
    have hwf' : WF P ((pre ++ [o]) ++ os) := by rw [List.append_assoc]; exact hwf
    obtain ⟨d1, h1, hinv1⟩ := stepO_inv d pre o hwf'.left hinv
    obtain ⟨d2, h2, hinv2⟩ := ih d1 (pre ++ [o]) hwf' hinv1
    refine ⟨d2, ?_, ?_⟩
    · simp only [foldO, h1]; exact h2
    · rw [List.append_assoc] at hinv2; exact hinv2

theorem maskOf_ne_zero_iff {ms : List (Nat × Nat)} (hne : ∀ o ∈ ms, o.2 ≠ 0) (key : Nat) :
    maskOf ms key ≠ 0 ↔ ∃ o ∈ ms, o.1 = key := by
  constructor
  · intro h
    apply Classical.byContradiction
    intro hn
    apply h
    apply maskOf_eq_zero_of_not_mem
    intro o ho he
    exact hn ⟨o, ho, he⟩
  · rintro ⟨o, ho, rfl⟩
    exact maskOf_ne_zero_of_mem ho (hne o ho)

theorem DictInv.congr {d : Assoc Nat UInt8} {a b : List (Nat × Nat)} (h : DictInv d a)
    (hm : ∀ key, maskOf a key = maskOf b key) : DictInv d b :=
  ⟨h.1, fun key => by rw [← hm key]; exact h.2 key⟩

/-- the list `specDict` sorts: every observed key once, with the letter of its base set -/
def letterList (ms : List (Nat × Nat)) : List (Nat × UInt8) :=
  (distinctKeys ms).map fun key => (key, letterOfMask (maskOf ms key))

theorem letterList_keys_nodup (ms : List (Nat × Nat)) : ((letterList ms).map (·.1)).Nodup := by
  unfold letterList
  rw [List.map_map, show (fun x : Nat × UInt8 => x.1) ∘ (fun key => (key, letterOfMask (maskOf ms key))) = id from rfl,
    List.map_id]
  exact distinctKeys_nodup ms

theorem mem_letterList {ms : List (Nat × Nat)} (hne : ∀ o ∈ ms, o.2 ≠ 0) (key : Nat) (b : UInt8) :
    (key, b) ∈ letterList ms ↔ maskOf ms key ≠ 0 ∧ b = letterOfMask (maskOf ms key) := by
  unfold letterList
  rw [List.mem_map, maskOf_ne_zero_iff hne, ← mem_distinctKeys]
  constructor
  · rintro ⟨key', hm, he⟩
    rw [Prod.mk.injEq] at he
    obtain ⟨rfl, hb⟩ := he
    exact ⟨hm, hb.symm⟩
  · rintro ⟨hm, hb⟩
    exact ⟨key, hm, by rw [hb]⟩

theorem dict_sorted_eq {d : Assoc Nat UInt8} {ms : List (Nat × Nat)} (hinv : DictInv d ms)
    (hne : ∀ o ∈ ms, o.2 ≠ 0) :
    sortByKey (·.1) d =
      sortByKey (·.1) ((distinctKeys ms).map (fun key => (key, letterOfMask (maskOf ms key)))) := by
  obtain ⟨hnd, hl⟩ := hinv
  have hnd' : (d.map (·.1)).Nodup := hnd
  apply sortByKey_perm _ _ hnd'
  show d.Perm (letterList ms)
  rw [List.perm_ext_iff_of_nodup (nodup_of_map _ hnd') (nodup_of_map _ (letterList_keys_nodup ms))]
  rintro ⟨key, letter⟩
  rw [Assoc.mem_iff_lookup _ hnd', hl key]
  refine Iff.trans ?_ (mem_letterList hne key letter).symm
  by_cases h0 : maskOf ms key = 0
  · rw [if_pos h0]
    exact ⟨fun h => (nomatch h), fun h => absurd h0 h.1⟩
  · rw [if_neg h0, Option.some.injEq]
    exact ⟨fun h => ⟨h0, h.symm⟩, fun h => h.2.symm⟩

end SkaModel
