/-
The invariant of the incremental alignment writer (`Base` with mode A or mode B), the covered and
written positions in each mode as a normal form (`ModeA.cov_wr`, `ModeB.cov_wr_same`), and what
`fillFwdBases` does to the fields.
-/
import SkaModel.Lemmas.AWFolds

namespace SkaModel.AW

open SkaModel SkaModel.Spec

def IsMid (done : List Match) (c p : Nat) : Prop := ∃ m ∈ done, m.1 = c ∧ m.2.1 = p

/-- position `p` of contig `c` lies in the part of the output the writer has passed -/
def Wr (cc lW c p : Nat) : Prop := c < cc ∨ (c = cc ∧ p < lW)

/-- the (base, absolute index) pair `writeSplitKmer` appends to `middleOut` for match `m` -/
def midEntry (ref : List (Array UInt8)) (ma : Bool) (m : Match) : UInt8 × Nat :=
  (if isAmbiguous m.2.2 && ma then 78 else m.2.2, m.2.1 + contigOffset ref m.1)

theorem cov_append (h : Nat) (done : List Match) (m : Match) (c p : Nat) :
    Cov h (done ++ [m]) c p ↔ Cov h done c p ∨ (m.1 = c ∧ p ≤ m.2.1 + h ∧ m.2.1 ≤ p + h) :=
  exists_mem_snoc done m

theorem isMid_append (done : List Match) (m : Match) (c p : Nat) :
    IsMid (done ++ [m]) c p ↔ IsMid done c p ∨ (m.1 = c ∧ m.2.1 = p) :=
  exists_mem_snoc done m

theorem wr_self {cc X p : Nat} : Wr cc X cc p ↔ p < X :=
  ⟨fun h => h.elim (fun h1 => absurd h1 (Nat.lt_irrefl _)) And.right, fun h => Or.inr ⟨rfl, h⟩⟩

theorem wr_split {cc Y X c p : Nat} (hle : Y ≤ X) :
    Wr cc X c p ↔ Wr cc Y c p ∨ (c = cc ∧ Y ≤ p ∧ p < X) := by
  unfold Wr; omega

theorem cov_snoc_wr (h : Nat) (done : List Match) {cc a : Nat} (b : UInt8) (c p : Nat) :
    Cov h (done ++ [(cc, a + h, b)]) c p ∧ Wr cc (a + h) c p ↔
      (Cov h done c p ∧ Wr cc (a + h) c p) ∨ (c = cc ∧ a ≤ p ∧ p < a + h) := by
  rw [cov_append, or_and_right]
  refine or_congr_right ⟨?_, ?_⟩
  · rintro ⟨⟨rfl, _, h2⟩, hw⟩
    exact ⟨rfl, Nat.le_of_add_le_add_right h2, wr_self.1 hw⟩
  · rintro ⟨rfl, h1, h2⟩
    exact ⟨⟨rfl, Nat.le_trans (Nat.le_of_lt h2) (Nat.le_add_right _ _), Nat.add_le_add_right h1 _⟩,
      wr_self.2 h2⟩

theorem cov_none {h : Nat} {done : List Match} {cc c p : Nat}
    (hlt : ∀ m ∈ done, m.1 < cc) (hc : cc ≤ c) : ¬ Cov h done c p := by
  rintro ⟨m, hm, rfl, _⟩
  exact Nat.lt_irrefl _ (Nat.lt_of_lt_of_le (hlt m hm) hc)

/-- off the middle bases of `done` (which the middle-base pass of `finalise` overwrites), `a` holds
the reference base on `P` and a gap elsewhere -/
def Holds (ref : List (Array UInt8)) (done : List Match) (a : Array UInt8)
    (P : Nat → Nat → Prop) : Prop :=
  ∀ c p, c < ref.length → p < csize ref c → ¬ IsMid done c p →
    (P c p → a.getD (contigOffset ref c + p) GAP = (ref.getD c #[]).getD p 0) ∧
    (¬ P c p → a.getD (contigOffset ref c + p) GAP = GAP)

theorem Holds.congr {ref : List (Array UInt8)} {done done' : List Match} {a : Array UInt8}
    {P P' : Nat → Nat → Prop} (hH : Holds ref done a P)
    (hmid : ∀ c p, IsMid done c p → IsMid done' c p)
    (hiff : ∀ c p, c < ref.length → p < csize ref c → ¬ IsMid done' c p → (P' c p ↔ P c p)) :
    Holds ref done' a P' := by
  intro c p hc hp hnm
  rw [hiff c p hc hp hnm]
  exact hH c p hc hp (fun hx => hnm (hmid c p hx))

theorem Holds.copy {ref : List (Array UInt8)} {done : List Match} {a : Array UInt8}
    {P : Nat → Nat → Prop} (hH : Holds ref done a P) (hsize : a.size = contigOffset ref ref.length)
    (c start stop : Nat) (hstop : stop ≤ csize ref c) :
    Holds ref done (AlnWriter.copyRef a (ref.getD c #[]) (contigOffset ref c) start stop)
      (fun c' p => P c' p ∨ (c' = c ∧ start ≤ p ∧ p < stop)) := by
  intro c' p hc' hp hnm
  rw [copyRef_query ref a start stop hsize hc' hp hstop]
  by_cases hr : c' = c ∧ start ≤ p ∧ p < stop
  · rw [if_pos hr]
    exact ⟨fun _ => rfl, fun hn => absurd (Or.inr hr) hn⟩
  · rw [if_neg hr]
    exact ⟨fun h1 => (hH c' p hc' hp hnm).1 (h1.resolve_right hr),
      fun hn => (hH c' p hc' hp hnm).2 (fun h1 => hn (Or.inl h1))⟩

structure Base (ref : List (Array UInt8)) (h : Nat) (ma : Bool) (done : List Match)
    (w : AlnWriter) : Prop where
  size : w.seqOut.size = contigOffset ref ref.length
  off : w.chromOffset = contigOffset ref w.currChrom
  mid : w.middleOut = done.map (midEntry ref ma)
  chromLe : w.currChrom ≤ ref.length
  seq : Holds ref done w.seqOut (fun c p => Cov h done c p ∧ Wr w.currChrom w.lastWritten c p)

/-- no match processed on the current contig; nothing owed -/
structure ModeA (h : Nat) (done : List Match) (w : AlnWriter) : Prop where
  idle : w.lastWritten = 0 ∨ w.lastMapped + h ≤ w.lastWritten
  next : w.nextPos = h
  before : ∀ m ∈ done, m.1 < w.currChrom

/-- at least one match processed on the current contig -/
structure ModeB (ref : List (Array UInt8)) (h : Nat) (done : List Match) (w : AlnWriter) : Prop where
  chromLt : w.currChrom < ref.length
  lastIn : ∃ mi ∈ done, mi.1 = w.currChrom ∧ mi.2.1 = w.lastMapped
  next : w.nextPos = w.lastWritten + h + 1
  wpos : 0 < w.lastWritten
  le1 : w.lastWritten ≤ w.lastMapped
  le2 : w.lastMapped ≤ w.lastWritten + h
  midW : IsMid done w.currChrom w.lastWritten
  sorted : ∀ m ∈ done, m.1 < w.currChrom ∨ (m.1 = w.currChrom ∧ m.2.1 ≤ w.lastMapped)
  inb : w.lastMapped + h < csize ref w.currChrom

/-- the state between two calls of `writeSplitKmer`: mode B, or the initial state -/
def Between (ref : List (Array UInt8)) (h : Nat) (done : List Match) (w : AlnWriter) : Prop :=
  ModeB ref h done w ∨ (ModeA h done w ∧ w.currChrom = 0)

variable {ref : List (Array UInt8)} {h : Nat} {done : List Match} {w : AlnWriter}

theorem Between.mode (hbt : Between ref h done w) : ModeA h done w ∨ ModeB ref h done w :=
  hbt.elim Or.inr (fun hA => Or.inl hA.1)

theorem ModeB.before (hB : ModeB ref h done w) (m : Match) (hm : m ∈ done) :
    m.1 < w.currChrom + 1 :=
  (hB.sorted m hm).elim Nat.lt_succ_of_lt fun h1 => h1.1 ▸ Nat.lt_succ_self _

theorem ModeB.cov_last (hB : ModeB ref h done w) {p : Nat} (h1 : p ≤ w.lastMapped + h)
    (h2 : w.lastMapped ≤ p + h) :
    Cov h done w.currChrom p := by
  obtain ⟨mi, hmi, e1, e2⟩ := hB.lastIn
  exact ⟨mi, hmi, e1, e2 ▸ h1, e2 ▸ h2⟩

theorem ModeB.cov_tail (hB : ModeB ref h done w) {p : Nat} (hp : w.lastWritten < p) :
    Cov h done w.currChrom p ↔ p ≤ w.lastMapped + h := by
  constructor
  · rintro ⟨m, hm, h1, h2, _⟩
    exact (hB.sorted m hm).elim (fun h3 => absurd h1 (Nat.ne_of_lt h3))
      fun h3 => Nat.le_trans h2 (Nat.add_le_add_right h3.2 _)
  · exact fun hle => hB.cov_last hle
      (Nat.le_trans hB.le2 (Nat.add_le_add_right (Nat.le_of_lt hp) _))

/-- In mode A nothing is covered from the current contig on, so moving the frontier forward
changes nothing. -/
theorem ModeA.cov_wr (hA : ModeA h done w) {c p : Nat} (cc' X : Nat) (hle : w.currChrom ≤ cc') :
    Cov h done c p ∧ Wr cc' X c p ↔ Cov h done c p ∧ Wr w.currChrom w.lastWritten c p := by
  have hlt : Cov h done c p → c < w.currChrom := fun hcov =>
    Nat.lt_of_not_le (fun hn => cov_none hA.before hn hcov)
  exact ⟨fun h1 => ⟨h1.1, Or.inl (hlt h1.1)⟩, fun h1 => ⟨h1.1, Or.inl (Nat.lt_of_lt_of_le (hlt h1.1) hle)⟩⟩

/-- In mode B, what a later frontier `X` on the current contig adds to the covered and written
positions is the owed range: above `lastWritten` (which is itself a middle base), up to
`lastMapped + h`, below `X`. -/
theorem ModeB.cov_wr_same (hB : ModeB ref h done w) {c p : Nat} (hnm : ¬ IsMid done c p) (X : Nat)
    (hX : w.lastWritten ≤ X) :
    Cov h done c p ∧ Wr w.currChrom X c p ↔
      (Cov h done c p ∧ Wr w.currChrom w.lastWritten c p) ∨
      (c = w.currChrom ∧ w.lastWritten < p ∧ p ≤ w.lastMapped + h ∧ p < X) := by
  rw [wr_split hX, and_or_left]
  refine or_congr_right ⟨?_, ?_⟩
  · rintro ⟨hcov, rfl, h1, h2⟩
    have hp := Nat.lt_of_le_of_ne h1 fun e => hnm (e ▸ hB.midW)
    exact ⟨rfl, hp, (hB.cov_tail hp).1 hcov, h2⟩
  · rintro ⟨rfl, h1, h2, h3⟩
    exact ⟨(hB.cov_tail h1).2 h2, rfl, Nat.le_of_lt h1, h3⟩

theorem fillFwd_idle (ref : List (Array UInt8)) (h : Nat) (w : AlnWriter) (M : Nat)
    (hidle : w.lastWritten = 0 ∨ w.lastMapped + h ≤ w.lastWritten) :
    AlnWriter.fillFwdBases ref h w M = w := by
  unfold AlnWriter.fillFwdBases
  by_cases h0 : w.lastWritten > 0
  · -- nothing is owed: the overhang is 0
    rw [if_pos h0]
    simp only []
    rw [Nat.sub_eq_zero_of_le (hidle.resolve_left (Nat.ne_of_gt h0)), Nat.add_zero,
      if_neg (Nat.not_lt.2 (Nat.min_le_left _ _))]
  · rw [if_neg h0]

/-- the end of the owed range: `lastWritten + 1` plus the overhang -/
theorem add_one_add_sub {a b : Nat} (h : a ≤ b) : a + 1 + (b - a) = b + 1 := by omega

theorem fillFwd_eta (ref : List (Array UInt8)) (h : Nat) (w : AlnWriter) (M : Nat) :
    AlnWriter.fillFwdBases ref h w M =
      { w with seqOut := (AlnWriter.fillFwdBases ref h w M).seqOut,
               lastWritten := (AlnWriter.fillFwdBases ref h w M).lastWritten } := by
  unfold AlnWriter.fillFwdBases
  split
  · simp only []
    split <;> rfl
  · rfl

theorem fillFwd_seq (ref : List (Array UInt8)) (h : Nat) (w : AlnWriter) (M : Nat)
    (h0 : 0 < w.lastWritten) (hle : w.lastWritten ≤ w.lastMapped + h) :
    (AlnWriter.fillFwdBases ref h w M).seqOut =
      AlnWriter.copyRef w.seqOut (ref.getD w.currChrom #[]) w.chromOffset (w.lastWritten + 1)
        (min (w.lastMapped + h + 1) M) := by
  unfold AlnWriter.fillFwdBases
  rw [if_pos h0]
  simp only []
  rw [add_one_add_sub hle]
  split
  · rfl
  · rw [copyRef_empty]; omega

theorem fillFwd_lastWritten (ref : List (Array UInt8)) (h : Nat) (w : AlnWriter) (M : Nat)
    (h0 : 0 < w.lastWritten) (hle : w.lastWritten ≤ w.lastMapped + h) (hM : w.lastMapped + h < M) :
    w.lastMapped + h ≤ (AlnWriter.fillFwdBases ref h w M).lastWritten := by
  unfold AlnWriter.fillFwdBases
  rw [if_pos h0]
  simp only []
  rw [add_one_add_sub hle, Nat.min_eq_left hM]
  split
  · exact Nat.le_succ _
  · exact Nat.le_of_not_lt fun hlt => ‹¬ _› (Nat.succ_lt_succ hlt)

theorem fillFwd_size (ref : List (Array UInt8)) (h : Nat) (w : AlnWriter) (M : Nat) :
    (AlnWriter.fillFwdBases ref h w M).seqOut.size = w.seqOut.size := by
  unfold AlnWriter.fillFwdBases
  split
  · simp only []
    split
    · exact copyRef_size ..
    · rfl
  · rfl

theorem fillFwd_noop (ref : List (Array UInt8)) (h : Nat) (w : AlnWriter) {M : Nat}
    (hM : M ≤ w.lastWritten + 1) : (AlnWriter.fillFwdBases ref h w M).seqOut = w.seqOut := by
  unfold AlnWriter.fillFwdBases
  split
  · simp only []
    rw [if_neg (Nat.not_lt.2 (Nat.le_trans (Nat.min_le_right _ _) hM))]
  · rfl

end SkaModel.AW
