/-
Single-bit flips in a byte string; the frame decoder on a damaged stream identifier.
-/
import SkaModel.Lemmas.FrameChunks

namespace SkaModel.FR

open SkaModel

def flipBit (b : UInt8) (i : Nat) : UInt8 := b ^^^ UInt8.ofNat (2 ^ i)

/-- flip bit `i` of byte `j` of a byte string -/
def flipAt : List UInt8 → Nat → Nat → List UInt8
  | [], _, _ => []
  | b :: l, 0, i => flipBit b i :: l
  | b :: l, j + 1, i => b :: flipAt l j i

theorem flipBit_ne (b : UInt8) {i : Nat} (hi : i < 8) : flipBit b i ≠ b := by
  intro h
  have h1 := congrArg UInt8.toNat h
  unfold flipBit at h1
  rw [UInt8.toNat_xor, UInt8.toNat_ofNat'] at h1
  have h2 : b.toNat ^^^ (2 ^ i % 2 ^ 8) = b.toNat ^^^ 0 := by simpa using h1
  have h3 := xor_cancel_left h2
  have h4 : 2 ^ i < 2 ^ 8 := Nat.pow_lt_pow_right (by decide) hi
  have h5 : 0 < 2 ^ i := Nat.pow_pos (by decide)
  rw [Nat.mod_eq_of_lt h4] at h3
  omega

theorem flipBit_toNat (b : UInt8) {i : Nat} (hi : i < 8) : (flipBit b i).toNat = b.toNat ^^^ 2 ^ i := by
  unfold flipBit
  rw [UInt8.toNat_xor, UInt8.toNat_ofNat', Nat.mod_eq_of_lt (Nat.pow_lt_pow_right (by decide) hi)]

theorem flipAt_length : ∀ (l : List UInt8) (j i : Nat), (flipAt l j i).length = l.length
  | [], _, _ => rfl
  | _ :: _, 0, _ => rfl
  | _ :: l, j + 1, i => by simp [flipAt, flipAt_length l j i]

theorem flipAt_append_left : ∀ (a b : List UInt8) (j i : Nat), j < a.length →
    flipAt (a ++ b) j i = flipAt a j i ++ b
  | [], _, _, _, h => by simp at h
  | _ :: _, _, 0, _, _ => rfl
  | x :: a, b, j + 1, i, h => by
    simp only [List.cons_append, flipAt]
    rw [flipAt_append_left a b j i (by simpa using h)]

theorem flipAt_append_right : ∀ (a b : List UInt8) (j i : Nat),
    flipAt (a ++ b) (a.length + j) i = a ++ flipAt b j i
  | [], _, _, _ => by simp
  | x :: a, b, j, i => by
    have : (x :: a).length + j = (a.length + j) + 1 := by simp; omega
    rw [this]
    simp only [List.cons_append, flipAt]
    rw [flipAt_append_right a b j i]

theorem flipAt_split : ∀ (l : List UInt8) (j i : Nat), j < l.length →
    ∃ pre x post, l = pre ++ x :: post ∧ flipAt l j i = pre ++ flipBit x i :: post
  | [], _, _, h => by simp at h
  | b :: l, 0, i, _ => ⟨[], b, l, rfl, rfl⟩
  | b :: l, j + 1, i, h => by
    obtain ⟨pre, x, post, h1, h2⟩ := flipAt_split l j i (by simpa using h)
    exact ⟨b :: pre, x, post, by rw [h1]; rfl, by simp only [flipAt]; rw [h2]; rfl⟩

/-- what tells apart two lists that differ in one byte tells a list from each of its single-bit flips -/
theorem flipAt_detected {α : Type} {f : List UInt8 → α}
    (hf : ∀ (pre post : List UInt8) {x y : UInt8}, x ≠ y → f (pre ++ x :: post) ≠ f (pre ++ y :: post))
    (l : List UInt8) {j i : Nat} (hj : j < l.length) (hi : i < 8) : f (flipAt l j i) ≠ f l := by
  obtain ⟨pre, x, post, h1, h2⟩ := flipAt_split l j i hj
  rw [h2, h1]
  exact hf pre post (flipBit_ne x hi)

theorem flipAt_ne (l : List UInt8) {j i : Nat} (hj : j < l.length) (hi : i < 8) : flipAt l j i ≠ l :=
  flipAt_detected (f := id) (fun _ _ _ _ hxy h => hxy (List.cons.inj (List.append_cancel_left h)).1) l hj hi

/-- the error reported after flipping a bit of byte `j` of the stream identifier -/
def identFlipErr (j : Nat) : FrameErr :=
  if j = 0 then .streamHeader else if j < 4 then .chunkLength else .headerMismatch

theorem identFlipErr_ne_eof (j : Nat) : identFlipErr j ≠ .eof := by
  unfold identFlipErr
  split
  · decide
  · split <;> decide

theorem step_unseen (d d' : List UInt8 → Option (List UInt8)) (input : List UInt8) :
    step d false input = step d' false input := by
  have body : ∀ ty len body, stepBody d false ty len body = stepBody d' false ty len body := by
    intro ty len body
    by_cases hty : ty = 255
    · rw [hty, stepBody_ident, stepBody_ident]
    · unfold stepBody
      rw [if_pos (by simpa using hty), if_pos (by simpa using hty)]
  unfold step
  rw [body]

/-- the 80 single-bit flips of the stream identifier: on the ten bytes alone the first step
reports the error (evaluated with a decompressor that is never consulted) -/
theorem ident_flips : ∀ (j : Fin 10) (i : Fin 8),
    step (fun _ => none) false (flipAt IDENT j.val i.val) = .err (identFlipErr j.val) := by
  decide +kernel

/-- … and so does the decoder, whatever follows: an error other than `eof` on a prefix of the
input is the error on the input (`step_append`) -/
theorem unframe_flip_ident (decomp : List UInt8 → Option (List UInt8)) (rest : List UInt8)
    (j : Fin 10) (i : Fin 8) :
    unframe decomp (flipAt IDENT j.val i.val ++ rest) = .error (identFlipErr j.val) := by
  have ht := ident_flips j i
  rw [step_unseen _ decomp] at ht
  rw [unframe_eq_run]
  apply run_err
  rcases step_append decomp false (p := flipAt IDENT j.val i.val)
      (fun h0 => by rw [h0] at ht; cases ht) rest with he | hs
  · rw [ht] at he
    exact absurd (Step.err.inj he) (identFlipErr_ne_eof _)
  · rw [hs, ht]
    rfl

end SkaModel.FR
