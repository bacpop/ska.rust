/-
Preservation of the writer invariant by `fillContig`, `fillTo` and `writeSplitKmer`.  The two modes
meet `fillFwdBases` in one lemma, `flush`: afterwards the array stands for the covered positions
before the frontier it was given.  `fillContig` is `flush` at the end of the contig; a write of a
match centred at `a + h` (`core_write`) is `flush` at `a`, then the left arm `[a, a + h)` of the new
window, in either mode.  Only a match that is skipped (`core_B_skip`) needs mode B by itself.
-/
import SkaModel.Lemmas.AWInv

namespace SkaModel.AW

open SkaModel SkaModel.Spec

variable {ref : List (Array UInt8)} {h : Nat} {ma : Bool} {done : List Match} {w : AlnWriter}

theorem nocov_above (hmode : ModeA h done w ∨ ModeB ref h done w) {c p : Nat}
    (hc : w.currChrom < c) : ¬ Cov h done c p :=
  hmode.elim (fun hA => cov_none hA.before (Nat.le_of_lt hc)) fun hB => cov_none hB.before hc

theorem flush (hb : Base ref h ma done w) {M : Nat}
    (hmode : ModeA h done w ∨ (ModeB ref h done w ∧ w.lastWritten ≤ M))
    (hM : M ≤ csize ref w.currChrom) :
    Holds ref done (AlnWriter.fillFwdBases ref h w M).seqOut
      (fun c p => Cov h done c p ∧ Wr w.currChrom M c p) := by
  rcases hmode with hA | ⟨hB, hle⟩
  · rw [fillFwd_idle _ _ _ _ hA.idle]
    exact hb.seq.congr (fun _ _ hx => hx) (fun c p _ _ _ => hA.cov_wr w.currChrom M (Nat.le_refl _))
  · rw [fillFwd_seq ref h w M hB.wpos (Nat.le_trans hB.le1 (Nat.le_add_right _ _)), hb.off]
    refine (hb.seq.copy hb.size w.currChrom _ _ (Nat.le_trans (Nat.min_le_right _ _) hM)).congr
      (fun _ _ hx => hx) (fun c p _ _ hnm => ?_)
    rw [hB.cov_wr_same hnm M hle, Nat.lt_min]
    exact or_congr_right (and_congr_right fun _ => by omega)

theorem fillContig_eq (ref : List (Array UInt8)) (h : Nat) (w : AlnWriter) :
    AlnWriter.fillContig ref h w =
      { w with seqOut := (AlnWriter.fillFwdBases ref h w (csize ref w.currChrom)).seqOut,
               lastWritten := (AlnWriter.fillFwdBases ref h w (csize ref w.currChrom)).lastWritten,
               chromOffset := w.chromOffset + csize ref w.currChrom,
               currChrom := w.currChrom + 1, nextPos := h } := by
  have hlen : (ref.getD w.currChrom #[]).size = csize ref w.currChrom := rfl
  unfold AlnWriter.fillContig
  simp only [hlen]
  generalize hw1 : AlnWriter.fillFwdBases ref h w (csize ref w.currChrom) = w1
  have := fillFwd_eta ref h w (csize ref w.currChrom)
  rw [hw1] at this
  rw [this]

theorem fillContig_spec (hb : Base ref h ma done w) (hmode : ModeA h done w ∨ ModeB ref h done w)
    (hlt : w.currChrom < ref.length) :
    Base ref h ma done (AlnWriter.fillContig ref h w) ∧
    ModeA h done (AlnWriter.fillContig ref h w) ∧
    (AlnWriter.fillContig ref h w).currChrom = w.currChrom + 1 := by
  have hfl := flush hb (M := csize ref w.currChrom)
    (hmode.imp_right fun hB => ⟨hB, Nat.le_of_lt (Nat.lt_of_le_of_lt
      (Nat.le_trans hB.le1 (Nat.le_add_right _ _)) hB.inb)⟩) (Nat.le_refl _)
  rw [fillContig_eq]
  refine ⟨⟨(fillFwd_size ..).trans hb.size, ?_, hb.mid, hlt, ?_⟩, ⟨?_, rfl, fun m hm => ?_⟩, rfl⟩
  · show w.chromOffset + csize ref w.currChrom = contigOffset ref (w.currChrom + 1)
    rw [off_succ, hb.off]
  · refine hfl.congr (fun _ _ hx => hx) (fun c p _ hp _ => and_congr_right fun hcov => ?_)
    have hle : c ≤ w.currChrom := Nat.le_of_not_lt fun hc => nocov_above hmode hc hcov
    exact iff_of_true (Or.inl (Nat.lt_succ_of_le hle))
      ((Nat.lt_or_eq_of_le hle).imp_right fun e => ⟨e, e ▸ hp⟩)
  · show _ ∨ w.lastMapped + h ≤ (AlnWriter.fillFwdBases ref h w _).lastWritten
    rcases hmode with hA | hB
    · rw [fillFwd_idle _ _ _ _ hA.idle]; exact hA.idle
    · exact Or.inr (fillFwd_lastWritten ref h w _ hB.wpos
        (Nat.le_trans hB.le1 (Nat.le_add_right _ _)) hB.inb)
  · show m.1 < w.currChrom + 1
    rcases hmode with hA | hB
    · exact Nat.lt_succ_of_lt (hA.before m hm)
    · exact hB.before m hm

theorem fillTo_spec (chrom : Nat) (hchrom : chrom ≤ ref.length) :
    ∀ (fuel : Nat) (w : AlnWriter), Base ref h ma done w → (ModeA h done w ∨ ModeB ref h done w) →
      w.currChrom ≤ chrom → chrom < w.currChrom + fuel →
      Base ref h ma done (AlnWriter.fillTo ref h fuel w chrom) ∧
      (AlnWriter.fillTo ref h fuel w chrom).currChrom = chrom ∧
      ((w.currChrom < chrom ∧ ModeA h done (AlnWriter.fillTo ref h fuel w chrom)) ∨
        (w.currChrom = chrom ∧ AlnWriter.fillTo ref h fuel w chrom = w)) := by
  intro fuel
  induction fuel with
  | zero => intro w _ _ hle hf; exact absurd hf (Nat.not_lt.2 hle)
  | succ fuel ih =>
    intro w hb hmode hle hf
    unfold AlnWriter.fillTo
    by_cases hgt : chrom > w.currChrom
    · rw [if_pos hgt]
      obtain ⟨hb', hA', hcc'⟩ := fillContig_spec hb hmode (Nat.lt_of_lt_of_le hgt hchrom)
      obtain ⟨r1, r2, r3⟩ := ih _ hb' (Or.inl hA') (hcc' ▸ hgt)
        (by rw [hcc', Nat.add_right_comm]; exact hf)
      refine ⟨r1, r2, Or.inl ⟨hgt, ?_⟩⟩
      rcases r3 with ⟨_, r3⟩ | ⟨_, r3⟩
      · exact r3
      · rw [r3]; exact hA'
    · rw [if_neg hgt]
      have he := Nat.le_antisymm hle (Nat.le_of_not_lt hgt)
      exact ⟨hb, he, Or.inr ⟨he, rfl⟩⟩

/-- the part of `writeSplitKmer` after `fillTo` -/
def core (ref : List (Array UInt8)) (h : Nat) (ma : Bool) (w : AlnWriter) (pos : Nat)
    (base : UInt8) : AlnWriter :=
  let w := { w with middleOut := w.middleOut ++
    [(if isAmbiguous base && ma then 78 else base, pos + w.chromOffset)] }
  if pos < w.nextPos then { w with lastMapped := pos }
  else
    let w := if pos > w.nextPos then AlnWriter.fillFwdBases ref h w (pos - h) else w
    { w with seqOut := AlnWriter.copyRef w.seqOut (ref.getD w.currChrom #[]) w.chromOffset (pos - h) pos
             nextPos := pos + h + 1, lastMapped := pos, lastWritten := pos }

theorem writeSplitKmer_eq_core (ref : List (Array UInt8)) (h : Nat) (ma : Bool) (w : AlnWriter)
    (pos chrom : Nat) (base : UInt8) :
    AlnWriter.writeSplitKmer ref h ma w pos chrom base =
      core ref h ma (AlnWriter.fillTo ref h (chrom + 1) w chrom) pos base := rfl

theorem fillFwd_mid (ref : List (Array UInt8)) (h : Nat) (w : AlnWriter) (M : Nat)
    (x : List (UInt8 × Nat)) :
    AlnWriter.fillFwdBases ref h { w with middleOut := x } M =
      { AlnWriter.fillFwdBases ref h w M with middleOut := x } := by
  unfold AlnWriter.fillFwdBases
  split
  · simp only []
    split <;> rfl
  · rfl

theorem core_skip_eq (ref : List (Array UInt8)) (h : Nat) (ma : Bool) (w : AlnWriter) (pos : Nat)
    (base : UInt8) (hlt : pos < w.nextPos) :
    core ref h ma w pos base =
      { w with lastMapped := pos, middleOut := w.middleOut ++
          [(if isAmbiguous base && ma then 78 else base, pos + w.chromOffset)] } := by
  unfold core
  simp only []
  rw [if_pos hlt]

/-- the writing branch for a match centred at `a + h`: the `pos - h` of `writeSplitKmer` is `a` -/
theorem core_write_eq (ref : List (Array UInt8)) (h : Nat) (ma : Bool) (w : AlnWriter) (a : Nat)
    (base : UInt8) (hn : ¬ a + h < w.nextPos) :
    core ref h ma w (a + h) base =
      { nextPos := a + h + h + 1, currChrom := w.currChrom, lastMapped := a + h, lastWritten := a + h,
        chromOffset := w.chromOffset,
        seqOut := AlnWriter.copyRef
          (if a + h > w.nextPos then (AlnWriter.fillFwdBases ref h w a).seqOut else w.seqOut)
          (ref.getD w.currChrom #[]) w.chromOffset a (a + h),
        middleOut := w.middleOut ++
          [(if isAmbiguous base && ma then 78 else base, a + h + w.chromOffset)] } := by
  unfold core
  simp only []
  rw [if_neg hn, Nat.add_sub_cancel]
  by_cases hgt : a + h > w.nextPos
  · rw [if_pos hgt, if_pos hgt, fillFwd_mid, fillFwd_eta]
  · rw [if_neg hgt, if_neg hgt]

theorem mid_append (hb : Base ref h ma done w) (m : Match) (hcc : w.currChrom = m.1) :
    w.middleOut ++ [(if isAmbiguous m.2.2 && ma then 78 else m.2.2, m.2.1 + w.chromOffset)] =
      (done ++ [m]).map (midEntry ref ma) := by
  rw [List.map_append, hb.mid, hb.off, hcc]
  rfl

theorem core_B_skip (hb : Base ref h ma done w) (hB : ModeB ref h done w) (m : Match)
    (hcc : w.currChrom = m.1) (hm : Bnd ref h m) (hlt : w.lastMapped < m.2.1)
    (hskip : m.2.1 < w.nextPos) :
    Base ref h ma (done ++ [m]) (core ref h ma w m.2.1 m.2.2) ∧
    ModeB ref h (done ++ [m]) (core ref h ma w m.2.1 m.2.2) := by
  have hmem : m ∈ done ++ [m] := List.mem_concat_self
  have hle : w.lastWritten ≤ m.2.1 ∧ m.2.1 ≤ w.lastWritten + h := by
    have := hB.le1; have := hB.next; omega
  rw [core_skip_eq _ _ _ _ _ _ hskip]
  constructor
  · refine ⟨hb.size, hb.off, mid_append hb m hcc, hb.chromLe,
      hb.seq.congr (fun c p hx => (isMid_append ..).2 (Or.inl hx)) (fun c p hc hp hnm => ?_)⟩
    dsimp only
    rw [cov_append, or_and_right]
    refine or_iff_left_of_imp ?_
    rintro ⟨⟨rfl, _, hx3⟩, hy⟩
    -- below `lastWritten` the new window reaches only where the last match's does
    have hp : p < w.lastWritten := hy.elim (fun h1 => absurd h1 (hcc ▸ Nat.lt_irrefl _)) And.right
    exact ⟨hcc ▸ hB.cov_last (Nat.le_trans (Nat.le_of_lt hp) (Nat.le_trans hB.le1 (Nat.le_add_right ..)))
      (Nat.le_trans (Nat.le_of_lt hlt) hx3), hy⟩
  · refine ⟨hB.chromLt, ⟨m, hmem, hcc.symm, rfl⟩, hB.next, hB.wpos, hle.1, hle.2,
      (isMid_append ..).2 (Or.inl hB.midW), fun x hx => ?_, hcc ▸ hm.2.2⟩
    show x.1 < w.currChrom ∨ (x.1 = w.currChrom ∧ x.2.1 ≤ m.2.1)
    rcases List.mem_append.1 hx with hx | hx
    · exact (hB.sorted x hx).imp_right (And.imp_right fun h1 => Nat.le_trans h1 (Nat.le_of_lt hlt))
    · rw [List.mem_singleton.1 hx]
      exact Or.inr ⟨hcc.symm, Nat.le_refl _⟩

theorem core_write (hb : Base ref h ma done w) (mc a : Nat) (b : UInt8)
    (hmode : ModeA h done w ∨ (ModeB ref h done w ∧ ¬ a + h < w.nextPos))
    (hcc : w.currChrom = mc) (hmc : mc < ref.length)
    (hin : a + h + h < csize ref mc) (hpos : 0 < a + h)
    (hs : ∀ x ∈ done, x.1 < mc ∨ (x.1 = mc ∧ x.2.1 ≤ a + h)) :
    Base ref h ma (done ++ [(mc, a + h, b)]) (core ref h ma w (a + h) b) ∧
    ModeB ref h (done ++ [(mc, a + h, b)]) (core ref h ma w (a + h) b) := by
  subst hcc
  have hnext : w.nextPos = h ∨ w.nextPos = w.lastWritten + h + 1 :=
    hmode.elim (fun hA => Or.inl hA.next) (fun hB => Or.inr hB.1.next)
  -- in mode A no match is skipped
  have hskip : ¬ a + h < w.nextPos :=
    hmode.elim (fun hA => by rw [hA.next]; exact Nat.not_lt.2 (Nat.le_add_left ..)) And.right
  -- where `a` lies: at the first owed position if `fillFwdBases` is not called, beyond
  -- `lastWritten` in mode B, and with the left arm inside the contig
  have hgeo : (¬ a + h > w.nextPos → a ≤ w.lastWritten + 1) ∧
      (w.nextPos = w.lastWritten + h + 1 → w.lastWritten ≤ a) ∧
      a + h ≤ csize ref w.currChrom := by omega
  have hX : (if a + h > w.nextPos then (AlnWriter.fillFwdBases ref h w a).seqOut
      else w.seqOut) = (AlnWriter.fillFwdBases ref h w a).seqOut := by
    split
    · rfl
    next hn => exact (fillFwd_noop ref h w (hgeo.1 hn)).symm
  have hfl := flush hb (M := a) (hmode.imp_right fun hB => ⟨hB.1, hgeo.2.1 hB.1.next⟩)
    (Nat.le_trans (Nat.le_add_right a h) hgeo.2.2)
  rw [core_write_eq _ _ _ _ _ _ hskip, hX, hb.off]
  have hmem : (w.currChrom, a + h, b) ∈ done ++ [(w.currChrom, a + h, b)] := List.mem_concat_self
  refine ⟨⟨?_, rfl, ?_, hb.chromLe, ?_⟩, hmc, ⟨_, hmem, rfl, rfl⟩, rfl, hpos, Nat.le_refl _,
    Nat.le_add_right _ _, ⟨_, hmem, rfl, rfl⟩, fun x hx => (List.mem_append.1 hx).elim (hs x)
      fun hx => List.mem_singleton.1 hx ▸ Or.inr ⟨rfl, Nat.le_refl _⟩, hin⟩
  · show (AlnWriter.copyRef _ _ _ _ _).size = _
    rw [copyRef_size, fillFwd_size, hb.size]
  · rw [← hb.off]; exact mid_append hb (w.currChrom, a + h, b) rfl
  · refine (hfl.copy ((fillFwd_size ..).trans hb.size) w.currChrom a (a + h)
      hgeo.2.2).congr (fun c p hx => (isMid_append ..).2 (Or.inl hx)) (fun c p _ _ _ => ?_)
    show Cov h (done ++ [(w.currChrom, a + h, b)]) c p ∧ Wr w.currChrom (a + h) c p ↔ _
    -- below `a + h` the new window adds its left arm (`cov_snoc_wr`), and what the frontier
    -- `a + h` has over the frontier `a` (`wr_split`) is that arm too
    rw [cov_snoc_wr h done b, wr_split (Nat.le_add_right a h), and_or_left, or_assoc]
    exact or_congr_right (or_iff_right_of_imp And.right)

theorem step (hb : Base ref h ma done w)
    (hmode : Between ref h done w) (m : Match) (hm : Bnd ref h m) (hlt : ∀ m' ∈ done, MLt m' m) (h1 : 1 ≤ h) :
    Base ref h ma (done ++ [m]) (AlnWriter.writeSplitKmer ref h ma w m.2.1 m.1 m.2.2) ∧
    ModeB ref h (done ++ [m]) (AlnWriter.writeSplitKmer ref h ma w m.2.1 m.1 m.2.2) := by
  rw [writeSplitKmer_eq_core]
  obtain ⟨mc, pos, b⟩ := m
  obtain ⟨hmc, hm2, hm3⟩ := hm
  obtain ⟨a, rfl⟩ : ∃ a, pos = a + h := ⟨pos - h, (Nat.sub_add_cancel hm2).symm⟩
  have hpos : 0 < a + h := Nat.lt_of_lt_of_le h1 (Nat.le_add_left _ _)
  have hs : ∀ x ∈ done, x.1 < mc ∨ (x.1 = mc ∧ x.2.1 ≤ a + h) := fun x hx =>
    (hlt x hx).imp_right (And.imp_right Nat.le_of_lt)
  have hle : w.currChrom ≤ mc := by
    rcases hmode with hB | ⟨_, h0⟩
    · obtain ⟨mi, hmi, hmi1, _⟩ := hB.lastIn
      exact hmi1 ▸ (hs mi hmi).elim Nat.le_of_lt fun h => Nat.le_of_eq h.1
    · exact h0 ▸ Nat.zero_le _
  obtain ⟨r1, r2, r3⟩ := fillTo_spec (ma := ma) mc (Nat.le_of_lt hmc) (mc + 1) w hb hmode.mode hle
    (Nat.lt_add_left _ (Nat.lt_succ_self _))
  rcases r3 with ⟨_, hA⟩ | ⟨heq, hw⟩
  · exact core_write r1 mc a b (Or.inl hA) r2 hmc hm3 hpos hs
  · rw [hw]
    rcases hmode with hB | ⟨hA, _⟩
    · by_cases hskip : a + h < w.nextPos
      · refine core_B_skip hb hB _ heq ⟨hmc, hm2, hm3⟩ ?_ hskip
        obtain ⟨mi, hmi, hmi1, hmi2⟩ := hB.lastIn
        have := hlt mi hmi
        unfold MLt at this; omega
      · exact core_write hb mc a b (Or.inr ⟨hB, hskip⟩) heq hmc hm3 hpos hs
    · exact core_write hb mc a b (Or.inl hA) heq hmc hm3 hpos hs

end SkaModel.AW
