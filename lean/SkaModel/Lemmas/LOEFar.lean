/-
C18 completeness — behind the exit node of a bubble the graph of a deletion family is a line for more than `k`
nodes: a walk from an exit node that reaches an exit node again has at least `k + 1` nodes (`Far`).
-/
import SkaModel.Lemmas.LOEBubD

namespace SkaModel.LOE

open SkaModel SkaModel.Spec SkaModel.Props.C16 SkaModel.Skalo SkaModel.Props.C17G SkaModel.LOG SkaModel.LOC

/-- `P i x`: `x` is the column `i` steps from the start of the line of nodes `ν x` -/
theorem walk_line {g : Graph} {p : List Nat} (hw : Walk g p) (ν : Nat → Nat) (P : Nat → Nat → Prop) (m : Nat)
    (h0 : ∀ x, P 0 x → p.head? = some (ν x))
    (hs : ∀ i x, i < m → P (i + 1) x → ∃ x', P i x' ∧ succs g (ν x') = [ν x]) :
    ∀ i x, P i x → i ≤ m → i < p.length → p[i]? = some (ν x) := by
  intro i
  induction i with
  | zero =>
    intro x hx _ _
    rw [← List.head?_eq_getElem?, h0 x hx]
  | succ i ih =>
    intro x hx hik hi
    obtain ⟨x', hx', hsucc⟩ := hs i x hik hx
    have hcur : p[i + 1]? = some p[i + 1] := List.getElem?_eq_getElem hi
    have hmem := walk_step hw (ih x' hx' (Nat.le_of_succ_le hik) (Nat.lt_of_succ_lt hi)) hcur
    rw [hsucc] at hmem
    rw [hcur, List.mem_singleton.mp hmem]

namespace Ctx

variable {W k : Nat} {F : List UInt8} {B : List (Nat × Nat)} {C : List (List Bool)} {a : Arr} {names : List String}

theorem walk_fwd (cx : Ctx W k F B C a names) {t : Nat} (ht : t < B.length) {p : List Nat}
    (hw : Walk (buildGraph W a).1 p) (hh : p.head? = some (nF k F B (.c (bE B t)))) :
    ∀ i, i ≤ k → i < p.length → p[i]? = some (nF k F B (.c (bE B t + i))) := by
  have hN := (cx.h.eX_pos ht).2
  refine fun i => walk_line hw (fun x => nF k F B (.c x)) (fun i x => x = bE B t + i) k (fun x hx => hx ▸ hh)
    (fun i x hi hx => ⟨bE B t + i, rfl, ?_⟩) i _ rfl
  rw [hx]
  exact cx.strandF.single (re_c_succ (by omega) fun t' ht' => cx.h.not_entry ht
    (Nat.lt_of_lt_of_le (cx.h.eX_lt_bE ht) (Nat.le_add_right _ _))
    (Nat.add_le_add_left (Nat.le_trans (Nat.le_of_lt hi) (Nat.le_mul_of_pos_left k (by decide))) _) ht')

theorem walk_rev (cx : Ctx W k F B C a names) {t : Nat} (ht : t < B.length) {p : List Nat}
    (hw : Walk (buildGraph W a).1 p) (hh : p.head? = some (nR k F B (.c (eX k F B t)))) :
    ∀ i x, x + i = eX k F B t → i ≤ k → i < p.length → p[i]? = some (nR k F B (.c x)) := by
  have hN := (cx.h.eX_pos ht).2
  have hE := cx.h.eX_lt_bE ht
  have hk := (cx.h.eX_bounds ht).2.2
  refine walk_line hw (fun x => nR k F B (.c x)) (fun i x => x + i = eX k F B t) k
    (fun x hx => (show x = eX k F B t from hx) ▸ hh)
    (fun i x hi hx => ⟨x + 1, (Nat.add_right_comm x 1 i).trans hx, ?_⟩)
  exact cx.strandR.single (re_c_pred (by omega) fun t' ht' => cx.h.not_exit ht (by omega) (by omega) ht')

theorem exits_apart (cx : Ctx W k F B C a names) {t t' : Nat} (ht : t < B.length) (ht' : t' < B.length) {i : Nat}
    (h1 : 1 ≤ i) (hi : i ≤ k) : bE B t + i ≠ bE B t' ∧ eX k F B t' + i ≠ eX k F B t := by
  -- otherwise the exit column of block `t` would lie before that of `t'` within `k`, the entry column of `t` behind that
  -- of `t'` within `k`: near a block no other block has its exit or entry column
  have hb := (cx.h.ex_lt ht').2
  have hE := cx.h.eX_lt_bE ht'
  exact ⟨fun e => cx.h.not_exit ht' (x := bE B t) (by omega) (by omega) ht rfl,
    fun e => cx.h.not_entry ht' (x := eX k F B t) (by omega) (by omega) ht rfl⟩

theorem far (cx : Ctx W k F B C a names) : Far (k - 1) (buildGraph W a).1 (allBubs k F B) := by
  constructor
  intro β hβ p hw hh ⟨β', hβ', hmem⟩
  apply Classical.byContradiction
  intro hshort
  obtain ⟨j, hj, hje⟩ := List.getElem_of_mem hmem
  have hjp : j + 1 < p.length := Nat.add_lt_of_lt_sub (List.length_tail ▸ hj)
  have hjk : j + 1 ≤ k := by omega
  have hj3 : j + 1 ≤ 3 * k := Nat.le_trans hjk (Nat.le_mul_of_pos_left k (by decide))
  have hpj : p[j + 1]? = some β'.ex := by
    rw [← hje, List.getElem?_eq_getElem hjp, List.getElem_tail]
  have vx : ∀ t, t < B.length → ∀ i, i ≤ 3 * k → (Nd.c (bE B t + i)).valid k F.length B (shf k F B) :=
    fun t ht i hi => cx.h.valid_c ht (Nat.add_le_add_left hi _)
  obtain ⟨t, ht, rfl | rfl⟩ := (mem_allBubs k F B β).mp hβ
  · have e := Option.some.inj ((cx.walk_fwd ht hw hh (j + 1) hjk hjp).symm.trans hpj)
    obtain ⟨t', ht', rfl | rfl⟩ := (mem_allBubs k F B β').mp hβ'
    · exact (cx.exits_apart ht ht' (Nat.succ_pos j) hjk).1
        (Nd.c.inj (cx.h.nuF_inj (vx t ht _ hj3) (cx.h.valid_ex ht') e))
    · exact cx.h.nuF_ne_nuR (vx t ht _ hj3) (cx.h.valid_en ht') e
  · have hlo := (cx.h.eX_pos ht).1
    obtain ⟨x, hx⟩ := Nat.exists_eq_add_of_le' (Nat.le_trans hj3 (Nat.le_of_lt hlo))
    have vx' : (Nd.c x).valid k F.length B (shf k F B) := cx.h.valid_c ht
      (Nat.le_trans (Nat.le.intro hx.symm) (Nat.le_trans (Nat.le_of_lt (cx.h.eX_lt_bE ht)) (Nat.le_add_right _ _)))
    have e := Option.some.inj ((cx.walk_rev ht hw hh (j + 1) x hx.symm hjk hjp).symm.trans hpj)
    obtain ⟨t', ht', rfl | rfl⟩ := (mem_allBubs k F B β').mp hβ'
    · exact cx.h.nuF_ne_nuR (cx.h.valid_ex ht') vx' e.symm
    · exact (cx.exits_apart ht ht' (Nat.succ_pos j) hjk).2
        (Nd.c.inj (cx.h.nuR_inj vx' (cx.h.valid_en ht') e) ▸ hx.symm)

end Ctx

end SkaModel.LOE
