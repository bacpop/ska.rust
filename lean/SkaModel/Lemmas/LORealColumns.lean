/-
`ska lo`, "SNP calls are real" (C17) / "no sample is genotyped for an allele it does not carry"
(C18): every entry of an SNP column of `groupSnps` / `analyse` is justified by the colours of the
k-mers of the group's variants (`T17_groupSnps_justified`, `T17_analyse_justified` in
`SkaModel/Props/C17Real.lean`).

The column update of one variant is read entry by entry (`foldl_upd_getD`); what an entry means is
said abstractly (`Entry`, over any "sample carries variant `v` showing base `b`" relation), so that
the loop over the variants only has to maintain `Entry` (`entry_skip`, `entry_hit`).
-/
import SkaModel.Lemmas.LOPipe
import SkaModel.Lemmas.Codec
import SkaModel.Lemmas.LOCStr

namespace SkaModel.LORL

open SkaModel SkaModel.Skalo

/-- the new entry of a sample that carries the variant's k-mer: the base if the entry was '-' or
that base, N otherwise -/
def updF (nucl x : UInt8) : UInt8 := if x == 45 || x == nucl then nucl else 78

theorem upd_length (nucl : UInt8) (c : List UInt8) (j : Nat) : (upd nucl c j).length = c.length := by
  unfold upd
  split <;> rw [List.length_set]

theorem upd_getD (nucl : UInt8) (c : List UInt8) (j i : Nat) (hi : i < c.length) :
    (upd nucl c j).getD i 0 = if i = j then updF nucl (c.getD i 0) else c.getD i 0 := by
  unfold upd updF
  by_cases hij : i = j
  · subst hij
    rw [if_pos rfl]
    split <;> simp [List.getD_eq_getElem?_getD, hi]
  · rw [if_neg hij]
    have : ¬ j = i := fun h => hij h.symm
    split <;> simp [List.getD_eq_getElem?_getD, this]

theorem updF_idem (nucl x : UInt8) (hn : nucl ≠ 78) : updF nucl (updF nucl x) = updF nucl x := by
  unfold updF
  by_cases h : (x == 45 || x == nucl) = true
  · simp [h]
  · have h78 : ((78 : UInt8) == nucl) = false := by
      simp only [beq_eq_false_iff_ne, ne_eq]
      exact fun e => hn e.symm
    simp [h, h78]

theorem foldl_upd_length (nucl : UInt8) (S : List Nat) :
    ∀ c : List UInt8, (S.foldl (upd nucl) c).length = c.length := by
  induction S with
  | nil => intro c; rfl
  | cons j S ih => intro c; rw [List.foldl_cons, ih, upd_length]

/-- indices beyond the column are ignored; repeated indices do no harm (`updF_idem`, which is where `hn` is needed) -/
theorem foldl_upd_getD (nucl : UInt8) (hn : nucl ≠ 78) (S : List Nat) :
    ∀ (c : List UInt8) (i : Nat), i < c.length →
      (S.foldl (upd nucl) c).getD i 0 = if i ∈ S then updF nucl (c.getD i 0) else c.getD i 0 := by
  induction S with
  | nil => intro c i _; simp
  | cons j S ih =>
    intro c i hi
    rw [List.foldl_cons, ih (upd nucl c j) i (by rw [upd_length]; exact hi), upd_getD nucl c j i hi]
    by_cases hij : i = j
    · subst hij
      simp only [if_true, List.mem_cons, true_or]
      split
      · exact updF_idem nucl _ hn
      · rfl
    · simp only [List.mem_cons, hij, false_or, if_false]

section entry
variable {α : Type}

/-- `Car v b`: variant `v` shows base `b` and the sample carries `v`'s k-mer.  The entry `x` of the
sample after the variants `vs`: '-' when it carries none of them, N when it carries two variants
showing different bases, and the base otherwise -/
def Entry (Car : α → UInt8 → Prop) (vs : List α) (x : UInt8) : Prop :=
  (x = 45 ∧ ∀ v ∈ vs, ∀ b, ¬ Car v b) ∨
  (x = 78 ∧ ∃ v ∈ vs, ∃ v' ∈ vs, ∃ b b', b ≠ b' ∧ Car v b ∧ Car v' b') ∨
  (isACGT x = true ∧ (∃ v ∈ vs, Car v x) ∧ ∀ v ∈ vs, ∀ b, Car v b → b = x)

theorem acgt_ne {x : UInt8} (h : isACGT x = true) : x ≠ 45 ∧ x ≠ 78 := by
  constructor <;> (rintro rfl; exact absurd h (by decide))

theorem entry_nil (Car : α → UInt8 → Prop) : Entry Car [] 45 :=
  Or.inl ⟨rfl, fun v hv => by simp at hv⟩

theorem entry_skip (Car : α → UInt8 → Prop) (P : List α) (v : α) (x : UInt8)
    (hE : Entry Car P x) (hno : ∀ b, ¬ Car v b) : Entry Car (P ++ [v]) x := by
  rcases hE with ⟨h1, h2⟩ | ⟨h1, u, hu, u', hu', b, b', hne, hc, hc'⟩ | ⟨h1, ⟨u, hu, hc⟩, h3⟩
  · exact Or.inl ⟨h1, List.forall_mem_append.2 ⟨h2, List.forall_mem_singleton.2 hno⟩⟩
  · exact Or.inr (Or.inl ⟨h1, u, List.mem_append_left _ hu, u', List.mem_append_left _ hu', b, b', hne, hc, hc'⟩)
  · exact Or.inr (Or.inr ⟨h1, ⟨u, List.mem_append_left _ hu, hc⟩,
      List.forall_mem_append.2 ⟨h3, List.forall_mem_singleton.2 (fun b hb => absurd hb (hno b))⟩⟩)

theorem entry_hit (Car : α → UInt8 → Prop) (P : List α) (v : α) (x b : UInt8) (hb : isACGT b = true)
    (hE : Entry Car P x) (hc : Car v b) (hfun : ∀ b', Car v b' → b' = b) :
    Entry Car (P ++ [v]) (updF b x) := by
  have hv : v ∈ P ++ [v] := List.mem_append_right _ (List.mem_singleton.mpr rfl)
  obtain ⟨hb45, hb78⟩ := acgt_ne hb
  rcases hE with ⟨h1, h2⟩ | ⟨h1, u, hu, u', hu', c, c', hne, hcu, hcu'⟩ | ⟨h1, ⟨u, hu, hcu⟩, h3⟩
  · subst h1
    have : updF b 45 = b := by simp [updF]
    rw [this]
    exact Or.inr (Or.inr ⟨hb, ⟨v, hv, hc⟩, List.forall_mem_append.2
      ⟨fun w hw b' hb' => absurd hb' (h2 w hw b'), List.forall_mem_singleton.2 hfun⟩⟩)
  · subst h1
    have h78 : ((78 : UInt8) == b) = false := by
      simp only [beq_eq_false_iff_ne, ne_eq]; exact fun e => hb78 e.symm
    have : updF b 78 = 78 := by simp [updF, h78]
    rw [this]
    exact Or.inr (Or.inl ⟨rfl, u, List.mem_append_left _ hu, u', List.mem_append_left _ hu', c, c', hne, hcu, hcu'⟩)
  · obtain ⟨hx45, _⟩ := acgt_ne h1
    by_cases hxb : x = b
    · subst hxb
      have : updF x x = x := by simp [updF]
      rw [this]
      exact Or.inr (Or.inr ⟨h1, ⟨v, hv, hc⟩,
        List.forall_mem_append.2 ⟨h3, List.forall_mem_singleton.2 hfun⟩⟩)
    · have : updF b x = 78 := by simp [updF, hx45, hxb]
      rw [this]
      exact Or.inr (Or.inl ⟨rfl, u, List.mem_append_left _ hu, v, hv, x, b, hxb, hcu, hc⟩)

theorem entry_readings (Car : α → UInt8 → Prop) (vs : List α) (x : UInt8) (h : Entry Car vs x) :
    (x = 45 ∨ x = 78 ∨ x = 65 ∨ x = 67 ∨ x = 71 ∨ x = 84) ∧
    ((x = 65 ∨ x = 67 ∨ x = 71 ∨ x = 84) →
      (∃ v ∈ vs, Car v x) ∧ ∀ v' ∈ vs, ∀ b', Car v' b' → b' = x) ∧
    (x = 78 → ∃ v ∈ vs, ∃ v' ∈ vs, ∃ b b', b ≠ b' ∧ Car v b ∧ Car v' b') ∧
    (x = 45 → ∀ v ∈ vs, ∀ b, ¬ Car v b) := by
  rcases h with ⟨rfl, h2⟩ | ⟨rfl, h2⟩ | ⟨h1, h2⟩
  · exact ⟨Or.inl rfl, fun h => absurd h (by decide), fun h => absurd h (by decide), fun _ => h2⟩
  · exact ⟨Or.inr (Or.inl rfl), fun h => absurd h (by decide), fun _ => h2, fun h => absurd h (by decide)⟩
  · obtain ⟨h45, h78⟩ := acgt_ne h1
    exact ⟨Or.inr (Or.inr ((LO.isACGT_cases x).mp h1)), fun _ => h2, fun h => absurd h h78, fun h => absurd h h45⟩

end entry

theorem encode_snoc (W : Nat) (w : List UInt8) (x : UInt8) :
    encodeKmer W (w ++ [x]) = shl W (encodeKmer W w) 2 ||| code x := by
  unfold encodeKmer
  rw [List.foldl_append]
  rfl

theorem last_base (W : Nat) (hW : 2 ≤ W) (w : List UInt8) (x : UInt8) :
    encodeKmer W (w ++ [x]) &&& 3 = code x := by
  rw [encode_snoc, and_three]
  unfold shl
  have h4 : (4 : Nat) = 2 ^ 2 := rfl
  rw [h4, Nat.or_mod_two_pow, Nat.mod_mod_of_dvd _ (Nat.pow_dvd_pow 2 hW), Nat.shiftLeft_eq,
    Nat.mul_mod_left, Nat.zero_or, Nat.mod_eq_of_lt (code_lt x)]

theorem getRange_some (s : List UInt8) (a b : Nat) (h1 : a ≤ b) (h2 : b ≤ s.length) :
    getRange s a b = some ((s.drop a).take (b - a)) := by
  unfold getRange
  simp [h1, h2]

theorem getRange_add (s : List UInt8) (a m : Nat) :
    getRange s a (a + m) = if a + m ≤ s.length then some ((s.drop a).take m) else none := by
  unfold getRange
  rw [Nat.add_sub_cancel_left, decide_eq_true (Nat.le_add_right a m), Bool.true_and]
  simp only [decide_eq_true_eq]

/-- the slice `[pos - kGraph, pos]` is the window of `kGraph + 1` letters that ends with the letter at
`pos`, which is the base of the call -/
theorem call_letter (W kGraph : Nat) (hW : 2 ≤ W) (s : List UInt8) (pos : Nat) (hk : kGraph ≤ pos)
    (w : List UInt8) (h : getRange s (pos - kGraph) (pos + 1) = some w) :
    ∃ x, s[pos]? = some x ∧ decodeBase (encodeKmer W w &&& 3) = decodeBase (code x) ∧
      w = (s.drop (pos - kGraph)).take (kGraph + 1) := by
  -- `pos = i + kGraph`: the slice starts at `i` and has `kGraph + 1` letters, the last one at `i + kGraph`
  obtain ⟨i, rfl⟩ := Nat.exists_eq_add_of_le' hk
  rw [Nat.add_sub_cancel, Nat.add_assoc, getRange_add] at h
  rw [Nat.add_sub_cancel]
  split at h
  · rename_i hlt
    have hlt : i + kGraph < s.length := hlt
    obtain rfl := Option.some.inj h
    refine ⟨s[i + kGraph], List.getElem?_eq_getElem hlt, ?_, rfl⟩
    rw [List.take_add_one, List.getElem?_drop, List.getElem?_eq_getElem hlt, Option.toList_some, last_base W hW]
  · exact absurd h nofun

/-- variant `v` shows base `b` at `pos` (the last base of its k-mer `w` = the window
`[pos - kGraph, pos]`) and sample `i` is in the colour set of that k-mer -/
def _root_.SkaModel.Props.C17Q.Carries (W kGraph : Nat) (col : Colours) (pos i : Nat) (v : Variant) (b : UInt8) : Prop :=
  ∃ w S, getRange v.1 (pos - kGraph) (pos + 1) = some w ∧ decodeBase (encodeKmer W w &&& 3) = b ∧
    Assoc.lookup col (encodeKmer W w) = some S ∧ i ∈ S

open SkaModel.Props.C17Q (Carries)

/-- the k-mer and its colour set determine the base and the carriers -/
theorem carries_at {W kGraph : Nat} {col : Colours} {pos i : Nat} {v : Variant} {b : UInt8}
    {w : List UInt8} {S : List Nat} (hw : getRange v.1 (pos - kGraph) (pos + 1) = some w)
    (hS : Assoc.lookup col (encodeKmer W w) = some S) (h : Carries W kGraph col pos i v b) :
    b = decodeBase (encodeKmer W w &&& 3) ∧ i ∈ S := by
  obtain ⟨w', S', h1, h2, h3, h4⟩ := h
  obtain rfl : w = w' := Option.some.inj (hw.symm.trans h1)
  obtain rfl : S = S' := Option.some.inj (hS.symm.trans h3)
  exact ⟨h2.symm, h4⟩

/-- column `c` is the column of position `pos` of the variants `vs`: the k-mer of every variant
ending at `pos` is coloured and was not used by an earlier column, and every entry is justified -/
def ColumnAt (W kGraph n : Nat) (col : Colours) (done : List Nat) (vs : List Variant) (pos : Nat)
    (c : List UInt8) : Prop :=
  c.length = n ∧
  (∀ v ∈ vs, ∃ w S, getRange v.1 (pos - kGraph) (pos + 1) = some w ∧
    Assoc.lookup col (encodeKmer W w) = some S ∧ encodeKmer W w ∉ done) ∧
  ∀ i, i < n → Entry (Carries W kGraph col pos i) vs (c.getD i 0)

theorem inner_step (W kGraph n : Nat) (col : Colours) (done : List Nat) (pos : Nat)
    (pre : List Variant) (v : Variant) (st st' : List UInt8 × List Nat × Bool)
    (hQ : st.2.2 = true → ColumnAt W kGraph n col done pre pos st.1)
    (hv : inner W kGraph col done pos st v = some st') :
    st'.2.2 = true → ColumnAt W kGraph n col done (pre ++ [v]) pos st'.1 := by
  unfold inner at hv
  simp only [Option.bind_eq_bind, Option.bind_eq_some_iff] at hv
  obtain ⟨fbS, hfb, faS, hfa, hv⟩ := hv
  split at hv
  · rename_i hnd
    simp only [Option.bind_eq_some_iff] at hv
    obtain ⟨samples, hs, hv⟩ := hv
    simp only [pure, Option.some.injEq] at hv
    subst hv
    intro hnew
    obtain ⟨hlen, hall, hent⟩ := hQ hnew
    simp only [Bool.and_eq_true, Bool.not_eq_true', List.contains_eq_mem, decide_eq_false_iff_not] at hnd
    -- `LOC.isBase` has the body of `isACGT`
    have hacgt : isACGT (decodeBase (encodeKmer W fbS &&& 3)) = true := LOC.isBase_decodeBase _
    refine ⟨by rw [foldl_upd_length]; exact hlen, ?_, ?_⟩
    · intro u hu
      rcases List.mem_append.mp hu with hu | hu
      · exact hall u hu
      · rw [List.mem_singleton] at hu
        subst hu
        exact ⟨fbS, samples, hfb, hs, hnd.1⟩
    · intro i hi
      rw [foldl_upd_getD _ (acgt_ne hacgt).2 samples st.1 i (by rw [hlen]; exact hi)]
      split
      · rename_i hmem
        exact entry_hit _ pre v _ _ hacgt (hent i hi) ⟨fbS, samples, hfb, rfl, hs, hmem⟩
          (fun b' hc' => (carries_at hfb hs hc').1)
      · rename_i hmem
        exact entry_skip _ pre v _ (hent i hi) (fun b' hc' => hmem (carries_at hfb hs hc').2)
  · simp only [pure, Option.some.injEq] at hv
    subst hv
    intro h
    exact absurd h (by simp)

theorem siteCol_column {W kGraph n : Nat} {col : Colours} {done : List Nat} {pos : Nat}
    {vs : List Variant} {st : List UInt8 × List Nat × Bool}
    (h : LOP.siteCol W kGraph n col done vs pos = some st)
    (hnew : st.2.2 = true) : ColumnAt W kGraph n col done vs pos st.1 := by
  unfold LOP.siteCol at h
  refine foldlM_inv_full (inner W kGraph col done pos)
    (fun (pre : List Variant) (st : List UInt8 × List Nat × Bool) =>
      st.2.2 = true → ColumnAt W kGraph n col done pre pos st.1) vs
    (fun pre v _ st st' _ hQ hv => inner_step W kGraph n col done pos pre v st st' hQ hv) ?_ h hnew
  · intro _
    refine ⟨List.length_replicate, fun v hv => absurd hv List.not_mem_nil, fun i hi => ?_⟩
    have : (List.replicate n (45 : UInt8)).getD i 0 = 45 := by
      simp [List.getD_eq_getElem?_getD, hi]
    rw [this]
    exact entry_nil _

theorem groupSnps_justified (W kGraph n mNum mDen : Nat) (col : Colours) (done : List Nat)
    (vs : List Variant) (r : List (List UInt8) × List Nat)
    (h : groupSnps W kGraph n mNum mDen col done vs = some r) :
    ∀ c ∈ r.1, ∃ pos ∈ getPotentialSnp vs, kGraph ≤ pos ∧ ColumnAt W kGraph n col done vs pos c := by
  rw [LOP.groupSnps_eq] at h
  refine LO.foldlM_inv _ (fun acc => ∀ c ∈ acc.1, ∃ pos ∈ getPotentialSnp vs, kGraph ≤ pos ∧
    ColumnAt W kGraph n col done vs pos c) _ ?_ _ _ (fun _ hc => absurd hc List.not_mem_nil) h
  intro acc pos acc' hpos hacc hstep c hc
  obtain ⟨hk, st, hst, rfl | ⟨hnew, _, rfl⟩⟩ := LOP.siteStep_cases hstep
  · exact hacc c hc
  · rcases List.mem_append.mp hc with hc | hc
    · exact hacc c hc
    · obtain rfl := List.mem_singleton.mp hc
      exact ⟨pos, hpos, hk, siteCol_column hst hnew⟩

theorem analyse_justified (W kGraph n mNum mDen ik : Nat) (col : Colours) (gr : Groups)
    (cols : List (List UInt8)) (recs : List IndelRec)
    (h : analyse W kGraph n mNum mDen ik col gr = some (cols, recs)) :
    ∃ ext, (∃ recs', processIndels W kGraph n mNum mDen col gr.indelGroups = some (recs', ext)) ∧
    ∀ c ∈ cols, ∃ kv ∈ gr.snpGroups, ∃ done : List Nat,
      ∃ pos ∈ getPotentialSnp (kv.2.filter (fun v => !(internalIndels W kGraph ext v.1 > ik))),
        kGraph ≤ pos ∧
        ColumnAt W kGraph n col done (kv.2.filter (fun v => !(internalIndels W kGraph ext v.1 > ik))) pos c := by
  obtain ⟨ext, hpi, horig⟩ := LOP.analyse_origin W kGraph n mNum mDen ik col gr cols recs h
  refine ⟨ext, ⟨recs, hpi⟩, fun c hc => ?_⟩
  obtain ⟨kv, hkv, done, cs, hg, hcs⟩ := horig c hc
  exact ⟨kv, hkv, done, groupSnps_justified W kGraph n mNum mDen col done _ cs hg c hcs⟩

end SkaModel.LORL
