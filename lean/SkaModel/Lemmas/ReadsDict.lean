/-
For `Props/C12Spec.lean`: the read configuration's position test and middle-base test in the
words of `Spec/ReadsSpec`; `addObs` is `stepO` of the C01 development, so the dictionary fold of C01
applies to reads.
-/
import SkaModel.Lemmas.DictFold
import SkaModel.Lemmas.MaskOf
import SkaModel.Lemmas.KFDict
import SkaModel.Spec.ReadsSpec

namespace SkaModel.RDS

open SkaModel SkaModel.Spec SkaModel.KF

/-- the quality rule a `--qual-filter` setting stands for -/
def ruleOf : QualFilter → QualRule
  | .noFilter => .none
  | .middle => .middle
  | .strict => .strict

def okPos (rule : QualRule) (minQual : Nat) (seq qual : Array UInt8) (p : Nat) : Bool :=
  validBase (seq.getD p 0) && (rule != .strict || decide (qualAt qual p ≥ minQual))

theorem passWindows_eq (k : Nat) (rule : QualRule) (minQual : Nat) (seq qual : Array UInt8) :
    passWindows k rule minQual seq qual =
      (windowsBy k seq.size (okPos rule minQual seq qual)).filter (fun j =>
        rule == .none || decide (qualAt qual (j + (k - 1) / 2) ≥ minQual)) := rfl

theorem readConf_validQual (W k : Nat) (rc : Bool) (minQual : Nat) (qf : QualFilter) (r : Read) (p : Nat) :
    (readConf W k rc minQual qf r).validQual p = decide (qualAt r.qual p ≥ minQual) := rfl

theorem readConf_okAt (W k : Nat) (rc : Bool) (minQual : Nat) (qf : QualFilter) (r : Read) :
    (readConf W k rc minQual qf r).okAt = okPos (ruleOf qf) minQual r.seq r.qual := by
  funext p
  unfold SKConf.okAt okPos
  rw [readConf_validQual]
  cases qf <;> rfl

theorem readConf_middleBaseQual (W k : Nat) (rc : Bool) (minQual : Nat) (qf : QualFilter) (r : Read)
    (s : SKState) :
    (readConf W k rc minQual qf r).middleBaseQual s =
      (ruleOf qf == .none ||
        decide (qualAt r.qual ((readConf W k rc minQual qf r).middlePos s) ≥ minQual)) := by
  unfold SKConf.middleBaseQual
  cases qf
  · rfl
  · show (readConf W k rc minQual .middle r).validQual _ = _
    rw [readConf_validQual]; rfl
  · show (readConf W k rc minQual .strict r).validQual _ = _
    rw [readConf_validQual]; rfl

def tripO (o : Obs) : Nat × Nat × Bool := (o.kmer, o.base, o.palin)

theorem addObs_eq (d : Assoc Nat UInt8) (o : Obs) : addObs d o = stepO d (tripO o) := rfl

theorem foldlM_addObs (os : List Obs) (d : Assoc Nat UInt8) :
    os.foldlM addObs d = foldO d (os.map tripO) := by
  induction os generalizing d with
  | nil => rfl
  | cons o os ih =>
    simp only [List.foldlM_cons, List.map_cons, foldO, addObs_eq]
    cases stepO d (tripO o) with
    | none => rfl
    | some d' => exact ih d'

/-- the number of triples of class `c`, counted with any lawful `==`, is the `count` (with the `==`
derived from decidable equality) of `c` among the classes -/
theorem filter_class_length {α γ β : Type} [DecidableEq γ] (inst : BEq γ) [@LawfulBEq γ inst]
    (A : List α) (cls : α → γ) (f : α → β) (c : γ) :
    ((A.map (fun o => (cls o, f o))).filter (fun y => @BEq.beq γ inst y.1 c)).length
      = @List.count γ instBEqOfDecidableEq c (A.map cls) := by
  rw [← List.countP_eq_length_filter]
  show _ = List.countP (fun x => @BEq.beq γ instBEqOfDecidableEq x c) (A.map cls)
  rw [List.countP_map, List.countP_map]
  refine List.countP_congr fun a _ => ?_
  simp only [Function.comp, beq_iff_eq]

theorem palMask_of_min : ∀ b b' : Fin 4,
    min b.val (b.val ^^^ 2) = min b'.val (b'.val ^^^ 2) → palMask b.val = palMask b'.val := by
  decide

theorem maskO_of_obsClass {o o' : Obs} (hb : o.base < 4) (hb' : o'.base < 4)
    (hp : o.palin = o'.palin) (hc : obsClass o = obsClass o') :
    maskO (tripO o) = maskO (tripO o') := by
  obtain ⟨hkey, hsnd⟩ := Prod.mk.inj hc
  unfold maskO tripO
  simp only at hkey hsnd ⊢
  rw [← hp] at hsnd ⊢
  rw [hkey]
  revert hsnd
  cases o.palin
  · simp only [Bool.false_eq_true, ↓reduceIte]
    intro hsnd
    rw [hsnd]
  · simp only [↓reduceIte]
    intro hsnd
    rw [palMask_of_min ⟨_, hb⟩ ⟨_, hb'⟩ hsnd]

end SkaModel.RDS
