/-
Mapping a reference against its own split k-mers gives back the upper-cased reference
(specification level).
-/
import SkaModel.Lemmas.RMSpec

namespace SkaModel.RM

open SkaModel SkaModel.Spec SkaModel.Props.C16

/-- one of `A C G T a c g t` -/
def IsACGT (b : UInt8) : Prop :=
  b = 65 ∨ b = 67 ∨ b = 71 ∨ b = 84 ∨ b = 97 ∨ b = 99 ∨ b = 103 ∨ b = 116

structure ACGTFacts (b : UInt8) : Prop where
  valid : validBase b = true
  fwd : decodeBase (code b) = upperByte b
  rev : rcIupacAt (decodeBase (code b ^^^ 2)) = upperByte b
  fwd_ne_gap : (decodeBase (code b) == 45) = false
  rev_ne_gap : (decodeBase (code b ^^^ 2) == 45) = false
  unambiguous : isAmbiguous (upperByte b) = false

theorem acgt_facts (b : UInt8) (hb : IsACGT b) : ACGTFacts b := by
  rcases hb with rfl | rfl | rfl | rfl | rfl | rfl | rfl | rfl <;> constructor <;> decide

section
variable (k : Nat) (rc : Bool) (hk : ValidK k) (dict : Nat → Option (List UInt8)) (c : Array UInt8) (s : Nat)
  (hacgt : ∀ i, i < c.size → IsACGT (c.getD i 0))
  (hlen : k ≤ c.size)
  (hdict : ∀ j ∈ windows k c, ∃ row, dict (obs k rc c j).1 = some row ∧
      row.getD s 45 = decodeBase (obs k rc c j).2.1)

include hacgt in
theorem windows_all (j : Nat) : j ∈ windows k c ↔ j + k ≤ c.size := by
  rw [mem_windows]
  constructor
  · exact fun h => h.1
  · intro h
    exact ⟨h, fun t ht => (acgt_facts _ (hacgt (j + t) (by omega))).valid⟩

include hk hacgt hdict in
theorem matchedBase_self (j : Nat) (hj : j + k ≤ c.size) :
    matchedBase k rc dict c s (j + halfK k) = some (upperByte (c.getD (j + halfK k) 0)) := by
  have hk2 := validK_eq hk
  have hwin : j ∈ windows k c := (windows_all k c hacgt _).mpr hj
  obtain ⟨row, hrow, hget⟩ := hdict _ hwin
  rw [matchedBase_window rc dict s hwin, hrow]
  simp only
  rw [hget]
  have hmid : midAt k c j = code (c.getD (j + halfK k) 0) := rfl
  have f := acgt_facts _ (hacgt (j + halfK k) (by omega))
  rw [obs_eq]
  by_cases hc : (rc && decide (packL (armsAt k c j) > packL (rcCodes (armsAt k c j)))) = true
  · rw [if_pos hc]
    simp only [hmid]
    rw [f.rev_ne_gap, f.rev]
    rfl
  · rw [if_neg hc]
    simp only [hmid]
    rw [f.fwd_ne_gap, f.fwd]
    rfl

include hk hacgt hlen hdict in
theorem mBase_self (amask : Bool) (p : Nat) (hp : p < c.size) :
    mBase (halfK k) amask c (matchedCentres k rc dict c s) p = upperByte (c.getD p 0) := by
  have hk2 := validK_eq hk
  have hself := matchedBase_self k rc hk dict c s hacgt hdict
  have hfind := find_matchedCentres k rc dict c s p
  unfold mBase
  by_cases hcen : halfK k ≤ p ∧ p + halfK k < c.size
  · -- a centre: found, with the reference base, which is not ambiguous
    obtain ⟨j, rfl⟩ : ∃ j, p = j + halfK k := ⟨_, (Nat.sub_add_cancel hcen.1).symm⟩
    rw [hself j (by omega)] at hfind
    cases hf : (matchedCentres k rc dict c s).find? (·.1 == j + halfK k) with
    | none => rw [hf] at hfind; cases hfind
    | some m =>
      rw [hf] at hfind
      have hm2 : m.2 = upperByte (c.getD (j + halfK k) 0) := Option.some.inj hfind
      simp only
      rw [hm2, (acgt_facts _ (hacgt _ hp)).unambiguous, Bool.and_false]
      rfl
  · -- not a centre: nothing found, but the centre of the first or the last window is within `h`
    have hnone : matchedBase k rc dict c s p = none := by
      cases hmb : matchedBase k rc dict c s p with
      | none => rfl
      | some x => exact absurd (matchedBase_bounds hk hmb) hcen
    rw [hnone, Option.map_eq_none_iff] at hfind
    rw [hfind]
    simp only
    have key : ∀ j, j + k ≤ c.size ∧ p ≤ j + halfK k + halfK k ∧ j ≤ p →
        (matchedCentres k rc dict c s).any (fun m => within (halfK k) p m.1) = true :=
      fun j hj => List.any_eq_true.2 ⟨(j + halfK k, upperByte (c.getD (j + halfK k) 0)),
        (mem_matchedCentres k rc dict c s _).2 (hself j hj.1),
        (within_iff _ _ _).2 ⟨hj.2.1, Nat.add_le_add_right hj.2.2 _⟩⟩
    have hany : (matchedCentres k rc dict c s).any (fun m => within (halfK k) p m.1) = true := by
      by_cases hlow : halfK k ≤ p
      · exact key (c.size - k) (by omega)
      · exact key 0 (by omega)
    rw [hany, if_pos rfl]

end

theorem array_map_eq_range (f : UInt8 → UInt8) (c : Array UInt8) :
    c.toList.map f = (List.range c.size).map (fun p => f (c.getD p 0)) := by
  apply List.ext_getElem
  · simp
  · intro i h1 h2
    have hi : i < c.size := by simpa using h1
    simp [Array.getD_eq_getD_getElem?, hi]

theorem repeatCentres_nil_of_nodup (k : Nat) (rc : Bool) (keys : List Nat) (hnd : keys.Nodup) (c : Array UInt8) :
    repeatCentres k rc keys c = [] := by
  rw [List.eq_nil_iff_forall_not_mem]
  intro p hp
  obtain ⟨j, _, _, h2⟩ := (mem_repeatCentres ..).1 hp
  exact absurd (Nat.le_trans h2 (List.nodup_iff_count.mp hnd _)) (by decide)

/-- All bases in `ACGTacgt`, every contig at least `k` long,
sample `s` holds for every reference key the reference's own middle base in the key's orientation,
and (if the repeat mask is on) no key repeats. Then the mapped sequence is the upper-cased
reference. -/
theorem mapSeq_self (k : Nat) (rc : Bool) (hk : ValidK k) (dict : Nat → Option (List UInt8))
    (ref : List (Array UInt8)) (s : Nat) (amask rmask : Bool)
    (hacgt : ∀ c ∈ ref, ∀ i, i < c.size → IsACGT (c.getD i 0))
    (hlen : ∀ c ∈ ref, k ≤ c.size)
    (hnd : rmask = true → (refKeys k rc ref).Nodup)
    (hdict : ∀ c ∈ ref, ∀ j ∈ windows k c, ∃ row, dict (obs k rc c j).1 = some row ∧
      row.getD s 45 = decodeBase (obs k rc c j).2.1) :
    mapSeq k rc dict ref amask rmask s = ref.flatMap (fun c => c.toList.map upperByte) := by
  unfold mapSeq
  rw [List.flatMap_def, List.flatMap_def]
  refine congrArg List.flatten (List.map_congr_left fun c hc => ?_)
  simp only
  rw [array_map_eq_range]
  apply List.map_congr_left
  intro p hp
  rw [List.mem_range] at hp
  rw [← halfK_eq, mapCharAt_eq, mBase_self k rc hk dict c s (hacgt c hc) (hlen c hc) (hdict c hc) amask p hp]
  cases rmask
  · rfl
  · rw [if_pos rfl, repeatCentres_nil_of_nodup k rc _ (hnd rfl) c]
    simp

end SkaModel.RM
