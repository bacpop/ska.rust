/-
C17 (second sentence) — completeness of `ska lo` with a reference on a planted family.  The reference is any
sequence that forms a planted family together with the samples: every site is placed at its coordinate with the
true column; with the reverse complement of that reference, at the mirrored coordinate with the complemented
column.  The four combinations (reference / its reverse complement, group of the samples' strand / of the other
strand) are instances of `anch_same` and `anch_other`.
-/
import SkaModel.Lemmas.LODFold

namespace SkaModel.LOD

open SkaModel SkaModel.Spec SkaModel.Props.C16 SkaModel.Skalo SkaModel.Props.C17G SkaModel.LOG SkaModel.LOC

theorem complementSnp_base {c : List UInt8} (h : ∀ b ∈ c, isBase b = true) :
    complementSnp c = some (complCol c) := by
  refine (LO.complementSnp_eq_some c _).2 ⟨fun b hb => ?_, rfl⟩
  rcases isBase_cases (h b hb) with e | e | e | e
  · exact Or.inl e
  · exact Or.inr (Or.inl e)
  · exact Or.inr (Or.inr (Or.inl e))
  · exact Or.inr (Or.inr (Or.inr (Or.inl e)))

theorem complCol_base {c : List UInt8} (h : ∀ b ∈ c, isBase b = true) : ∀ b ∈ complCol c, isBase b = true := by
  intro b hb
  obtain ⟨x, hx, rfl⟩ := List.mem_map.mp hb
  exact isBase_compl (h x hx)

section anchor

variable {k L : Nat} {R : List UInt8} {T : List (List UInt8)} {PT : List Nat}

/-- where a site is placed when the reference lies along the samples (the ancestor, say) -/
def plcA (S : List (List UInt8)) (q : Nat) : Nat × List UInt8 := (q, colT S q)

/-- where it is placed when the reference is the reverse complement of such a sequence -/
def plcRc (L : Nat) (S : List (List UInt8)) (q : Nat) : Nat × List UInt8 := (L - 1 - q, complCol (colT S q))

/-- complementing is injective, so the bases that differ at a site differ at the mirrored site -/
theorem siteOK_mirror (pf : PFam k L (R :: T) PT) (hsite : ∀ p ∈ PT, SiteOK k R T p) :
    ∀ p' ∈ mirrorP L PT, SiteOK k (rcSeq R) (rcFam T) p' := by
  intro p' hp'
  obtain ⟨p, hp, rfl⟩ := (mem_mirrorP L PT p').mp hp'
  have hrc : ∀ u ∈ R :: T, (rcSeq u).getD (L - 1 - p) 0 = compl (u.getD p 0) := fun u hu =>
    pf.getD_mirror_site hu hp
  have hne : ∀ u ∈ R :: T, ∀ v ∈ R :: T, u.getD p 0 ≠ v.getD p 0 →
      (rcSeq u).getD (L - 1 - p) 0 ≠ (rcSeq v).getD (L - 1 - p) 0 := fun u hu v hv h e => by
    rw [hrc u hu, hrc v hv] at e
    exact h (compl_inj e)
  have hR : R ∈ R :: T := List.mem_cons_self ..
  have hT : ∀ {u}, u ∈ T → u ∈ R :: T := fun hu => List.mem_cons_of_mem _ hu
  have hm : ∀ {u}, u ∈ T → rcSeq u ∈ rcFam T := fun hu => List.mem_map.mpr ⟨_, hu, rfl⟩
  obtain ⟨⟨s, hs, hsa⟩, hten⟩ := hsite p hp
  refine ⟨⟨rcSeq s, hm hs, by rw [hrc s (hT hs), hrc R hR, hsa]⟩, hten.imp_right ?_⟩
  rintro ⟨s1, hs1, s2, hs2, h12, h10, h20⟩
  exact ⟨rcSeq s1, hm hs1, rcSeq s2, hm hs2, hne _ (hT hs1) _ (hT hs2) h12, hne _ (hT hs1) _ hR h10,
    hne _ (hT hs2) _ hR h20⟩

variable (pf : PFam k L (R :: T) PT) (hk5 : 5 ≤ k) (hk : 2 * (k - 1) ≤ 128) (hLU : L < U32)
  (hsite : ∀ p ∈ PT, SiteOK k R T p)

include pf hk5 hk hLU hsite

theorem anch_same {σ : Nat → Nat} {plc : Nat → Nat × List UInt8} (hplc : ∀ q ∈ PT, plc (σ q) = (q, colT T q)) :
    Anch k L T PT σ (genomicKmers 128 (k - 1) R) plc := by
  intro c0 len vs hg h2 ⟨q0, hq0, h1, h2q⟩
  refine ⟨_, _, scan_same pf hk5 hk hLU hg h2 hq0 h1 h2q (Or.inr (hsite q0 hq0)), fun q hq h3 h4 => ?_⟩
  obtain ⟨d, e, rfl, rfl, hd, _⟩ := GG.split hg hq h3 h4
  have hL := hg.hL
  rw [hplc _ hq]
  refine ⟨?_, rfl⟩
  show (c0 + (k - 1) + (c0 + d - c0 - (k - 1))) % U32 = c0 + d
  rw [Nat.add_sub_cancel_left, Nat.add_assoc, Nat.add_sub_cancel' hd]
  exact Nat.mod_eq_of_lt (by omega)

/-- `T'`, `PT'`: the family and the sites in the coordinates of the other strand -/
theorem anch_other {T' : List (List UInt8)} {PT' : List Nat}
    (hT' : ∀ t' ∈ T', t'.length = L ∧ rcSeq t' ∈ T) (hT : ∀ t ∈ T, rcSeq t ∈ T')
    (hPT' : ∀ q' ∈ PT', L - 1 - q' ∈ PT) {σ : Nat → Nat} {plc : Nat → Nat × List UInt8}
    (hplc : ∀ q' ∈ PT', (plc (σ q')).1 = L - 1 - q' ∧ complementSnp (colT T' q') = some (plc (σ q')).2) :
    Anch k L T' PT' σ (genomicKmers 128 (k - 1) R) plc := by
  intro c0 len vs hg h2 ⟨q0, hq0, h1, h2q⟩
  refine ⟨_, _, scan_other pf hk5 hk hLU hT' hT hg h2 hq0 h1 h2q (hPT' q0 hq0) (Or.inr (hsite _ (hPT' q0 hq0))),
    fun q' hq' h3 h4 => ⟨?_, (hplc q' hq').2⟩⟩
  rw [(hplc q' hq').1]
  obtain ⟨d, e, rfl, rfl, _, he⟩ := GG.split hg hq' h3 h4
  obtain ⟨c, hc, estart, esite, _, _⟩ := mirror_geo hg.hL
  show (L - c0 - (d + 1 + e) + (k - 1) + (d + 1 + e - (c0 + d - c0) - (k - 1) - 1)) % U32 = L - 1 - (c0 + d)
  rw [estart, esite, Nat.add_sub_cancel_left]
  have : c + (k - 1) + (d + 1 + e - d - (k - 1) - 1) = c + e ∧ c + e < U32 := by omega
  rw [this.1]
  exact Nat.mod_eq_of_lt this.2

end anchor

section main

variable {k L : Nat} {A : List UInt8} {S : List (List UInt8)} {P : List Nat}

variable (pfA : PFam k L (A :: S) P) (pf : PFam k L S P) (hk5 : 5 ≤ k) (hk : 2 * (k - 1) ≤ 128) (hLU : L < U32)
  (hsite : ∀ p ∈ P, SiteOK k A S p)

include pfA pf hk5 hk hLU hsite

omit pf in
theorem anchF_A : AnchF k L S P (genomicKmers 128 (k - 1) A) (plcA S) :=
  anch_same pfA hk5 hk hLU hsite (σ := id) fun _ _ => rfl

theorem anchR_A : AnchR k L S P (genomicKmers 128 (k - 1) A) (plcA S) :=
  anch_other pfA hk5 hk hLU hsite (rcFam_closed pf) (fun t ht => List.mem_map.mpr ⟨t, ht, rfl⟩)
    (fun q' hq' => (mirror_site pf hq').1) (σ := fun q' => L - 1 - q') fun q' hq' => ⟨rfl, by
      obtain ⟨hp, hpp⟩ := mirror_site pf hq'
      have hb := colT_base pf (show L - 1 - q' < L by omega)
      show complementSnp (colT (rcFam S) q') = some (colT S (L - 1 - q'))
      rw [colT_mirror pf hpp, complementSnp_base (complCol_base hb), LOC.complCol_complCol]⟩

theorem anchF_Rc : AnchF k L S P (genomicKmers 128 (k - 1) (rcSeq A)) (plcRc L S) :=
  anch_other pfA.mirror hk5 hk hLU (siteOK_mirror pfA hsite) (fun s hs => ⟨pf.len hs, mem_rcFam.mpr ⟨s, hs, rfl⟩⟩)
    (fun t ht => (rcFam_closed pf t ht).2)
    (fun q hq => (mem_mirrorP L P _).mpr ⟨q, hq, rfl⟩) (σ := id) fun q hq =>
      ⟨rfl, complementSnp_base (colT_base pf (pf.site_lt hq))⟩

theorem anchR_Rc : AnchR k L S P (genomicKmers 128 (k - 1) (rcSeq A)) (plcRc L S) :=
  anch_same pfA.mirror hk5 hk hLU (siteOK_mirror pfA hsite) (σ := fun q' => L - 1 - q') fun q' hq' => by
    show (L - 1 - (L - 1 - q'), complCol (colT S (L - 1 - q'))) = (q', colT (rcFam S) q')
    rw [pf.mirror.mirror_mirror hq', colT_mirror pf (mirror_site pf hq').2]

end main

/-- `R` may be the ancestor, or one of the samples -/
theorem loRef_complete {a : Arr} {k L : Nat} {R : List UInt8} {names : List String} {S : List (List UInt8)}
    {P : List Nat} (ha : IsArrOf a k names S) (pf : PFam k L S P) (pfR : PFam k L (R :: S) P) (hk : ValidK k)
    {W : Nat} (hw : WidthOk W k) (hLU : L < U32)
    (hsite : ∀ p ∈ P, SiteOK k R S p) (mNum mDen ik maxDepth : Nat) :
    ∃ placed, loRef W k S.length mNum mDen ik maxDepth a R = some (placed, []) ∧
      placed.Perm (truePlaced S P) := by
  have hk128 : 2 * (k - 1) ≤ 128 := by have := hk.2.1; omega
  exact loRef_of_anch ha pf hk hw mNum mDen ik maxDepth R
    (anchF_A pfR hk.1 hk128 hLU hsite) (anchR_A pfR pf hk.1 hk128 hLU hsite) (fun q _ q2 _ e => e)

theorem loRef_complete_rc {a : Arr} {k L : Nat} {R : List UInt8} {names : List String} {S : List (List UInt8)}
    {P : List Nat} (ha : IsArrOf a k names S) (pf : PFam k L S P) (pfR : PFam k L (R :: S) P) (hk : ValidK k)
    {W : Nat} (hw : WidthOk W k) (hLU : L < U32)
    (hsite : ∀ p ∈ P, SiteOK k R S p) (mNum mDen ik maxDepth : Nat) :
    ∃ placed, loRef W k S.length mNum mDen ik maxDepth a (rcSeq R) = some (placed, []) ∧
      placed.Perm (truePlacedRc L S P) := by
  have hk128 : 2 * (k - 1) ≤ 128 := by have := hk.2.1; omega
  obtain ⟨placed, h1, h2⟩ := loRef_of_anch ha pf hk hw mNum mDen ik maxDepth (rcSeq R)
    (anchF_Rc pfR pf hk.1 hk128 hLU hsite) (anchR_Rc pfR pf hk.1 hk128 hLU hsite) (fun q hq q2 hq2 e => by
      rw [← pf.mirror_mirror hq, ← pf.mirror_mirror hq2]
      exact congrArg (L - 1 - ·) e)
  refine ⟨placed, h1, ?_⟩
  have : P.map (plcRc L S) = truePlacedRc L S P := by
    unfold truePlacedRc
    apply List.map_congr_left
    intro p _
    simp only [plcRc, colT, complCol, List.map_map]
    rfl
  rw [← this]
  exact h2

end SkaModel.LOD
