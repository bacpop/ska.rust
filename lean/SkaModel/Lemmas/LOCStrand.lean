/-
C17 completeness — the graph of a planted family is two strands: every edge joins consecutive `(k-1)`-mers
of a sample of the family or of the reverse-complemented family.  Colours (`colOK_fam`, `colOK_rc`; `T17K_colours`
in `Props/C17Complete` is their conjunction): the colour set of the `k`-window of a sample at `j` is the set of the
samples with the same window at `j`, on both strands.
-/
import SkaModel.Lemmas.LOCPlant

namespace SkaModel.LOC

open SkaModel SkaModel.Spec SkaModel.Props.C16 SkaModel.Skalo SkaModel.Props.C17G

/-- forward edges of a family -/
def FE (k L : Nat) (T : List (List UInt8)) (x y : Nat) : Prop :=
  ∃ t ∈ T, ∃ j, j + k ≤ L ∧ x = fN k t j ∧ y = fN k t (j + 1)

/-- the graph `g` consists of the forward strands of the planted families `T` and `T'`, which share no
`(k-1)`-mer and are each other's reverse complement -/
structure Strand (k L : Nat) (g : Graph) (T : List (List UInt8)) (PT : List Nat)
    (T' : List (List UInt8)) (PT' : List Nat) : Prop where
  k5 : 5 ≤ k
  pf : PFam k L T PT
  pf' : PFam k L T' PT'
  cross : ∀ t ∈ T, ∀ t' ∈ T', ∀ j j', j + (k - 1) ≤ L → j' + (k - 1) ≤ L →
    win t j (k - 1) ≠ win t' j' (k - 1)
  edge : ∀ x y, Edge g x y ↔ FE k L T x y ∨ FE k L T' x y
  nd : ∀ x, (succs g x).Nodup
  lk : ∀ x, Assoc.lookup g x = if succs g x = [] then none else some (succs g x)
  knd : (g.map (·.1)).Nodup
  rcT : ∀ t ∈ T, rcSeq t ∈ T'
  rcT' : ∀ t' ∈ T', rcSeq t' ∈ T
  mirP : ∀ p ∈ PT, L - 1 - p ∈ PT'
  mirP' : ∀ p' ∈ PT', L - 1 - p' ∈ PT

theorem Strand.swap {k L : Nat} {g : Graph} {T T' : List (List UInt8)} {PT PT' : List Nat}
    (st : Strand k L g T PT T' PT') : Strand k L g T' PT' T PT :=
  ⟨st.k5, st.pf', st.pf, fun t' ht' t ht j j' hj hj' e => st.cross t ht t' ht' j' j hj' hj e.symm,
    fun x y => (st.edge x y).trans or_comm, st.nd, st.lk, st.knd, st.rcT', st.rcT, st.mirP', st.mirP⟩

theorem FE_rcFam {k L : Nat} {S : List (List UInt8)} (h : SFam L S) (hk : 1 ≤ k) (x y : Nat) :
    FE k L (rcFam S) x y ↔ ∃ s ∈ S, ∃ j, j + k ≤ L ∧ x = rN k s (j + 1) ∧ y = rN k s j := by
  constructor
  · rintro ⟨s', hs', j', hj', rfl, rfl⟩
    obtain ⟨s, hs, rfl⟩ := mem_rcFam.mp hs'
    obtain ⟨j, hj, hjL⟩ := mirror_idx hj'
    obtain ⟨e1, e2⟩ := rN_edge (h.base s hs) hk ((h.len s hs).trans hj)
    exact ⟨s, hs, j, hjL, e1.symm, e2.symm⟩
  · rintro ⟨s, hs, j, hj, rfl, rfl⟩
    obtain ⟨j', hj'⟩ := Nat.exists_eq_add_of_le hj
    obtain ⟨e1, e2⟩ := rN_edge (h.base s hs) hk (show s.length = j' + k + j by rw [h.len s hs]; omega)
    exact ⟨rcSeq s, mem_rcFam.mpr ⟨s, hs, rfl⟩, j', by omega, e1, e2⟩

theorem strand_of_fam {a : Arr} {k L : Nat} {names : List String} {S : List (List UInt8)} {P : List Nat}
    (ha : IsArrOf a k names S) (h : PFam k L S P) (hk : ValidK k) {W : Nat} (hw : WidthOk W k) :
    Strand k L (buildGraph W a).1 S P (rcFam S) (mirrorP L P) := by
  have hk5 := hk.1
  refine ⟨hk.1, h, h.mirror, fun t ht t' ht' j j' hj hj' => h.cross ht ht' hj hj', ?_,
    succs_nodup W _, lookup_buildGraph W _, LOP.buildGraph_keys_nodup W _,
    fun t ht => mem_rcFam.mpr ⟨t, ht, rfl⟩, fun t' ht' => (rcFam_closed h t' ht').2,
    fun p hp => (mem_mirrorP L P _).mpr ⟨p, hp, rfl⟩, ?_⟩
  · intro x y
    rw [edge_iff_mem_allEdges, mem_allEdges_fam ha h.sf hk hw, FE_rcFam h.sf (by omega)]
    constructor
    · rintro ⟨s, hs, j, hj, hx | hx⟩
      · exact Or.inl ⟨s, hs, j, hj, (Prod.mk.inj hx).1, (Prod.mk.inj hx).2⟩
      · exact Or.inr ⟨s, hs, j, hj, (Prod.mk.inj hx).1, (Prod.mk.inj hx).2⟩
    · rintro (⟨s, hs, j, hj, rfl, rfl⟩ | ⟨s, hs, j, hj, rfl, rfl⟩)
      · exact ⟨s, hs, j, hj, Or.inl rfl⟩
      · exact ⟨s, hs, j, hj, Or.inr rfl⟩
  · intro p' hp'
    obtain ⟨p, hp, rfl⟩ := (mem_mirrorP L P p').mp hp'
    rw [h.mirror_mirror hp]
    exact hp

namespace Strand

variable {k L : Nat} {g : Graph} {T T' : List (List UInt8)} {PT PT' : List Nat}

theorem k1 (st : Strand k L g T PT T' PT') : 1 ≤ k := Nat.le_trans (by decide) st.k5

theorem k2 (st : Strand k L g T PT T' PT') : 2 ≤ k := Nat.le_trans (by decide) st.k5

theorem lookup_some_iff (st : Strand k L g T PT T' PT') (x : Nat) (l : List Nat) :
    Assoc.lookup g x = some l ↔ succs g x = l ∧ l ≠ [] :=
  lookup_some_iff_of_lk st.lk x l

theorem node_level (st : Strand k L g T PT T' PT') {t t' : List UInt8} (ht : t ∈ T) (ht' : t' ∈ T)
    {j j' : Nat} (hj : j + (k - 1) ≤ L) (hj' : j' + (k - 1) ≤ L) (e : fN k t j = fN k t' j') :
    j = j' ∧ win t j (k - 1) = win t' j (k - 1) := by
  have hw := fN_inj (st.pf.base ht) (st.pf.base ht') (st.pf.le_len ht hj) (st.pf.le_len ht' hj') e
  have := (st.pf.uniq t ht t' ht' j j' hj hj').1 hw
  subst this
  exact ⟨rfl, hw⟩

theorem node_cross (st : Strand k L g T PT T' PT') {t t' : List UInt8} (ht : t ∈ T) (ht' : t' ∈ T')
    {j j' : Nat} (hj : j + (k - 1) ≤ L) (hj' : j' + (k - 1) ≤ L) : fN k t j ≠ fN k t' j' := by
  intro e
  exact st.cross t ht t' ht' j j' hj hj' (fN_inj (st.pf.base ht) (st.pf'.base ht')
    (st.pf.le_len ht hj) (st.pf'.le_len ht' hj') e)

theorem mem_succs (st : Strand k L g T PT T' PT') {t : List UInt8} (ht : t ∈ T) {j : Nat}
    (hj : j + (k - 1) ≤ L) (y : Nat) :
    y ∈ succs g (fN k t j) ↔
      j + k ≤ L ∧ ∃ t' ∈ T, win t' j (k - 1) = win t j (k - 1) ∧ y = fN k t' (j + 1) := by
  change Edge g (fN k t j) y ↔ _
  rw [st.edge]
  constructor
  · rintro (⟨t', ht', j', hj', hx, hy⟩ | ⟨t', ht', j', hj', hx, _⟩)
    · obtain ⟨e, hw⟩ := st.node_level ht ht' hj (add_pred_le hj') hx
      subst e
      exact ⟨hj', t', ht', hw.symm, hy⟩
    · exact absurd hx (st.node_cross ht ht' hj (add_pred_le hj'))
  · rintro ⟨hjk, t', ht', hw, rfl⟩
    exact Or.inl ⟨t', ht', j, hjk, (fN_congr hw).symm, rfl⟩

theorem succs_single (st : Strand k L g T PT T' PT') {t : List UInt8} (ht : t ∈ T) {j : Nat}
    (hj : j + k ≤ L) (hno : j + k - 1 ∉ PT) : succs g (fN k t j) = [fN k t (j + 1)] := by
  have hj1 := add_pred_le hj
  have e : j + k - 1 = j + (k - 1) := Nat.add_sub_assoc st.k1 j
  apply LO.eq_singleton (st.nd _)
  · exact (st.mem_succs ht hj1 _).mpr ⟨hj, t, ht, rfl, rfl⟩
  · intro y hy
    obtain ⟨_, t', ht', hw, rfl⟩ := (st.mem_succs ht hj1 y).mp hy
    exact fN_congr (st.pf.win_next ht' ht (add_pred_lt st.k1 hj) (by rw [← e]; exact hno) hw)

theorem mem_succs_site (st : Strand k L g T PT T' PT') {t : List UInt8} (ht : t ∈ T) {p : Nat}
    (hp : p ∈ PT) (y : Nat) :
    y ∈ succs g (fN k t (p - k + 1)) ↔ ∃ t' ∈ T, y = fN k t' (p - k + 2) := by
  have hk5 := st.k5
  obtain ⟨a, rfl, ha, hL⟩ := st.pf.site_add hp
  have h2 : a + 1 + k ≤ L := by omega
  rw [Nat.add_sub_cancel, st.mem_succs ht (add_pred_le h2)]
  constructor
  · rintro ⟨_, t', ht', _, rfl⟩
    exact ⟨t', ht', rfl⟩
  · rintro ⟨t', ht', rfl⟩
    refine ⟨h2, t', ht', ?_, rfl⟩
    -- the `(k-1)`-mer just before `p` holds no site
    apply st.pf.win_agree ht' ht (add_pred_le h2)
    intro q hq hin
    have := st.pf.sep' hp hq
    omega

theorem arm_ne (st : Strand k L g T PT T' PT') {t t' : List UInt8} (ht : t ∈ T) (ht' : t' ∈ T) {p : Nat}
    (hne : t.getD p 0 ≠ t'.getD p 0) {j : Nat} (hjp : j ≤ p) (hpj : p < j + (k - 1))
    (hj : j + (k - 1) ≤ L) : fN k t j ≠ fN k t' j := by
  intro e
  have hw := fN_inj (st.pf.base ht) (st.pf.base ht') (st.pf.le_len ht hj) (st.pf.le_len ht' hj) e
  exact hne (win_getD (st.pf.le_len ht hj) (st.pf.le_len ht' hj) hw hjp hpj)

theorem arms_differ (st : Strand k L g T PT T' PT') {t t' : List UInt8} (ht : t ∈ T) (ht' : t' ∈ T) {p : Nat}
    (hp : p ∈ PT) (hne : t.getD p 0 ≠ t'.getD p 0) : fN k t (p - k + 2) ≠ fN k t' (p - k + 2) :=
  have ⟨h1, h2⟩ := st.pf.arm_mem st.k2 hp
  st.arm_ne ht ht' hne h1 h2 (st.pf.arm_fit st.k2 hp)

theorem succs_site_two (st : Strand k L g T PT T' PT') {t : List UInt8} (ht : t ∈ T) {p : Nat}
    (hp : p ∈ PT) : 2 ≤ (succs g (fN k t (p - k + 1))).length := by
  obtain ⟨s, hs, s', hs', hne⟩ := st.pf.poly p hp
  exact Dedup.two_le_length_of_mem_ne ((st.mem_succs_site ht hp _).mpr ⟨s, hs, rfl⟩)
    ((st.mem_succs_site ht hp _).mpr ⟨s', hs', rfl⟩) (st.arms_differ hs hs' hp hne)

theorem succs_fN (st : Strand k L g T PT T' PT') {t : List UInt8} (ht : t ∈ T) {j : Nat} (hj : j + k ≤ L) :
    (2 ≤ (succs g (fN k t j)).length ↔ j + k - 1 ∈ PT) ∧
    (j + k - 1 ∉ PT → succs g (fN k t j) = [fN k t (j + 1)]) := by
  refine ⟨⟨fun h2 => ?_, fun hp => ?_⟩, st.succs_single ht hj⟩
  · apply Classical.byContradiction
    intro hno
    rw [st.succs_single ht hj hno] at h2
    exact Nat.not_succ_le_self 1 h2
  · have := st.succs_site_two ht hp
    rwa [st.pf.entry_at st.k1 hp] at this

theorem pred_level (st : Strand k L g T PT T' PT') {t : List UInt8} (ht : t ∈ T) {j : Nat}
    (hj : j + (k - 1) ≤ L) {x : Nat} (hx : Edge g x (fN k t j)) :
    ∃ t' ∈ T, ∃ i, j = i + 1 ∧ x = fN k t' i ∧ win t' j (k - 1) = win t j (k - 1) := by
  rw [st.edge] at hx
  rcases hx with ⟨t', ht', j', hj', rfl, hy⟩ | ⟨t', ht', j', hj', _, hy⟩
  · obtain ⟨e, hw⟩ := st.node_level ht ht' hj (succ_add_pred_le st.k1 hj') hy
    exact ⟨t', ht', j', e, rfl, hw.symm⟩
  · exact absurd hy (st.node_cross ht ht' hj (succ_add_pred_le st.k1 hj'))

theorem pred_unique (st : Strand k L g T PT T' PT') {t : List UInt8} (ht : t ∈ T) {j : Nat}
    (hj : j + k ≤ L) (hno : j ∉ PT) {x : Nat} (hx : Edge g x (fN k t (j + 1))) : x = fN k t j := by
  obtain ⟨t', ht', i, e, rfl, hw⟩ := st.pred_level ht (succ_add_pred_le st.k1 hj) hx
  obtain rfl := Nat.succ.inj e
  exact fN_congr (st.pf.win_prev ht' ht (add_pred_lt st.k1 hj) hno hw)

end Strand

/-- a reverse node is a forward node of the other strand, at the mirrored coordinate -/
theorem succs_rvN {a : Arr} {k L : Nat} {names : List String} {S : List (List UInt8)} {P : List Nat}
    (ha : IsArrOf a k names S) (pf : PFam k L S P) (hk : ValidK k) {W : Nat} (hw : WidthOk W k)
    {s : List UInt8} (hs : s ∈ S) {j : Nat} (h1 : 1 ≤ j) (hj : j + (k - 1) ≤ L) :
    (2 ≤ (succs (buildGraph W a).1 (rvN W k s j)).length ↔ j - 1 ∈ P) ∧
    (j - 1 ∉ P → succs (buildGraph W a).1 (rvN W k s j) = [rvN W k s (j - 1)]) := by
  have hkW := (validK_bounds hk hw).2.2
  have hk5 := hk.1
  obtain ⟨i, rfl⟩ := Nat.exists_eq_add_of_le' h1
  obtain ⟨j', hj'⟩ : ∃ j', L = j' + k + i := ⟨L - k - i, by omega⟩
  obtain ⟨e1, e2⟩ := rN_edge (pf.base hs) (Nat.le_trans (by decide) hk5) ((pf.len hs).trans hj')
  rw [Nat.add_sub_cancel, rvN_eq hkW (pf.base hs), rvN_eq hkW (pf.base hs), e1, e2,
    ← pf.mem_mirrorP (p := i) (p' := j' + k - 1) (by omega)]
  exact (strand_of_fam ha pf hk hw).swap.succs_fN (mem_rcFam.mpr ⟨s, hs, rfl⟩) (hj' ▸ Nat.le_add_right _ _)

/-- the colour map of `build_graph` lists, for every `k`-window of the family `T`, the indices of the samples
with the same window at the same coordinate -/
def ColOK (k L : Nat) (col : Colours) (T : List (List UInt8)) : Prop :=
  ∀ t ∈ T, ∀ j, j + k ≤ L → ∃ Cs : List Nat,
    Assoc.lookup col (packL (cds (win t j k))) = some Cs ∧ Cs.Pairwise (· < ·) ∧
    ∀ i, i ∈ Cs ↔ ∃ t', T[i]? = some t' ∧ win t' j k = win t j k

theorem kmer_eq_iff {k L : Nat} {S : List (List UInt8)} {P : List Nat} (h : PFam k L S P)
    (hk5 : 5 ≤ k) {s t : List UInt8} (hs : s ∈ S) (ht : t ∈ S) {j : Nat} (hj : j + k ≤ L) :
    (∃ j', j' + k ≤ L ∧ (cds (win s j' k) = cds (win t j k) ∨ cds (win s j' k) = rcCodes (cds (win t j k)))) ↔
      win s j k = win t j k := by
  constructor
  · rintro ⟨j', hj', hc | hc⟩
    · have hw := cds_inj ((h.base hs).win _ _) ((h.base ht).win _ _) hc
      obtain rfl := (h.uniq_k (Nat.le_trans (by decide) hk5) hs ht hj' hj).1 hw
      exact hw
    · rw [← cds_rcSeq ((h.base ht).win _ _)] at hc
      exact absurd (cds_inj ((h.base hs).win _ _) ((h.base ht).win _ _).rcSeq hc)
        (h.uniq_k (Nat.le_trans (by decide) hk5) hs ht hj' hj).2
  · intro e
    exact ⟨j, hj, Or.inl (by rw [e])⟩

theorem colOK_fam {a : Arr} {k L : Nat} {names : List String} {S : List (List UInt8)} {P : List Nat}
    (ha : IsArrOf a k names S) (h : PFam k L S P) (hk : ValidK k) {W : Nat} (hw : WidthOk W k) :
    ColOK k L (buildGraph W a).2 S := by
  intro t ht j hj
  obtain ⟨Cs, h1, h3, h4⟩ := colour_fam ha h.sf hk hw t ht j hj _ (Or.inl rfl)
  refine ⟨Cs, h1, h3, fun i => (h4 i).trans ?_⟩
  exact exists_congr fun t' => and_congr_right fun ht' => kmer_eq_iff h hk.1 (List.mem_of_getElem? ht') ht hj

theorem colOK_rc {a : Arr} {k L : Nat} {names : List String} {S : List (List UInt8)} {P : List Nat}
    (ha : IsArrOf a k names S) (h : PFam k L S P) (hk : ValidK k) {W : Nat} (hw : WidthOk W k) :
    ColOK k L (buildGraph W a).2 (rcFam S) := by
  intro t' ht' j hj
  obtain ⟨t, ht, rfl⟩ := mem_rcFam.mp ht'
  obtain ⟨i, hi, hik⟩ := mirror_idx hj
  have hmir : ∀ {s : List UInt8}, s ∈ S → win (rcSeq s) j k = rcSeq (win s i k) :=
    fun hs => rcSeq_win_add ((h.len hs).trans hi)
  obtain ⟨Cs, h2, h3, h4⟩ := colour_fam ha h.sf hk hw t ht i hik _ (Or.inr rfl)
  refine ⟨Cs, ?_, h3, fun n => ?_⟩
  · rw [hmir ht, cds_rcSeq ((h.base ht).win _ _)]
    exact h2
  · rw [h4]
    constructor
    · rintro ⟨s, hs, hex⟩
      have hsm := List.mem_of_getElem? hs
      refine ⟨rcSeq s, getElem?_rcFam.mpr ⟨s, hs, rfl⟩, ?_⟩
      rw [hmir hsm, hmir ht, (kmer_eq_iff h hk.1 hsm ht hik).mp hex]
    · rintro ⟨s', hs', hex⟩
      obtain ⟨s, hs, rfl⟩ := getElem?_rcFam.mp hs'
      have hsm := List.mem_of_getElem? hs
      rw [hmir hsm, hmir ht] at hex
      exact ⟨s, hs, (kmer_eq_iff h hk.1 hsm ht hik).mpr
        (rcSeq_inj ((h.base hsm).win _ _) ((h.base ht).win _ _) hex)⟩

end SkaModel.LOC
