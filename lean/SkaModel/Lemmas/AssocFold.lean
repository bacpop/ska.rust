/-
Lookups into a fold of `Assoc.upsert` over entries whose keys may repeat (`build_graph`, `genomic_kmers` and
the grouping of paths by exit all are such folds; `foldUpsert` with distinct keys is the special case).
Seen from one key `k` the table disappears: only the entries with key `k` matter, and what they do is a fold
over an `Option ν` (`lookup_foldl_upsert`).  `insert` of a value that the key determines (the segments of `compact_graph`)
needs no such fold (`lookup_foldl_insert`).  Two shapes of `entry(..)` occur in the Rust: `or_insert` (the
first entry wins, `foldl_hit_keep`) and `or_default()` followed by a modification (`foldl_hit_default`),
which leaves a fold over plain values (`foldl_pushOnce` for `build_graph`'s edges, `foldl_pushUpTo` for the positions
of `genomic_kmers`).
-/
import SkaModel.Lemmas.Assoc

namespace SkaModel.Assoc

variable {κ ν β α : Type} [BEq κ]

theorem lookup_eq_find (d : Assoc κ ν) (k : κ) :
    lookup d k = (d.find? (fun e => e.1 == k)).map (·.2) := by
  induction d with
  | nil => rfl
  | cons p rest ih =>
    rw [lookup_cons, List.find?_cons]
    by_cases h : (p.1 == k) = true
    · rw [if_pos h, h]; rfl
    · rw [if_neg h, Bool.eq_false_iff.2 h]; exact ih

variable [LawfulBEq κ]

theorem lookup_eq_some_split (l : Assoc κ ν) (f : κ) (v : ν) :
    lookup l f = some v ↔ ∃ l1 l2, l = l1 ++ (f, v) :: l2 ∧ ∀ e ∈ l1, e.1 ≠ f := by
  rw [lookup_eq_find, Option.map_eq_some_iff]
  constructor
  · rintro ⟨⟨k', v'⟩, h, rfl⟩
    obtain ⟨hp, as, bs, e, hne⟩ := List.find?_eq_some_iff_append.1 h
    obtain rfl : k' = f := eq_of_beq hp
    exact ⟨as, bs, e, fun x hx hf => by have := hne x hx; rw [hf, beq_self_eq_true] at this; cases this⟩
  · rintro ⟨l1, l2, rfl, hn⟩
    exact ⟨(f, v), List.find?_eq_some_iff_append.2 ⟨beq_self_eq_true f, l1, l2, rfl,
      fun a ha => by rw [Bool.not_eq_true', beq_eq_false_iff_ne]; exact hn a ha⟩, rfl⟩

/-- what entering `e` does to the value at its own key (`none`: the key is absent).  The `match` is kept out
of the statements below: written there it would be a different matcher in every theorem, and instances
would not unify. -/
def hit (ins : β → ν) (mod : β → ν → ν) (o : Option ν) (e : β) : Option ν :=
  some (match o with | none => ins e | some v => mod e v)

abbrev entriesAt (key : β → κ) (xs : List β) (k : κ) : List β := xs.filter (fun e => key e == k)

theorem entriesAt_eq_nil (key : β → κ) (xs : List β) (k : κ) : entriesAt key xs k = [] ↔ ∀ e ∈ xs, key e ≠ k :=
  List.filter_eq_nil_iff.trans (forall₂_congr fun _ _ => not_congr beq_iff_eq)

theorem lookup_foldl_upsert (key : β → κ) (ins : β → ν) (mod : β → ν → ν) (xs : List β) :
    ∀ (d : Assoc κ ν) (k : κ),
      lookup (xs.foldl (fun c e => upsert c (key e) (ins e) (mod e)) d) k =
        (entriesAt key xs k).foldl (hit ins mod) (lookup d k) := by
  induction xs with
  | nil => intro d k; rfl
  | cons e xs ih =>
    intro d k
    rw [List.foldl_cons, ih, lookup_upsert]
    unfold entriesAt
    rw [List.filter_cons]
    by_cases hk : (key e == k) = true
    · rw [if_pos hk, if_pos hk, List.foldl_cons, ← eq_of_beq hk]; rfl
    · rw [if_neg hk, if_neg hk]

theorem lookup_foldl_insert (v : κ → ν) (xs : List κ) (k : κ) : ∀ d : Assoc κ ν,
    lookup (xs.foldl (fun c e => upsert c e (v e) (fun _ => v e)) d) k =
      if k ∈ xs then some (v k) else lookup d k := by
  induction xs with
  | nil => intro d; rfl
  | cons e xs ih =>
    intro d
    rw [List.foldl_cons, ih, lookup_upsert]
    by_cases hk : k ∈ xs
    · rw [if_pos hk, if_pos (List.mem_cons_of_mem e hk)]
    · rw [if_neg hk]
      by_cases he : e = k
      · subst he
        rw [if_pos (beq_self_eq_true e), if_pos List.mem_cons_self]
        cases lookup d e <;> rfl
      · rw [if_neg (fun h => he (eq_of_beq h)),
          if_neg (fun h => (List.mem_cons.1 h).elim (fun h => he h.symm) hk)]

theorem foldl_hit_keep (ins : β → ν) (l : List β) (o : Option ν) :
    l.foldl (hit ins (fun _ v => v)) o = o.or (l.head?.map ins) := by
  have hs : ∀ (l : List β) (v : ν), l.foldl (hit ins (fun _ v => v)) (some v) = some v := by
    intro l v
    induction l with
    | nil => rfl
    | cons e l ih => exact ih
  cases l with
  | nil => cases o <;> rfl
  | cons e l => cases o <;> exact hs l _

/-- `or_default()`, then modify: inserting is modifying the default `dflt` (`h`) -/
theorem foldl_hit_default (dflt : ν) (ins : β → ν) (mod : β → ν → ν) (h : ∀ e, ins e = mod e dflt)
    (l : List β) (o : Option ν) :
    l.foldl (hit ins mod) o =
      if l = [] then o else some (l.foldl (fun s e => mod e s) (o.getD dflt)) := by
  have hs : ∀ (l : List β) (s : ν),
      l.foldl (hit ins mod) (some s) = some (l.foldl (fun s e => mod e s) s) := by
    intro l
    induction l with
    | nil => intro s; rfl
    | cons e l ih => intro s; exact ih _
  cases l with
  | nil => rfl
  | cons e l =>
    rw [if_neg (List.cons_ne_nil e l)]
    cases o with
    | none => exact (hs l _).trans (by rw [h e]; rfl)
    | some s => exact hs l _

theorem foldl_push (v : β → α) (l : List β) : ∀ s : List α, l.foldl (fun s e => s ++ [v e]) s = s ++ l.map v := by
  induction l with
  | nil => intro s; exact (List.append_nil s).symm
  | cons e l ih => intro s; rw [List.foldl_cons, ih, List.append_assoc]; rfl

theorem foldl_pushUpTo (m : Nat) (v : β → α) (l : List β) : ∀ s : List α, s.length ≤ m →
    l.foldl (fun s e => if s.length < m then s ++ [v e] else s) s = (s ++ l.map v).take m := by
  induction l with
  | nil =>
    intro s hs
    rw [List.map_nil, List.append_nil, List.take_of_length_le hs]
    rfl
  | cons e l ih =>
    intro s hs
    rw [List.foldl_cons]
    by_cases h : s.length < m
    · rw [if_pos h, ih _ (by rw [List.length_append]; exact h), List.append_assoc]
      rfl
    · rw [if_neg h, ih s hs, List.take_append_of_le_length (Nat.not_lt.1 h),
        List.take_append_of_le_length (Nat.not_lt.1 h)]

theorem foldl_pushOnce_eq [BEq α] [LawfulBEq α] (v : β → α) (l : List β) (s : List α) :
    l.foldl (fun s e => if s.contains (v e) then s else s ++ [v e]) s
      = s ++ ((l.map v).filter (fun x => !s.contains x)).eraseDups := by
  induction l generalizing s with
  | nil => simp
  | cons o os ih =>
    rw [List.foldl_cons, List.map_cons, List.filter_cons]
    by_cases hc : s.contains (v o) = true
    · rw [if_pos hc, ih, if_neg (by rw [hc]; decide)]
    · rw [if_neg hc, ih, if_pos (by simpa using hc), List.eraseDups_cons, List.filter_filter,
        List.append_assoc, List.singleton_append]
      congr 3
      apply List.filter_congr
      intro x _
      simp only [List.contains_append, List.contains_cons, List.contains_nil, Bool.or_false, Bool.not_or,
        Bool.and_comm]

theorem foldl_pushOnce [BEq α] [LawfulBEq α] (v : β → α) (l : List β) : ∀ s : List α, s.Nodup →
    (l.foldl (fun s e => if s.contains (v e) then s else s ++ [v e]) s).Nodup ∧
    ∀ y, y ∈ l.foldl (fun s e => if s.contains (v e) then s else s ++ [v e]) s ↔ y ∈ s ∨ y ∈ l.map v := by
  intro s hs
  rw [foldl_pushOnce_eq]
  refine ⟨List.nodup_append.2 ⟨hs, Dedup.eraseDups_nodup _, fun a ha b hb e => ?_⟩, fun y => ?_⟩
  · subst e
    have := (List.mem_filter.1 (List.mem_eraseDups.1 hb)).2
    simp [ha] at this
  · rw [List.mem_append, List.mem_eraseDups, List.mem_filter]
    by_cases hy : y ∈ s <;> simp [hy]

end SkaModel.Assoc
