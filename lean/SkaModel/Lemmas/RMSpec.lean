/-
Facts about the mapping specification (`Spec/MapSpec`): centres and windows, `matchedBase` and the
matched centres of a contig, repeat centres, and `mapCharAt` as a base character followed by
repeat masking.
-/
import SkaModel.Lemmas.RMKmers

namespace SkaModel.RM

open SkaModel SkaModel.Spec SkaModel.Props.C16

theorem obs_eq (k : Nat) (rc : Bool) (c : Array UInt8) (j : Nat) :
    obs k rc c j =
      if (rc && decide (packL (armsAt k c j) > packL (rcCodes (armsAt k c j)))) = true
      then (packL (rcCodes (armsAt k c j)), midAt k c j ^^^ 2, true)
      else (packL (armsAt k c j), midAt k c j, false) := rfl

theorem halfK_eq (k : Nat) : halfK k = (k - 1) / 2 := rfl

/-- a centre lies `halfK k` beyond the start of a window; here the `p - (k - 1) / 2` of the
specification is read as that start -/
theorem isCentre_iff (k : Nat) (c : Array UInt8) (p : Nat) :
    isCentre k c p = true ↔ ∃ j ∈ windows k c, p = j + halfK k := by
  unfold isCentre windows windowsBy
  simp only [Bool.and_eq_true, decide_eq_true_eq, List.mem_filter, List.mem_range, halfK_eq]
  constructor
  · rintro ⟨h1, h2⟩
    refine ⟨_, ⟨?_, h2⟩, (Nat.sub_add_cancel h1).symm⟩
    unfold validStart at h2
    simp only [Bool.and_eq_true, decide_eq_true_eq] at h2
    omega
  · rintro ⟨j, ⟨_, h2⟩, rfl⟩
    exact ⟨Nat.le_add_left _ _, by rw [Nat.add_sub_cancel]; exact h2⟩

theorem isCentre_of_window {k : Nat} {c : Array UInt8} {j : Nat} (hj : j ∈ windows k c) :
    isCentre k c (j + halfK k) = true :=
  (isCentre_iff k c _).2 ⟨j, hj, rfl⟩

theorem matchedBase_window {k : Nat} (rc : Bool) (dict : Nat → Option (List UInt8)) {c : Array UInt8}
    (s : Nat) {j : Nat} (hj : j ∈ windows k c) :
    matchedBase k rc dict c s (j + halfK k) =
      match dict (obs k rc c j).1 with
      | some row =>
        if (row.getD s 45 == 45) = true then none
        else some (if (obs k rc c j).2.2 = true then rcIupacAt (row.getD s 45) else row.getD s 45)
      | none => none := by
  unfold matchedBase
  rw [isCentre_of_window hj, if_pos rfl, ← halfK_eq, Nat.add_sub_cancel]
  rfl

theorem mem_centres (k : Nat) (c : Array UInt8) (p : Nat) :
    p ∈ centres k c ↔ isCentre k c p = true := by
  rw [isCentre_iff, centres, List.mem_map]
  exact exists_congr fun j => and_congr_right fun _ => eq_comm

theorem matchedBase_isCentre {k : Nat} {rc : Bool} {dict : Nat → Option (List UInt8)}
    {c : Array UInt8} {s p : Nat} {x : UInt8} (h : matchedBase k rc dict c s p = some x) :
    isCentre k c p = true := by
  unfold matchedBase at h
  cases hc : isCentre k c p
  · rw [hc] at h; simp at h
  · rfl

theorem mem_matchedCentres (k : Nat) (rc : Bool) (dict : Nat → Option (List UInt8))
    (c : Array UInt8) (s : Nat) (m : Nat × UInt8) :
    m ∈ matchedCentres k rc dict c s ↔ matchedBase k rc dict c s m.1 = some m.2 := by
  unfold matchedCentres
  rw [List.mem_filterMap]
  constructor
  · rintro ⟨p, _, hp⟩
    rw [Option.map_eq_some_iff] at hp
    obtain ⟨x, hx, rfl⟩ := hp
    exact hx
  · intro h
    refine ⟨m.1, (mem_centres k c m.1).mpr (matchedBase_isCentre h), ?_⟩
    rw [h]; rfl

theorem find_matchedCentres (k : Nat) (rc : Bool) (dict : Nat → Option (List UInt8))
    (c : Array UInt8) (s p : Nat) :
    ((matchedCentres k rc dict c s).find? (·.1 == p)).map (·.2) = matchedBase k rc dict c s p := by
  apply find_map_eq
  · intro m hm hP
    rw [mem_matchedCentres] at hm
    rw [← beq_iff_eq.1 hP, hm]
  · intro b hb
    exact ⟨(p, b), (mem_matchedCentres k rc dict c s (p, b)).2 hb, beq_self_eq_true p⟩

theorem matchedBase_bounds {k : Nat} (hk : ValidK k) {rc : Bool} {dict : Nat → Option (List UInt8)}
    {c : Array UInt8} {s p : Nat} {x : UInt8} (h : matchedBase k rc dict c s p = some x) :
    halfK k ≤ p ∧ p + halfK k < c.size := by
  obtain ⟨j, hj, rfl⟩ := (isCentre_iff k c p).1 (matchedBase_isCentre h)
  exact window_centre hk hj

theorem within_iff (h p q : Nat) : within h p q = true ↔ p ≤ q + h ∧ q ≤ p + h := by
  unfold within
  rw [Bool.and_eq_true, decide_eq_true_eq, decide_eq_true_eq]

theorem mem_repeatCentres (k : Nat) (rc : Bool) (keys : List Nat) (c : Array UInt8) (p : Nat) :
    p ∈ repeatCentres k rc keys c ↔
      ∃ j ∈ windows k c, p = j + halfK k ∧ 2 ≤ keys.count (obs k rc c j).1 := by
  unfold repeatCentres
  rw [List.mem_filter, mem_centres, isCentre_iff, decide_eq_true_eq, ← List.count_eq_length_filter,
    ← halfK_eq]
  constructor
  · rintro ⟨⟨j, hj, rfl⟩, h2⟩
    exact ⟨j, hj, rfl, by rw [Nat.add_sub_cancel] at h2; exact h2⟩
  · rintro ⟨j, hj, rfl, h2⟩
    exact ⟨⟨j, hj, rfl⟩, by rw [Nat.add_sub_cancel]; exact h2⟩

theorem repeatCentre_range (k : Nat) (rc : Bool) (hk : ValidK k) (keys : List Nat) (c : Array UInt8) (p : Nat)
    (hp : p ∈ repeatCentres k rc keys c) : halfK k ≤ p ∧ p + halfK k < c.size := by
  obtain ⟨j, hj, rfl, _⟩ := (mem_repeatCentres k rc keys c p).1 hp
  exact window_centre hk hj

/-- the character `mapCharAt` gives before repeat masking -/
def mBase (h : Nat) (ambigMask : Bool) (contig : Array UInt8) (matched : List (Nat × UInt8)) (p : Nat) : UInt8 :=
  match matched.find? (·.1 == p) with
  | some m => if ambigMask && isAmbiguous m.2 then 78 else m.2
  | none => if matched.any (fun m => within h p m.1) then upperByte (contig.getD p 0) else 45

theorem mapCharAt_eq (h : Nat) (ambigMask repeatMask : Bool) (contig : Array UInt8)
    (matched : List (Nat × UInt8)) (reps : List Nat) (p : Nat) :
    mapCharAt h ambigMask repeatMask contig matched reps p =
      if repeatMask && mBase h ambigMask contig matched p != 45 && reps.any (within h p) then 78
      else mBase h ambigMask contig matched p := rfl

end SkaModel.RM
