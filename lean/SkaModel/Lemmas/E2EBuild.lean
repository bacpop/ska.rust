/-
For the end-to-end theorems (`Props/EndToEnd.lean`): the dictionary `buildDict` returns
as a lookup function of `maskFor`.
-/
import SkaModel.Props.C01Dict
import SkaModel.Impl.Modes

namespace SkaModel.E2E

open SkaModel SkaModel.Spec SkaModel.Props.C16

/-- the lookup function a sample's dictionary must have -/
def dictLookup (k : Nat) (rc : Bool) (recs : List (Array UInt8)) (key : Nat) : Option UInt8 :=
  if maskFor k rc recs key = 0 then none else some (letterOfMask (maskFor k rc recs key))

theorem buildDict_lookup (W k : Nat) (rc : Bool) (hk : ValidK k) (hw : WidthOk W k)
    (recs : List (Array UInt8)) (d : List (Nat × UInt8)) (hb : buildDict W k rc recs = .dict d) :
    (Assoc.keys d).Nodup ∧ d ≠ [] ∧ ∀ key, Assoc.lookup d key = dictLookup k rc recs key := by
  obtain ⟨d0, hd0, hnd, hl⟩ := Props.C01.T01_dict_lookup W k rc hk hw recs
  unfold buildDict at hb
  rw [hd0] at hb
  cases d0 with
  | nil => cases hb
  | cons p rest =>
    simp only [BuildResult.dict.injEq] at hb
    subst hb
    refine ⟨keys_sortByKey_nodup _ hnd, ?_, ?_⟩
    · intro h
      have := (sortByKey_eq_nil_iff _ _).1 h
      cases this
    · intro key
      rw [Assoc.lookup_eq_of_perm (perm_sortByKey _ _) (keys_sortByKey_nodup _ hnd), hl key]
      rfl

theorem buildDict_ok (W k : Nat) (rc : Bool) (hk : ValidK k) (hw : WidthOk W k)
    (recs : List (Array UInt8)) (hne : observations k rc recs ≠ []) :
    buildDict W k rc recs = .dict (specDict k rc recs) := by
  rw [Props.C01.T01_build_eq_spec W k rc hk hw, if_neg hne]

theorem specDict_congr (k : Nat) (rc : Bool) (recs recs' : List (Array UInt8))
    (h : ∀ key, maskFor k rc recs' key = maskFor k rc recs key) :
    specDict k rc recs' = specDict k rc recs := by
  have hnd := fun r => letterList_keys_nodup (observations k rc r)
  show sortByKey (·.1) (letterList (observations k rc recs')) = sortByKey (·.1) (letterList (observations k rc recs))
  apply sortByKey_perm _ _ (hnd recs')
  rw [List.perm_ext_iff_of_nodup (nodup_of_map _ (hnd recs')) (nodup_of_map _ (hnd recs))]
  rintro ⟨key, b⟩
  rw [mem_letterList (Props.C01.observations_mask_ne_zero k rc recs'),
    mem_letterList (Props.C01.observations_mask_ne_zero k rc recs),
    show maskOf (observations k rc recs') key = maskOf (observations k rc recs) key from h key]

end SkaModel.E2E
