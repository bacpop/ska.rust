/-
`ska lo`: the edges of `build_graph` join overlapping (k-1)-mers.
-/
import SkaModel.Lemmas.LOCFold
import SkaModel.Lemmas.LOPathSpell

namespace SkaModel.LOG

open SkaModel SkaModel.Skalo SkaModel.Spec SkaModel.Props.C16 SkaModel.Props.C17G

theorem overlap_take_drop (n : Nat) (F : List Nat) (hF : Codes F) (hlen : F.length = n + 1) :
    packL (F.take n) < 4 ^ n ∧ packL (F.drop 1) < 4 ^ n ∧
      Overlap n (packL (F.take n)) (packL (F.drop 1)) := by
  refine ⟨packL_lt_of_length (hF.take n) (by rw [List.length_take, hlen]; exact Nat.min_eq_left (Nat.le_succ n)),
    packL_lt_of_length (hF.drop 1) (by rw [List.length_drop, hlen]; rfl), ?_⟩
  unfold Overlap
  cases n with
  | zero =>
    obtain ⟨c, rfl⟩ := List.length_eq_one_iff.1 hlen
    show packL [] / 4 = packL [] % _
    rw [packL_nil, Nat.zero_div, Nat.zero_mod]
  | succ m =>
    -- `F = c :: M ++ [d]`, and both sides are `packL M`
    obtain ⟨c, G, rfl⟩ := List.exists_cons_of_length_eq_add_one hlen
    have hG : G.length = m + 1 := Nat.succ.inj hlen
    rcases List.eq_nil_or_concat G with rfl | ⟨M, d, rfl⟩
    · cases hG
    rw [List.concat_eq_append] at hF hG ⊢
    have hM : M.length = m := by simpa using hG
    rw [List.take_succ_cons, List.take_left' hM, List.drop_one, List.tail_cons, Nat.add_sub_cancel]
    rw [packL_snoc, Nat.mul_add_div (by decide), Nat.div_eq_of_lt hF.tail.right.head, Nat.add_zero]
    rw [packL_cons, hM, Nat.mul_comm, Nat.mul_add_mod, Nat.mod_eq_of_lt (packL_lt_of_length hF.tail.left hM)]

theorem kGraph_bounds {W k : Nat} (hk : ValidK k) (hw : WidthOk W k) :
    1 ≤ k - 1 ∧ 2 * (k - 1 + 1) ≤ W ∧ k - 1 + 1 = k := by
  have h1 : k - 1 + 1 = k := Nat.sub_add_cancel (Nat.le_trans (by decide) hk.1)
  exact ⟨Nat.le_sub_of_add_le (Nat.le_trans (by decide) hk.1), by rw [h1]; exact (validK_bounds hk hw).2.2, h1⟩

theorem sub_one_eq_add_self {h k : Nat} (hk : k = 2 * h + 1) : k - 1 = h + h := by
  rw [hk, Nat.add_sub_cancel, Nat.two_mul]

theorem key_arms (k key : Nat) (hkh : k = 2 * halfK k + 1) (hkey : key < 4 ^ (k - 1)) :
    ∃ u l, key = packL (u ++ l) ∧ u.length = halfK k ∧ l.length = halfK k ∧ Codes u ∧ Codes l := by
  have e := sub_one_eq_add_self hkh
  refine ⟨(digs (k - 1) key).take (halfK k), (digs (k - 1) key).drop (halfK k), ?_, ?_, ?_,
    (digs_codes _ _).take _, (digs_codes _ _).drop _⟩
  · rw [List.take_append_drop, packL_digs, Nat.mod_eq_of_lt hkey]
  · rw [List.length_take, digs_length, e, Nat.min_eq_left (Nat.le_add_right _ _)]
  · rw [List.length_drop, digs_length, e, Nat.add_sub_cancel]

structure RowBase (a : Arr) (kv : Nat × List UInt8) (u l : List Nat) (n : UInt8) : Prop where
  row : kv ∈ a.kmers.zip a.variants
  key : kv.1 = packL (u ++ l)
  lenU : u.length = halfK a.k
  lenL : l.length = halfK a.k
  codesU : Codes u
  codesL : Codes l
  shown : n ∈ shownBases kv.2

/-- every edge of the graph of a table joins the prefix and the suffix node of a word `F` of `k`
codes: the k-mer `u n l` of a row and a base shown in it, or its reverse complement -/
theorem buildGraph_edge_word (W : Nat) (a : Arr) (hk : ValidK a.k) (hw : WidthOk W a.k)
    (hkeys : ∀ key ∈ a.kmers, key < 4 ^ (a.k - 1)) (x y : Nat) (h : Edge (buildGraph W a).1 x y) :
    ∃ kv u l n, RowBase a kv u l n ∧ ∃ F,
      (F = u ++ [code n] ++ l ∨ F = rcCodes (u ++ [code n] ++ l)) ∧ Codes F ∧
      F.length = a.k - 1 + 1 ∧ x = packL (F.take (a.k - 1)) ∧ y = packL (F.drop 1) := by
  obtain ⟨hh2, hkh, hkW⟩ := validK_bounds hk hw
  obtain ⟨kv, hkv, hmem⟩ := List.mem_flatMap.mp ((LOC.edge_iff_mem_allEdges W a x y).1 h)
  obtain ⟨u, l, e, hu, hl, hcu, hcl⟩ := key_arms a.k kv.1 hkh (hkeys kv.1 (List.of_mem_zip hkv).1)
  rw [e, mem_rowGraph_edges W a.k hk hw u l hu hl hcu hcl] at hmem
  obtain ⟨n, hn, hxy⟩ := hmem
  have hF : Codes (u ++ [code n] ++ l) :=
    Codes.append (Codes.append hcu (Codes.cons (code_lt n) Codes.nil)) hcl
  have hlen : (u ++ [code n] ++ l).length = (a.k - 1) + 1 := by
    rw [List.length_append, List.length_append, hu, hl, List.length_singleton, sub_one_eq_add_self hkh,
      Nat.add_right_comm]
  refine ⟨kv, u, l, n, ⟨hkv, e, hu, hl, hcu, hcl, hn⟩, ?_⟩
  rcases hxy with hxy | hxy
  · exact ⟨_, Or.inl rfl, hF, hlen, (Prod.mk.inj hxy).1, (Prod.mk.inj hxy).2⟩
  · obtain ⟨r1, r2⟩ := rcCodes_drop_one_take (u ++ [code n] ++ l) (a.k - 1) hlen
    exact ⟨_, Or.inr rfl, rcCodes_codes hF, by rw [rcCodes_length]; exact hlen,
      (Prod.mk.inj hxy).1.trans (by rw [r1]), (Prod.mk.inj hxy).2.trans (by rw [r2])⟩

end SkaModel.LOG
