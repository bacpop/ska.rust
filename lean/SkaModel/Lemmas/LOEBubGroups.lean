/-
C18 completeness — the variant groups on a graph of bubbles.  The path enumeration from the entry node of a bubble:
along each arm exactly one path to the bubble's exit node is reported, every other reported path is longer than
both and ends elsewhere.  So from the entry node of a bubble exactly one group of `groupsFrom` ends at its exit
node, with the two paths of the bubble, and all other groups consist of longer paths.  Classification
(`buildVariantGroups`): the indel groups are exactly the bubbles, every SNP group starts at an entry node.
-/
import SkaModel.Lemmas.LOEBub
import SkaModel.Lemmas.LOPathGroups
import SkaModel.Lemmas.LORealNoPanic
import SkaModel.Lemmas.SNPRows

namespace SkaModel.LOE

open SkaModel SkaModel.Skalo SkaModel.Props.C17G SkaModel.LOG SkaModel.LOC

theorem explore_step_single (g : Graph) (comp : List (Nat × List Nat)) (ends : List Nat) (maxDepth fuel cur : Nat)
    (visited vec : List Nat) (depth next : Nat)
    (hd : ¬ depth > maxDepth) (hg : (succs g cur).filter (fun n => !visited.contains n) = [next]) :
    explore g comp ends maxDepth (fuel + 1) cur visited vec depth =
      (if ends.contains next then [(next, vec ++ [next] ++ (Assoc.lookup comp next).getD [])] else []) ++
        explore g comp ends maxDepth fuel next (visited ++ [next])
          (vec ++ [next] ++ (Assoc.lookup comp next).getD []) depth := by
  rw [explore, if_neg hd]
  simp only [hg]

def foundFrom (g' : Graph) (comp : List (Nat × List Nat)) (ends : List Nat) (maxDepth kmer s : Nat) :
    List (Nat × List Nat) :=
  explore g' comp ends maxDepth (edgeCount g' + 2) s [kmer, s] ([kmer, s] ++ (Assoc.lookup comp s).getD []) 0

theorem path_secondLast (e x : Nat) (r : List Nat) (hr : r ≠ []) :
    (e :: r ++ [x]).getD ((e :: r ++ [x]).length - 2) 0 = r.getLastD 0 := by
  have hpos := List.length_pos_iff.mpr hr
  have hlen : (e :: r ++ [x]).length - 2 = r.length := by simp
  rw [hlen, List.getD_eq_getElem?_getD, List.getLastD_eq_getLast?, List.getLast?_eq_getElem?]
  congr 1
  rw [show r.length = (r.length - 1) + 1 by omega, List.cons_append, List.getElem?_cons_succ,
    List.getElem?_append_left (by omega)]
  simp

def bubVs (W kG : Nat) (starts ends : List Nat) (β : Bub) (o : Bool) : List Variant :=
  if o then [buildVariant W kG starts ends β.en β.pb, buildVariant W kG starts ends β.en β.pa]
  else [buildVariant W kG starts ends β.en β.pa, buildVariant W kG starts ends β.en β.pb]

def bubGroup (W kG : Nat) (starts ends : List Nat) (β : Bub) (o : Bool) : (Nat × Nat) × List Variant :=
  ((β.en, β.ex), bubVs W kG starts ends β o)

/-- the `kG` letters of the first node and one more for every further node -/
theorem path_letters (W kG : Nat) (starts ends : List Nat) (e x : Nat) (r : List Nat) :
    (buildVariant W kG starts ends e (e :: r ++ [x])).1.length = kG + r.length + 1 := by
  rw [LOG.buildVariant_length, List.length_append, List.length_cons, List.length_singleton, Nat.add_sub_cancel,
    Nat.add_assoc]

theorem bubVs_lengths (W kG : Nat) (starts ends : List Nat) (β : Bub) (o : Bool) :
    ∃ v0 v1, bubVs W kG starts ends β o = [v0, v1] ∧
      ((v0.1.length = kG + β.a.length + 1 ∧ v1.1.length = kG + β.b.length + 1) ∨
       (v0.1.length = kG + β.b.length + 1 ∧ v1.1.length = kG + β.a.length + 1)) := by
  cases o
  · exact ⟨_, _, rfl, Or.inl ⟨path_letters .., path_letters ..⟩⟩
  · exact ⟨_, _, rfl, Or.inr ⟨path_letters .., path_letters ..⟩⟩

theorem clsIndel_bub {kG : Nat} {bs : List Bub} (al : ArmLen kG bs) (W : Nat) (starts ends : List Nat)
    {β : Bub} (hβ : β ∈ bs) (o : Bool) : LOP.clsIndel kG (bubVs W kG starts ends β o) = true := by
  obtain ⟨v0, v1, e, hl⟩ := bubVs_lengths W kG starts ends β o
  rw [e]
  have h1 := al.ne β hβ
  have h2 := al.le β hβ
  unfold LOP.clsIndel
  simp only [List.length_cons, List.length_nil, List.getD_cons_zero, List.getD_cons_succ, List.any_cons,
    List.any_nil, Bool.or_false]
  rcases hl with ⟨e0, e1⟩ | ⟨e0, e1⟩ <;> rw [e0, e1] <;> simp <;> omega

theorem two_distinct (f : List Nat → Nat) {p q : List Nat} (h : f p ≠ f q) {paths : List (List Nat)}
    (hp : paths = [p, q] ∨ paths = [q, p]) : (paths.map f).eraseDups.length > 1 := by
  apply (Dedup.two_le_eraseDups_iff _).mpr
  refine ⟨f p, ?_, f q, ?_, h⟩ <;> rcases hp with rfl | rfl <;> simp

namespace BG

variable {g : Graph} {bs : List Bub}

theorem found_arm (bg : BG g bs) {kG : Nat} (fr : Far kG g bs) {starts ends : List Nat} (ex : Ext bs starts ends)
    {β : Bub} (hβ : β ∈ bs) (maxDepth : Nat) (r : List Nat) (hr : r = β.a ∨ r = β.b) :
    ∃ R, foundFrom (compactGraph g starts ends).1 (compactGraph g starts ends).2 ends maxDepth β.en (r.headD 0) =
        (β.ex, β.en :: r ++ [β.ex]) :: R ∧
      ∀ ep ∈ R, ep.1 ≠ β.ex ∧ kG + 3 ≤ ep.2.length := by
  obtain ⟨hj1, hj2⟩ := bg.jump ex hβ r hr
  obtain ⟨s, t, rfl, hes, -, hch, hnd⟩ := bg.arm hβ hr
  have hwalk : Walk g (β.en :: s :: t ++ [β.ex]) := ⟨hes, walk_of_chain1 hch⟩
  simp only [List.headD_cons, List.tail_cons] at hj1 hj2 ⊢
  have hend : β.ex ∈ ends := (ex.en _).mpr ⟨β, hβ, rfl⟩
  have hexne : β.ex ≠ β.en ∧ β.ex ≠ s := by
    rw [List.cons_append, List.nodup_cons, List.cons_append, List.nodup_cons] at hnd
    exact ⟨fun e => hnd.1 (by rw [← e]; simp), fun e => hnd.2.1 (by rw [← e]; simp)⟩
  have hgood : (succs (compactGraph g starts ends).1 s).filter (fun n => !([β.en, s] : List Nat).contains n) = [β.ex] := by
    rw [hj1]
    simp [hexne.1, hexne.2]
  have hcx := bg.comp_ex ex hβ
  have hj2' : (Assoc.lookup (compactGraph g starts ends).2 s).getD [] = t := hj2
  unfold foundFrom
  rw [explore_step_single _ _ _ _ _ _ _ _ _ _ (by omega) hgood, hj2', hcx]
  simp only [Option.getD_none, List.append_nil]
  rw [if_pos (by simpa using hend)]
  refine ⟨explore (compactGraph g starts ends).1 (compactGraph g starts ends).2 ends maxDepth
    (edgeCount (compactGraph g starts ends).1 + 1) β.ex ([β.en, s] ++ [β.ex]) ([β.en, s] ++ t ++ [β.ex]) 0,
    by simp, ?_⟩
  · intro ep hep
    have hint : interior (compactGraph g starts ends).2 β.ex = [] := by
      unfold interior
      rw [hcx]
      rfl
    have hvec : [β.en, s] ++ t ++ [β.ex] = (β.en :: s :: t) ++ β.ex :: interior (compactGraph g starts ends).2 β.ex := by
      rw [hint]
      simp
    rw [hvec, explore_iff] at hep
    obtain ⟨w, _, hreach, rfl⟩ := hep
    obtain ⟨hchain, hw, hepend⟩ := Reach.chain w _ _ _ hreach
    obtain ⟨_, hfresh, _, _⟩ := reach_fresh w _ _ _ hreach
    constructor
    · -- `w` avoids the visited nodes, and the exit node is one of them
      intro e
      exact hfresh _ (getLastD_mem hw 0) (by rw [show w.getLastD 0 = β.ex from e]; simp)
    · -- the walk from the exit node on reaches an exit node again
      have hW := walk_pathOf (T17_compact_sound g starts ends) w β.ex (β.en :: s :: t) (by simpa using hwalk) hchain
      obtain ⟨q, hq⟩ := pathOf_last (compactGraph g starts ends).2
        ((β.en :: s :: t) ++ β.ex :: interior (compactGraph g starts ends).2 β.ex) w hw
      have hsplit : pathOf (compactGraph g starts ends).2
          ((β.en :: s :: t) ++ β.ex :: interior (compactGraph g starts ends).2 β.ex) w =
          (β.en :: s :: t) ++ (β.ex :: (q ++ w.getLastD 0 :: interior (compactGraph g starts ends).2 (w.getLastD 0))) := by
        rw [hq, hint]
        simp
      rw [hsplit] at hW
      obtain ⟨β', hβ', e'⟩ := (ex.en _).mp hepend
      have := fr.far β hβ _ (walk_append_right _ _ hW) rfl ⟨β', hβ', by rw [← e']; simp⟩
      show kG + 3 ≤ (pathOf _ _ w).length
      rw [hsplit]
      simp only [List.length_append, List.length_cons] at this ⊢
      omega

theorem found_en (bg : BG g bs) {kG : Nat} (fr : Far kG g bs) {starts ends : List Nat} (ex : Ext bs starts ends)
    {β : Bub} (hβ : β ∈ bs) (maxDepth : Nat) :
    ∃ RA RB, (∀ ep ∈ RA, ep.1 ≠ β.ex ∧ kG + 3 ≤ ep.2.length) ∧
      (∀ ep ∈ RB, ep.1 ≠ β.ex ∧ kG + 3 ≤ ep.2.length) ∧
      ((succs (compactGraph g starts ends).1 β.en).flatMap
          (foundFrom (compactGraph g starts ends).1 (compactGraph g starts ends).2 ends maxDepth β.en) =
        ((β.ex, β.pa) :: RA) ++ ((β.ex, β.pb) :: RB) ∨
       (succs (compactGraph g starts ends).1 β.en).flatMap
          (foundFrom (compactGraph g starts ends).1 (compactGraph g starts ends).2 ends maxDepth β.en) =
        ((β.ex, β.pb) :: RB) ++ ((β.ex, β.pa) :: RA)) := by
  obtain ⟨RA, hA, hRA⟩ := bg.found_arm fr ex hβ maxDepth β.a (Or.inl rfl)
  obtain ⟨RB, hB, hRB⟩ := bg.found_arm fr ex hβ maxDepth β.b (Or.inr rfl)
  refine ⟨RA, RB, hRA, hRB, ?_⟩
  rw [bg.compact_en starts ends hβ]
  rcases bg.ensucc β hβ with h | h
  · left
    rw [h, List.flatMap_cons, List.flatMap_cons, List.flatMap_nil, List.append_nil,
      show β.ha = β.a.headD 0 from rfl, show β.hb = β.b.headD 0 from rfl, hA, hB]
    rfl
  · right
    rw [h, List.flatMap_cons, List.flatMap_cons, List.flatMap_nil, List.append_nil,
      show β.ha = β.a.headD 0 from rfl, show β.hb = β.b.headD 0 from rfl, hA, hB]
    rfl

theorem paths_ex (bg : BG g bs) {kG : Nat} (fr : Far kG g bs) {starts ends : List Nat} (ex : Ext bs starts ends)
    {β : Bub} (hβ : β ∈ bs) (maxDepth : Nat) :
    (β.ex, [β.pa, β.pb]) ∈ pathsFrom (compactGraph g starts ends).1 (compactGraph g starts ends).2 ends maxDepth β.en ∨
    (β.ex, [β.pb, β.pa]) ∈ pathsFrom (compactGraph g starts ends).1 (compactGraph g starts ends).2 ends maxDepth β.en := by
  obtain ⟨RA, RB, hRA, hRB, hf⟩ := bg.found_en fr ex hβ maxDepth
  unfold foundFrom at hf
  have hfa : RA.filter (fun ep => ep.1 == β.ex) = [] := by
    rw [List.filter_eq_nil_iff]
    intro ep hep
    simpa using (hRA ep hep).1
  have hfb : RB.filter (fun ep => ep.1 == β.ex) = [] := by
    rw [List.filter_eq_nil_iff]
    intro ep hep
    simpa using (hRB ep hep).1
  rcases hf with h | h
  · left
    rw [mem_pathsFrom, h]
    simp [hfa, hfb]
  · right
    rw [mem_pathsFrom, h]
    simp [hfa, hfb]

theorem paths_other (bg : BG g bs) {kG : Nat} (fr : Far kG g bs) {starts ends : List Nat} (ex : Ext bs starts ends)
    {β : Bub} (hβ : β ∈ bs) (maxDepth : Nat) {e : Nat} {ps : List (List Nat)}
    (h : (e, ps) ∈ pathsFrom (compactGraph g starts ends).1 (compactGraph g starts ends).2 ends maxDepth β.en)
    (hne : e ≠ β.ex) : ∀ p ∈ ps, kG + 3 ≤ p.length := by
  obtain ⟨RA, RB, hRA, hRB, hf⟩ := bg.found_en fr ex hβ maxDepth
  unfold foundFrom at hf
  intro p hp
  rw [mem_pathsFrom_paths h] at hp
  have hcons : ∀ q R, (e, p) ∈ (β.ex, q) :: R → (e, p) ∈ R := fun q R h =>
    (List.mem_cons.mp h).resolve_left (fun h1 => hne (Prod.mk.inj h1).1)
  have hcases : (e, p) ∈ RA ∨ (e, p) ∈ RB := by
    rcases hf with hf | hf
    · rw [hf] at hp
      exact (List.mem_append.mp hp).imp (hcons _ _) (hcons _ _)
    · rw [hf] at hp
      exact ((List.mem_append.mp hp).imp (hcons _ _) (hcons _ _)).symm
  exact hcases.elim (fun h1 => (hRA _ h1).2) (fun h1 => (hRB _ h1).2)

theorem pa_getD1 (bg : BG g bs) {β : Bub} (hβ : β ∈ bs) : β.pa.getD 1 0 = β.ha := by
  unfold Bub.pa
  rw [bg.a_eq hβ]
  rfl

theorem pb_getD1 (bg : BG g bs) {β : Bub} (hβ : β ∈ bs) : β.pb.getD 1 0 = β.hb := by
  unfold Bub.pb
  rw [bg.b_eq hβ]
  rfl

theorem two_paths_ok (bg : BG g bs) {β : Bub} (hβ : β ∈ bs) (paths : List (List Nat))
    (hp : paths = [β.pa, β.pb] ∨ paths = [β.pb, β.pa]) :
    (paths.map (fun v => v.getD 1 0)).eraseDups.length > 1 ∧
    (paths.map (fun v => v.getD (v.length - 2) 0)).eraseDups.length > 1 ∧ (paths.length == 2) = true := by
  refine ⟨two_distinct _ ?_ hp, two_distinct _ ?_ hp, ?_⟩
  · rw [bg.pa_getD1 hβ, bg.pb_getD1 hβ]
    exact bg.ha_ne_hb hβ
  · unfold Bub.pa Bub.pb
    rw [path_secondLast _ _ _ (bg.a_ne hβ), path_secondLast _ _ _ (bg.b_ne hβ)]
    exact bg.lastne β hβ
  · rcases hp with rfl | rfl <;> rfl

theorem group_bubble (bg : BG g bs) {kG : Nat} (fr : Far kG g bs) {starts ends : List Nat} (ex : Ext bs starts ends)
    {β : Bub} (hβ : β ∈ bs) (W maxDepth : Nat) :
    ∃ o, bubGroup W kG starts ends β o ∈ groupsFrom W kG (compactGraph g starts ends).1
      (compactGraph g starts ends).2 starts ends maxDepth β.en := by
  have key : ∀ paths, (paths = [β.pa, β.pb] ∨ paths = [β.pb, β.pa]) →
      (β.ex, paths) ∈ pathsFrom (compactGraph g starts ends).1 (compactGraph g starts ends).2 ends maxDepth β.en →
      ((β.en, β.ex), paths.map (buildVariant W kG starts ends β.en)) ∈ groupsFrom W kG (compactGraph g starts ends).1
        (compactGraph g starts ends).2 starts ends maxDepth β.en := by
    intro paths hp hm
    obtain ⟨h1, h2, h3⟩ := bg.two_paths_ok hβ paths hp
    rw [mem_groupsFrom]
    refine ⟨?_, β.ex, paths, hm, h1, h2, ?_⟩
    · rw [List.any_eq_true]
      refine ⟨_, hm, ?_⟩
      rcases hp with rfl | rfl <;> simp
    · rw [if_pos h3]
  rcases bg.paths_ex fr ex hβ maxDepth with h | h
  · exact ⟨false, key _ (Or.inl rfl) h⟩
  · exact ⟨true, key _ (Or.inr rfl) h⟩

theorem group_at_ex (bg : BG g bs) {kG : Nat} (fr : Far kG g bs) {starts ends : List Nat} (ex : Ext bs starts ends)
    {β : Bub} (hβ : β ∈ bs) (W maxDepth : Nat) (grp : (Nat × Nat) × List Variant)
    (hg : grp ∈ groupsFrom W kG (compactGraph g starts ends).1 (compactGraph g starts ends).2 starts ends
      maxDepth β.en) (he : grp.1.2 = β.ex) : ∃ o, grp = bubGroup W kG starts ends β o := by
  rw [mem_groupsFrom] at hg
  obtain ⟨_, e, paths, hm, _, _, rfl⟩ := hg
  simp only at he
  subst he
  have huniq : ∀ paths', (β.ex, paths') ∈ pathsFrom (compactGraph g starts ends).1 (compactGraph g starts ends).2
      ends maxDepth β.en → paths = paths' := by
    intro paths' hm'
    rw [((mem_pathsFrom _ _ _ _ _ _ _).mp hm).2, ((mem_pathsFrom _ _ _ _ _ _ _).mp hm').2]
  rcases bg.paths_ex fr ex hβ maxDepth with h | h
  · refine ⟨false, ?_⟩
    rw [huniq _ h]
    rfl
  · refine ⟨true, ?_⟩
    rw [huniq _ h]
    rfl

theorem group_other (bg : BG g bs) {kG : Nat} (fr : Far kG g bs) {starts ends : List Nat} (ex : Ext bs starts ends)
    {β : Bub} (hβ : β ∈ bs) (W maxDepth : Nat) (grp : (Nat × Nat) × List Variant)
    (hg : grp ∈ groupsFrom W kG (compactGraph g starts ends).1 (compactGraph g starts ends).2 starts ends
      maxDepth β.en) (he : grp.1.2 ≠ β.ex) :
    ∀ v ∈ grp.2, 2 * kG < v.1.length := by
  rw [mem_groupsFrom] at hg
  obtain ⟨_, e, paths, hm, _, _, rfl⟩ := hg
  simp only at he
  intro v hv
  simp only at hv
  obtain ⟨p, hp, rfl⟩ := List.mem_map.mp hv
  have hp' : p ∈ paths := by
    split at hp
    · exact hp
    · exact (List.mem_filter.mp hp).1
  rw [LOG.buildVariant_length]
  have := bg.paths_other fr ex hβ maxDepth hm he p hp'
  omega

theorem groups (bg : BG g bs) {starts ends : List Nat} (ex : Ext bs starts ends) {kG : Nat} (al : ArmLen kG bs)
    (fr : Far kG g bs) (W maxDepth : Nat) :
    (∀ kv ∈ (buildVariantGroups W kG g starts ends maxDepth).indelGroups,
      ∃ β ∈ bs, ∃ o, kv = bubGroup W kG starts ends β o) ∧
    (∀ β ∈ bs, ∃ o, bubGroup W kG starts ends β o ∈ (buildVariantGroups W kG g starts ends maxDepth).indelGroups) ∧
    (∀ kv ∈ (buildVariantGroups W kG g starts ends maxDepth).snpGroups, kv.1.1 ∈ starts) := by
  rw [LOP.buildVariantGroups_eq]
  simp only
  refine ⟨?_, ?_, ?_⟩
  · intro kv hkv
    obtain ⟨hm, hc⟩ := List.mem_filter.mp hkv
    unfold LOP.builtGroups at hm
    obtain ⟨kmer, hk, hg⟩ := List.mem_flatMap.mp hm
    obtain ⟨β, hβ, rfl⟩ := (ex.st kmer).mp hk
    by_cases he : kv.1.2 = β.ex
    · obtain ⟨o, e⟩ := bg.group_at_ex fr ex hβ W maxDepth kv hg he
      exact ⟨β, hβ, o, e⟩
    · exfalso
      have hlong := bg.group_other fr ex hβ W maxDepth kv hg he
      obtain ⟨v0, v1, e, _, hle⟩ := LOP.clsIndel_spec kG kv.2 hc
      rcases hle with h | h
      · have := hlong v0 (by rw [e]; simp); omega
      · have := hlong v1 (by rw [e]; simp); omega
  · intro β hβ
    obtain ⟨o, ho⟩ := bg.group_bubble fr ex hβ W maxDepth
    refine ⟨o, List.mem_filter.mpr ⟨?_, clsIndel_bub al W starts ends hβ o⟩⟩
    unfold LOP.builtGroups
    exact List.mem_flatMap.mpr ⟨β.en, (ex.st _).mpr ⟨β, hβ, rfl⟩, ho⟩
  · intro kv hkv
    obtain ⟨hm, _⟩ := List.mem_filter.mp hkv
    unfold LOP.builtGroups at hm
    obtain ⟨kmer, hk, hg⟩ := List.mem_flatMap.mp hm
    rw [mem_groupsFrom] at hg
    obtain ⟨_, e, paths, _, _, _, rfl⟩ := hg
    exact hk

end BG

end SkaModel.LOE
