/-
C18 completeness — the abstract shape of the graph of an indel-planted family: every node with two or more
successors is the entry node of a bubble; a bubble has two arms (chains of single-successor nodes) that meet
again at its exit node (`BG`); the bubbles come in strand pairs (`Twins`), their arms differ in length (`ArmLen`),
and behind an exit node the next exit node is far (`Far`).  `identify_good_kmers` on such a graph.
`compact_graph` on such a graph: entry nodes keep their successors; the first node of an arm jumps to the exit
node and records the rest of the arm as its interior; entry and exit nodes record no interior.
-/
import SkaModel.Lemmas.LOPathCompact
import SkaModel.Lemmas.LOIdentify

namespace SkaModel.LOE

open SkaModel SkaModel.Skalo SkaModel.Props.C17G SkaModel.LOG SkaModel.LOC

/-- a bubble: entry node, exit node, the nodes strictly between them on the two arms -/
structure Bub where
  en : Nat
  ex : Nat
  a : List Nat
  b : List Nat
  deriving Repr, DecidableEq

def Bub.ha (β : Bub) : Nat := β.a.headD 0
def Bub.hb (β : Bub) : Nat := β.b.headD 0
def Bub.la (β : Bub) : Nat := β.a.getLastD 0
def Bub.lb (β : Bub) : Nat := β.b.getLastD 0
def Bub.pa (β : Bub) : List Nat := β.en :: β.a ++ [β.ex]
def Bub.pb (β : Bub) : List Nat := β.en :: β.b ++ [β.ex]

structure BG (g : Graph) (bs : List Bub) : Prop where
  nd : ∀ x, (succs g x).Nodup
  lk : ∀ x, Assoc.lookup g x = if succs g x = [] then none else some (succs g x)
  knd : (g.map (·.1)).Nodup
  single : ∀ x, 2 ≤ (succs g x).length → ∃ β ∈ bs, x = β.en
  lenA : ∀ β ∈ bs, 1 ≤ β.a.length
  lenB : ∀ β ∈ bs, 1 ≤ β.b.length
  ensucc : ∀ β ∈ bs, succs g β.en = [β.ha, β.hb] ∨ succs g β.en = [β.hb, β.ha]
  chA : ∀ β ∈ bs, Chain1 g (β.a ++ [β.ex])
  chB : ∀ β ∈ bs, Chain1 g (β.b ++ [β.ex])
  ndA : ∀ β ∈ bs, (β.en :: β.a ++ [β.ex]).Nodup
  ndB : ∀ β ∈ bs, (β.en :: β.b ++ [β.ex]).Nodup
  lastne : ∀ β ∈ bs, β.la ≠ β.lb
  armA : ∀ β ∈ bs, ∀ x ∈ β.a, ∀ β' ∈ bs, x ≠ β'.en ∧ x ≠ β'.ex
  armB : ∀ β ∈ bs, ∀ x ∈ β.b, ∀ β' ∈ bs, x ≠ β'.en ∧ x ≠ β'.ex
  predA : ∀ β ∈ bs, ∀ y, β.ha ∈ succs g y → y = β.en
  predB : ∀ β ∈ bs, ∀ y, β.hb ∈ succs g y → y = β.en
  predX : ∀ β ∈ bs, ∀ y, β.ex ∈ succs g y → y ∈ β.a ∨ y ∈ β.b
  enInj : ∀ β ∈ bs, ∀ β' ∈ bs, β.en = β'.en → β = β'

structure Ext (bs : List Bub) (starts ends : List Nat) : Prop where
  st : ∀ x, x ∈ starts ↔ ∃ β ∈ bs, x = β.en
  en : ∀ x, x ∈ ends ↔ ∃ β ∈ bs, x = β.ex
  snd : starts.Nodup

structure Far (kG : Nat) (g : Graph) (bs : List Bub) : Prop where
  far : ∀ β ∈ bs, ∀ p : List Nat, Walk g p → p.head? = some β.ex → (∃ β' ∈ bs, β'.ex ∈ p.tail) → kG + 2 ≤ p.length

/-- what the classification needs of the lengths of the arms; with fewer than `kG` nodes the sequence of an arm has at
most `2 kG` letters -/
structure ArmLen (kG : Nat) (bs : List Bub) : Prop where
  ne : ∀ β ∈ bs, β.a.length ≠ β.b.length
  le : ∀ β ∈ bs, β.a.length + 1 ≤ kG ∨ β.b.length + 1 ≤ kG

structure Twins (W kG : Nat) (bs : List Bub) (pairs : List (Bub × Bub)) : Prop where
  cover : ∀ β, β ∈ bs ↔ ∃ p ∈ pairs, β = p.1 ∨ β = p.2
  rc1 : ∀ p ∈ pairs, p.2.en = revComp W p.1.ex kG
  rc2 : ∀ p ∈ pairs, p.1.en = revComp W p.2.ex kG
  rc3 : ∀ p ∈ pairs, revComp W p.1.en kG = p.2.ex
  rc4 : ∀ p ∈ pairs, revComp W p.2.en kG = p.1.ex
  enex : ∀ β ∈ bs, ∀ γ ∈ bs, β.en ≠ γ.ex
  pnd : (pairs.map (·.1.en) ++ pairs.map (·.2.en)).Nodup

namespace BG

variable {g : Graph} {bs : List Bub}

theorem a_ne (bg : BG g bs) {β : Bub} (hβ : β ∈ bs) : β.a ≠ [] :=
  List.ne_nil_of_length_pos (bg.lenA β hβ)

theorem b_ne (bg : BG g bs) {β : Bub} (hβ : β ∈ bs) : β.b ≠ [] :=
  List.ne_nil_of_length_pos (bg.lenB β hβ)

theorem a_eq (bg : BG g bs) {β : Bub} (hβ : β ∈ bs) : β.a = β.ha :: β.a.tail := by
  unfold Bub.ha
  cases h : β.a with
  | nil => exact absurd h (bg.a_ne hβ)
  | cons x t => rfl

theorem b_eq (bg : BG g bs) {β : Bub} (hβ : β ∈ bs) : β.b = β.hb :: β.b.tail := by
  unfold Bub.hb
  cases h : β.b with
  | nil => exact absurd h (bg.b_ne hβ)
  | cons x t => rfl

theorem ha_mem (bg : BG g bs) {β : Bub} (hβ : β ∈ bs) : β.ha ∈ β.a := by
  rw [bg.a_eq hβ]; exact List.mem_cons_self ..

theorem hb_mem (bg : BG g bs) {β : Bub} (hβ : β ∈ bs) : β.hb ∈ β.b := by
  rw [bg.b_eq hβ]; exact List.mem_cons_self ..

theorem ha_ne_hb (bg : BG g bs) {β : Bub} (hβ : β ∈ bs) : β.ha ≠ β.hb := by
  have hnd := bg.nd β.en
  rcases bg.ensucc β hβ with h | h <;> rw [h] at hnd
  · intro e; rw [e] at hnd; simp at hnd
  · intro e; rw [e] at hnd; simp at hnd

theorem en_two (bg : BG g bs) {β : Bub} (hβ : β ∈ bs) : (succs g β.en).length = 2 := by
  rcases bg.ensucc β hβ with h | h <;> rw [h] <;> rfl

theorem en_not_single (bg : BG g bs) {β : Bub} (hβ : β ∈ bs) (n : Nat) : Assoc.lookup g β.en ≠ some [n] := by
  intro h
  have := (lookup_some_iff_of_lk bg.lk _ _).mp h
  have h2 := bg.en_two hβ
  rw [this.1] at h2
  simp at h2

theorem identify (bg : BG g bs) {W kG : Nat} {col : Colours}
    (hcol : ∀ β ∈ bs, ∃ s1 s2, Assoc.lookup col (combineKmers W β.en β.ha) = some s1 ∧
      Assoc.lookup col (combineKmers W β.en β.hb) = some s2 ∧ s1 ≠ s2)
    (htw : ∀ β ∈ bs, ∃ β' ∈ bs, revComp W β.en kG = β'.ex)
    (htw' : ∀ β' ∈ bs, ∃ β ∈ bs, revComp W β.en kG = β'.ex) :
    ∃ starts ends, identifyGoodKmers W kG g col = some (starts, ends) ∧ Ext bs starts ends := by
  obtain ⟨starts, hid, hnd, hst⟩ := identify_branch bg.knd bg.lk kG (col := col) (W := W) (by
    intro x a b rest hs
    obtain ⟨β, hβ, rfl⟩ := bg.single x (by rw [hs]; simp)
    obtain ⟨s1, s2, h1, h2, hne⟩ := hcol β hβ
    rcases bg.ensucc β hβ with h | h
    · rw [h] at hs
      cases hs
      exact ⟨s1, s2, h1, h2, hne⟩
    · rw [h] at hs
      cases hs
      exact ⟨s2, s1, h2, h1, hne.symm⟩)
  have hst' : ∀ x, x ∈ starts ↔ ∃ β ∈ bs, x = β.en := fun x => (hst x).trans
    ⟨bg.single x, fun ⟨β, hβ, e⟩ => e ▸ Nat.le_of_eq (bg.en_two hβ).symm⟩
  refine ⟨_, _, hid, hst', fun x => ?_, hnd⟩
  rw [List.mem_map]
  constructor
  · rintro ⟨e, he, rfl⟩
    obtain ⟨β, hβ, rfl⟩ := (hst' e).mp he
    exact htw β hβ
  · rintro ⟨β', hβ', rfl⟩
    obtain ⟨β, hβ, e'⟩ := htw' β' hβ'
    exact ⟨β.en, (hst' _).mpr ⟨β, hβ, rfl⟩, e'⟩

theorem compact_en (bg : BG g bs) (starts ends : List Nat) {β : Bub} (hβ : β ∈ bs) :
    succs (compactGraph g starts ends).1 β.en = succs g β.en :=
  (compact_keep (Or.inl (bg.en_not_single hβ))).1

theorem comp_en (bg : BG g bs) (starts ends : List Nat) {β : Bub} (hβ : β ∈ bs) :
    Assoc.lookup (compactGraph g starts ends).2 β.en = none :=
  (compact_keep (Or.inl (bg.en_not_single hβ))).2

theorem arm_not_ext (bg : BG g bs) {starts ends : List Nat} (ex : Ext bs starts ends) {β : Bub} (hβ : β ∈ bs)
    {x : Nat} (hx : x ∈ β.a ∨ x ∈ β.b) : x ∉ starts ∧ x ∉ ends := by
  constructor
  · intro h
    obtain ⟨β', hβ', e⟩ := (ex.st x).mp h
    rcases hx with hx | hx
    · exact (bg.armA β hβ x hx β' hβ').1 e
    · exact (bg.armB β hβ x hx β' hβ').1 e
  · intro h
    obtain ⟨β', hβ', e⟩ := (ex.en x).mp h
    rcases hx with hx | hx
    · exact (bg.armA β hβ x hx β' hβ').2 e
    · exact (bg.armB β hβ x hx β' hβ').2 e

theorem comp_ex (bg : BG g bs) {starts ends : List Nat} (ex : Ext bs starts ends) {β : Bub} (hβ : β ∈ bs) :
    Assoc.lookup (compactGraph g starts ends).2 β.ex = none := by
  refine (compact_keep (Or.inr ⟨List.mem_append_right _ ((ex.en _).mpr ⟨β, hβ, rfl⟩), fun y hy hedge => ?_⟩)).2
  have := bg.arm_not_ext ex hβ (bg.predX β hβ y hedge)
  exact (List.mem_append.mp hy).elim this.1 this.2

/-- what `BG` says of both arms alike -/
theorem arm (bg : BG g bs) {β : Bub} (hβ : β ∈ bs) {r : List Nat} (hr : r = β.a ∨ r = β.b) :
    ∃ s t, r = s :: t ∧ s ∈ succs g β.en ∧ (∀ y, s ∈ succs g y → y = β.en) ∧ Chain1 g (r ++ [β.ex]) ∧
      (β.en :: r ++ [β.ex]).Nodup := by
  have hes : β.ha ∈ succs g β.en ∧ β.hb ∈ succs g β.en := by
    rcases bg.ensucc β hβ with h | h <;> rw [h] <;> simp
  rcases hr with rfl | rfl
  · exact ⟨_, _, bg.a_eq hβ, hes.1, bg.predA β hβ, bg.chA β hβ, bg.ndA β hβ⟩
  · exact ⟨_, _, bg.b_eq hβ, hes.2, bg.predB β hβ, bg.chB β hβ, bg.ndB β hβ⟩

theorem jump (bg : BG g bs) {starts ends : List Nat} (ex : Ext bs starts ends) {β : Bub} (hβ : β ∈ bs)
    (r : List Nat) (hr : r = β.a ∨ r = β.b) :
    succs (compactGraph g starts ends).1 (r.headD 0) = [β.ex] ∧
    interior (compactGraph g starts ends).2 (r.headD 0) = r.tail := by
  obtain ⟨s, t, rfl, hes, hpred, hch, hnd⟩ := bg.arm hβ hr
  have hmem : ∀ x ∈ s :: t, x ∈ β.a ∨ x ∈ β.b := fun x hx =>
    hr.elim (fun e => Or.inl (e ▸ hx)) (fun e => Or.inr (e ▸ hx))
  have := compact_jump bg.lk (starts := starts) (ends := ends) (e := β.en) (s := s) (cs := t ++ [β.ex])
    (List.mem_append_left _ ((ex.st _).mpr ⟨β, hβ, rfl⟩)) hes
    (fun y hy => hpred y (by rw [((lookup_some_iff_of_lk bg.lk _ _).mp hy).1]; exact List.mem_singleton.mpr rfl))
    (Or.inl (bg.en_not_single hβ)) (by simp) hch (List.nodup_cons.mp hnd).2
    (fun x hx => by
      rw [List.dropLast_concat] at hx
      exact bg.arm_not_ext ex hβ (hmem x (List.mem_cons_of_mem _ hx)))
    (by rw [List.getLastD_concat]; exact Or.inl (List.mem_append_right _ ((ex.en _).mpr ⟨β, hβ, rfl⟩)))
  rwa [List.getLastD_concat, List.dropLast_concat] at this

theorem jumpA (bg : BG g bs) {starts ends : List Nat} (ex : Ext bs starts ends) {β : Bub} (hβ : β ∈ bs) :
    succs (compactGraph g starts ends).1 β.ha = [β.ex] ∧
    interior (compactGraph g starts ends).2 β.ha = β.a.tail :=
  bg.jump ex hβ β.a (Or.inl rfl)

theorem jumpB (bg : BG g bs) {starts ends : List Nat} (ex : Ext bs starts ends) {β : Bub} (hβ : β ∈ bs) :
    succs (compactGraph g starts ends).1 β.hb = [β.ex] ∧
    interior (compactGraph g starts ends).2 β.hb = β.b.tail :=
  bg.jump ex hβ β.b (Or.inr rfl)

end BG

end SkaModel.LOE
