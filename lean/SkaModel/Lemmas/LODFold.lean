/-
C17 (second sentence) — the fold of `analyseRef` over good groups of both strands, in any order, given what the
reference yields for such groups (`AnchF`, `AnchR`: the group is anchored and every site inside is placed at `plc`).
The invariant is `CInv` with `plc` for what is reported; with it every site is placed exactly once (`loRef_of_anch`).
-/
import SkaModel.Lemmas.LODScan
import SkaModel.Lemmas.LOCFinal

namespace SkaModel.LOD

open SkaModel SkaModel.Spec SkaModel.Props.C16 SkaModel.Skalo SkaModel.Props.C17G SkaModel.LOG SkaModel.LOC

theorem claim_new {m : List (Nat × List UInt8)} {x : Nat × List UInt8} (h : ∀ y ∈ m, y.1 ≠ x.1) :
    LOR.claim m x = m ++ [x] := by
  unfold LOR.claim
  rw [if_neg]
  rw [List.any_eq_true]
  rintro ⟨y, hy, e⟩
  exact h y hy (eq_of_beq e)

theorem place_fold (kG position seqLen : Nat) (fwdO : Bool) (f g : Nat → Nat × List UInt8) :
    ∀ (Qs : List Nat) (m0 : List (Nat × List UInt8)),
      (∀ z ∈ Qs, LOR.finalPos kG position seqLen fwdO (f z).1 = (g z).1 ∧ LOR.colOn fwdO (f z).2 = some (g z).2) →
      (Qs.map (fun z => (g z).1)).Nodup → (∀ z ∈ Qs, ∀ x ∈ m0, x.1 ≠ (g z).1) →
      (Qs.map f).foldlM (LOR.placeStep kG position seqLen fwdO) m0 = some (m0 ++ Qs.map g) := by
  intro Qs
  induction Qs with
  | nil => intro m0 _ _ _; simp
  | cons z rest ih =>
    intro m0 hpl hnd hdis
    rw [List.map_cons, List.nodup_cons] at hnd
    obtain ⟨h1, h2⟩ := hpl z List.mem_cons_self
    rw [List.map_cons, List.foldlM_cons, LOR.placeStep_eq, h2, Option.map_some, h1,
      claim_new (x := g z) (hdis z List.mem_cons_self)]
    simp only [Option.bind_eq_bind, Option.bind_some]
    rw [ih (m0 ++ [g z]) (fun z' hz' => hpl z' (List.mem_cons_of_mem _ hz')) hnd.2 ?_]
    · simp
    · intro z' hz' x hx
      rcases List.mem_append.mp hx with h | h
      · exact hdis z' (List.mem_cons_of_mem _ hz') x h
      · rw [List.mem_singleton.mp h]
        exact fun e => hnd.1 (List.mem_map.mpr ⟨z', hz', e.symm⟩)

theorem refStep_eval (W kG n mNum mDen : Nat) (col : Colours) (kmap : List (Nat × List Nat))
    (acc : List (Nat × List UInt8) × List Nat) (kv : (Nat × Nat) × List Variant) (h2 : 2 ≤ kv.2.length)
    (Qs : List Nat) (f g : Nat → Nat × List UInt8) (save : List Nat)
    (hgs : (getPotentialSnp kv.2).foldlM (LOP.siteStep (fun p c => (p, c)) W kG n mNum mDen col acc.2 kv.2)
      ([], []) = some (Qs.map f, save))
    (hscan : Qs ≠ [] → ∃ pos fwdO, scanVariants 128 kG kmap kv.2 = some (true, pos, fwdO) ∧
      ∀ z ∈ Qs, LOR.finalPos kG pos (kv.2.headD ([], [])).1.length fwdO (f z).1 = (g z).1 ∧
        LOR.colOn fwdO (f z).2 = some (g z).2)
    (hnd : (Qs.map (fun z => (g z).1)).Nodup) (hdis : ∀ z ∈ Qs, ∀ x ∈ acc.1, x.1 ≠ (g z).1) :
    LOR.refStep W kG n mNum mDen col kmap [] acc kv = some (acc.1 ++ Qs.map g, acc.2 ++ save) := by
  unfold LOR.refStep
  simp only [List.contains_nil, Bool.not_false, Bool.and_self, if_true]
  rw [if_neg (Nat.not_lt.mpr h2), LOR.groupSnpsPos_eq, hgs]
  simp only [Option.bind_some]
  cases Qs with
  | nil => simp
  | cons a l =>
    obtain ⟨pos, fwdO, hsc, hpl⟩ := hscan (List.cons_ne_nil a l)
    rw [if_neg (by simp), hsc]
    simp only [Option.bind_some, Bool.not_true, Bool.false_eq_true, if_false]
    rw [place_fold kG pos _ fwdO f g (a :: l) acc.1 hpl hnd hdis]
    rfl

variable {k L : Nat} {S : List (List UInt8)} {P : List Nat}

def AnchF (k L : Nat) (S : List (List UInt8)) (P : List Nat) (kmap : List (Nat × List Nat))
    (plc : Nat → Nat × List UInt8) : Prop :=
  ∀ c0 len vs, GG k L S P c0 len vs → 2 ≤ vs.length → (∃ q ∈ P, c0 ≤ q ∧ q < c0 + len) →
    ∃ pos fwdO, scanVariants 128 (k - 1) kmap vs = some (true, pos, fwdO) ∧
      ∀ q ∈ P, c0 ≤ q → q < c0 + len →
        (if fwdO then (pos + (q - c0 - (k - 1))) % U32
          else (pos + (len - (q - c0) - (k - 1) - 1)) % U32) = (plc q).1 ∧
        (if fwdO then some (colT S q) else complementSnp (colT S q)) = some (plc q).2

def AnchR (k L : Nat) (S : List (List UInt8)) (P : List Nat) (kmap : List (Nat × List Nat))
    (plc : Nat → Nat × List UInt8) : Prop :=
  ∀ c0 len vs, GG k L (rcFam S) (mirrorP L P) c0 len vs → 2 ≤ vs.length →
    (∃ q' ∈ mirrorP L P, c0 ≤ q' ∧ q' < c0 + len) →
    ∃ pos fwdO, scanVariants 128 (k - 1) kmap vs = some (true, pos, fwdO) ∧
      ∀ q' ∈ mirrorP L P, c0 ≤ q' → q' < c0 + len →
        (if fwdO then (pos + (q' - c0 - (k - 1))) % U32
          else (pos + (len - (q' - c0) - (k - 1) - 1)) % U32) = (plc (L - 1 - q')).1 ∧
        (if fwdO then some (colT (rcFam S) q') else complementSnp (colT (rcFam S) q')) = some (plc (L - 1 - q')).2

theorem gg_head_len {T : List (List UInt8)} {PT : List Nat} {c0 len : Nat} {vs : List Variant}
    (hg : GG k L T PT c0 len vs) (hne : vs ≠ []) : (vs.headD ([], [])).1.length = len := by
  cases vs with
  | nil => exact absurd rfl hne
  | cons v rest => exact (hg.hv v List.mem_cons_self).1

/-- `AnchF` and `AnchR` are this for the two strands: what the reference yields for a group of the family `T`
(sites `PT`, the site `q` standing for the site `σ q` of the samples) -/
def Anch (k L : Nat) (T : List (List UInt8)) (PT : List Nat) (σ : Nat → Nat) (kmap : List (Nat × List Nat))
    (plc : Nat → Nat × List UInt8) : Prop :=
  ∀ c0 len vs, GG k L T PT c0 len vs → 2 ≤ vs.length → (∃ q ∈ PT, c0 ≤ q ∧ q < c0 + len) →
    ∃ pos fwdO, scanVariants 128 (k - 1) kmap vs = some (true, pos, fwdO) ∧
      ∀ q ∈ PT, c0 ≤ q → q < c0 + len →
        (if fwdO then (pos + (q - c0 - (k - 1))) % U32
          else (pos + (len - (q - c0) - (k - 1) - 1)) % U32) = (plc (σ q)).1 ∧
        (if fwdO then some (colT T q) else complementSnp (colT T q)) = some (plc (σ q)).2

theorem step_ref (pf : PFam k L S P) (hk5 : 5 ≤ k) {W : Nat} (hW : 2 * k ≤ W) (hw : W = 64 ∨ W = 128)
    {col : Colours} (hc : ColOK k L col S) (hc' : ColOK k L col (rcFam S)) (mNum mDen : Nat)
    {kmap : List (Nat × List Nat)} {plc : Nat → Nat × List UInt8}
    (hF : AnchF k L S P kmap plc) (hR : AnchR k L S P kmap plc)
    (hinj : ∀ q ∈ P, ∀ q2 ∈ P, (plc q).1 = (plc q2).1 → q = q2)
    {Called : List (Nat × Bool)} {acc : List (Nat × List UInt8) × List Nat}
    (hI : CInv k S P (fun x => plc x.1) Called acc) {kv : (Nat × Nat) × List Variant} (h2 : 2 ≤ kv.2.length)
    (hcase : (∃ c0 len, GG k L S P c0 len kv.2) ∨ (∃ c0 len, GG k L (rcFam S) (mirrorP L P) c0 len kv.2)) :
    ∃ (Called' : List (Nat × Bool)) (acc' : List (Nat × List UInt8) × List Nat),
      LOR.refStep W (k - 1) S.length mNum mDen col kmap [] acc kv = some acc' ∧
      CInv k S P (fun x => plc x.1) Called' acc' ∧ (∀ x ∈ Called, x ∈ Called') ∧ Covered k L S P kv.2 Called' := by
  have hne : kv.2 ≠ [] := fun e => by rw [e] at h2; exact absurd h2 (by decide)
  obtain ⟨T, PT, σ, b, c0, len, sd, ⟨hcT, hA⟩, hg⟩ := side_cases pf hcase
    (A := fun T PT σ => ColOK k L col T ∧ Anch k L T PT σ kmap plc) ⟨hc, hF⟩ ⟨hc', hR⟩
  obtain ⟨Qn, save, hrun, hI', hQ, hσ, _⟩ := hI.group pf hk5 hW hw sd hcT mNum mDen hg hne (fun p c => (p, c))
  rw [List.map_map] at hI'
  refine ⟨_, _, ?_, hI', fun x hx => List.mem_append_left _ hx,
    fun _ _ hg' q hq h1 h2' => hI.covered pf hk5 hW hw hc mNum mDen hne hrun hI' hg' hq h1 h2'⟩
  refine refStep_eval W (k - 1) S.length mNum mDen col kmap acc kv h2 Qn (fun q => (q - c0, colT T q))
    (fun q => plc (σ q)) save hrun (fun hQne => ?_) ?_ ?_
  · obtain ⟨q0, hq0⟩ := List.exists_mem_of_ne_nil Qn hQne
    obtain ⟨pos, fwdO, hsc, hpl⟩ := hA c0 len kv.2 hg h2 ⟨q0, (hQ q0 hq0).1, (hQ q0 hq0).2.1, (hQ q0 hq0).2.2.1⟩
    refine ⟨pos, fwdO, hsc, fun q hq => ?_⟩
    rw [gg_head_len hg hne]
    exact hpl q (hQ q hq).1 (hQ q hq).2.1 (hQ q hq).2.2.1
  · exact List.pairwise_map.mpr ((List.pairwise_map.mp hσ).imp_of_mem fun ha hb hab e =>
      hab (hinj _ (sd.site _ (hQ _ ha).1) _ (sd.site _ (hQ _ hb).1) e))
  · intro q' hq' x hx e
    rw [hI.cols] at hx
    obtain ⟨y, hy, rfl⟩ := List.mem_map.mp hx
    have := hinj _ (hI.sub y hy) _ (sd.site q' (hQ q' hq').1) e
    exact (hQ q' hq').2.2.2 (this ▸ List.mem_map_of_mem hy)

theorem loRef_of_anch {a : Arr} {names : List String} (ha : IsArrOf a k names S) (pf : PFam k L S P) (hk : ValidK k)
    {W : Nat} (hw : WidthOk W k) (mNum mDen ik maxDepth : Nat) (genome : List UInt8)
    {plc : Nat → Nat × List UInt8}
    (hF : AnchF k L S P (genomicKmers 128 (k - 1) genome) plc)
    (hR : AnchR k L S P (genomicKmers 128 (k - 1) genome) plc)
    (hinj : ∀ q ∈ P, ∀ q2 ∈ P, (plc q).1 = (plc q2).1 → q = q2) :
    ∃ placed, loRef W k S.length mNum mDen ik maxDepth a genome = some (placed, []) ∧
      placed.Perm (P.map plc) := by
  obtain ⟨_, _, hkW⟩ := validK_bounds hk hw
  obtain ⟨starts, ends, hid, ex⟩ := identify_fam ha pf hk hw
  obtain ⟨hind, Called, acc, hfold, hI, hperm⟩ :=
    fold_family ha pf hk hw ex ik maxDepth
      (LOR.refStep W (k - 1) S.length mNum mDen (buildGraph W a).2 (genomicKmers 128 (k - 1) genome) [])
      (CInv k S P (fun x => plc x.1))
      (fun kv h2 hcase _ _ hI => step_ref pf hk.1 hkW (widthOk_cases hw) (colOK_fam ha pf hk hw)
        (colOK_rc ha pf hk hw) mNum mDen hF hR hinj hI h2 hcase)
      (fun _ _ hI => ⟨hI.nd, hI.sub⟩) (cinv_nil k S P _)
  unfold loRef
  simp only [Option.bind_eq_bind]
  rw [hid]
  simp only [Option.bind_some]
  rw [LOR.analyseRef_eq, hind, LOP.processIndels_nil]
  simp only [Option.bind_some]
  rw [hfold]
  refine ⟨acc.1, rfl, ?_⟩
  rw [hI.cols]
  have h := hperm.map plc
  rwa [List.map_map] at h

end SkaModel.LOD
