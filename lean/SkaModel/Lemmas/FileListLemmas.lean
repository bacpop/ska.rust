import SkaModel.Impl.FileList
namespace SkaModel.FileListLemmas
open SkaModel.FileList

/-- an accumulating splitter that pushes each character of `xs` onto `cur` pushes all of `xs` -/
theorem go_push {β : Type} {go : List Char → List Char → β} (xs rest cur : List Char)
    (h : ∀ c ∈ xs, ∀ cs cur, go (c :: cs) cur = go cs (c :: cur)) :
    go (xs ++ rest) cur = go rest (xs.reverse ++ cur) := by
  induction xs generalizing cur with
  | nil => rfl
  | cons x xs ih =>
    rw [List.cons_append, h x (List.mem_cons_self ..), ih _ (fun c hc => h c (List.mem_cons_of_mem _ hc)),
      List.reverse_cons, List.append_assoc]
    rfl

theorem splitWsGo_nonws (xs rest cur : List Char) (h : ∀ c ∈ xs, isWs c = false) :
    splitWsGo (xs ++ rest) cur = splitWsGo rest (xs.reverse ++ cur) :=
  go_push xs rest cur fun c hc cs cur => by rw [splitWsGo, if_neg (by simp [h c hc])]

theorem splitWsGo_ws_nil (xs rest : List Char) (h : ∀ c ∈ xs, isWs c = true) :
    splitWsGo (xs ++ rest) [] = splitWsGo rest [] := by
  induction xs with
  | nil => simp
  | cons x xs ih =>
    have hx : isWs x = true := h x (by simp)
    have hxs : ∀ c ∈ xs, isWs c = true := fun c hc => h c (by simp [hc])
    simp only [List.cons_append, splitWsGo, hx, if_true, List.isEmpty_nil]
    exact ih hxs

theorem splitWsGo_ws_cons (x : Char) (xs rest cur : List Char)
    (h : ∀ c ∈ x :: xs, isWs c = true) (hc : cur ≠ []) :
    splitWsGo (x :: xs ++ rest) cur = cur.reverse :: splitWsGo rest [] := by
  have hx : isWs x = true := h x (by simp)
  have hxs : ∀ c ∈ xs, isWs c = true := fun c hc => h c (by simp [hc])
  have he : cur.isEmpty = false := List.isEmpty_eq_false_iff.2 hc
  simp only [List.cons_append, splitWsGo, hx, if_true, he, Bool.false_eq_true, if_false]
  rw [splitWsGo_ws_nil xs rest hxs]

theorem splitWsGo_ws_end (q cur : List Char) (h : ∀ c ∈ q, isWs c = true) :
    splitWsGo q cur = splitWsGo [] cur := by
  cases q with
  | nil => rfl
  | cons x xs =>
    cases cur with
    | nil =>
      have := splitWsGo_ws_nil (x :: xs) [] h
      simpa using this
    | cons y ys =>
      have := splitWsGo_ws_cons x xs [] (y :: ys) h (by simp)
      simpa [splitWsGo] using this

theorem splitWsGo_append_ws (xs q cur : List Char) (h : ∀ c ∈ q, isWs c = true) :
    splitWsGo (xs ++ q) cur = splitWsGo xs cur := by
  induction xs generalizing cur with
  | nil => simpa using splitWsGo_ws_end q cur h
  | cons x xs ih =>
    simp only [List.cons_append, splitWsGo, ih]

theorem splitWs_append_ws (xs q : List Char) (h : ∀ c ∈ q, isWs c = true) :
    splitWs (xs ++ q) = splitWs xs := splitWsGo_append_ws xs q [] h

theorem splitWs_allws (q : List Char) (h : ∀ c ∈ q, isWs c = true) : splitWs q = [] := by
  have := splitWsGo_ws_end q [] h
  simpa [splitWs, splitWsGo] using this

theorem splitWs_field (f s rest : List Char) (hf0 : f ≠ []) (hf : ∀ c ∈ f, isWs c = false)
    (hs0 : s ≠ []) (hs : ∀ c ∈ s, isWs c = true) :
    splitWs (f ++ s ++ rest) = f :: splitWs rest := by
  unfold splitWs
  rw [List.append_assoc, splitWsGo_nonws f _ [] hf]
  cases s with
  | nil => exact absurd rfl hs0
  | cons x xs =>
    rw [splitWsGo_ws_cons x xs rest _ hs (by simpa using hf0)]
    simp

theorem splitWs_last (f q : List Char) (hf0 : f ≠ []) (hf : ∀ c ∈ f, isWs c = false)
    (hq : ∀ c ∈ q, isWs c = true) :
    splitWs (f ++ q) = [f] := by
  rw [splitWs_append_ws f q hq]
  unfold splitWs
  have := splitWsGo_nonws f [] [] hf
  simp only [List.append_nil] at this
  rw [this]
  have he : f.reverse.isEmpty = false := List.isEmpty_reverse.trans (List.isEmpty_eq_false_iff.2 hf0)
  simp [splitWsGo, he]

theorem isWs_nl : isWs '\n' = true := by decide
theorem isWs_tab : isWs '\t' = true := by decide
theorem isWs_cr : isWs '\r' = true := by decide

theorem stripCr_append_cr (l : List Char) : stripCr (l ++ ['\r']) = l := by
  simp [stripCr]

theorem stripCr_cases (l : List Char) : stripCr l = l ∨ l = stripCr l ++ ['\r'] := by
  unfold stripCr
  split
  · next r hr =>
    right
    have : l = (l.reverse).reverse := by simp
    rw [this, hr]; simp
  · left; rfl

theorem splitWs_stripCr (l : List Char) : splitWs (stripCr l) = splitWs l := by
  rcases stripCr_cases l with h | h
  · rw [h]
  · conv => rhs; rw [h]
    rw [splitWs_append_ws]
    intro c hc
    simp at hc
    subst hc; exact isWs_cr

theorem parseLine_stripCr (l : List Char) : parseLine (stripCr l) = parseLine l := by
  unfold parseLine; rw [splitWs_stripCr]

theorem linesGo_nonl (xs rest cur : List Char) (h : '\n' ∉ xs) :
    linesGo (xs ++ rest) cur = linesGo rest (xs.reverse ++ cur) :=
  go_push xs rest cur fun c hc cs cur => by rw [linesGo, if_neg (fun e : c = '\n' => h (e ▸ hc))]

theorem lines_line (l rest : List Char) (h : '\n' ∉ l) :
    lines (l ++ '\n' :: rest) = stripCr l :: lines rest := by
  unfold lines
  rw [linesGo_nonl l _ [] h]
  simp [linesGo]

theorem lines_nil : lines [] = [] := by simp [lines, linesGo]

theorem lines_last (l : List Char) (h0 : l ≠ []) (h : '\n' ∉ l) : lines l = [l] := by
  unfold lines
  have := linesGo_nonl l [] [] h
  simp only [List.append_nil] at this
  rw [this]
  have he : l.reverse.isEmpty = false := List.isEmpty_reverse.trans (List.isEmpty_eq_false_iff.2 h0)
  simp [linesGo, he]

theorem linesGo_append_nl (b rest cur : List Char) :
    linesGo (b ++ '\n' :: rest) cur = linesGo (b ++ ['\n']) cur ++ linesGo rest [] := by
  induction b generalizing cur with
  | nil => simp [linesGo]
  | cons x b ih =>
    simp only [List.cons_append, linesGo]
    split
    · rw [ih, List.cons_append]
    · exact ih _

theorem lines_append (a rest : List Char) (h : a = [] ∨ a.getLast? = some '\n') :
    lines (a ++ rest) = lines a ++ lines rest := by
  rcases h with rfl | h
  · rfl
  · obtain ⟨b, rfl⟩ := List.getLast?_eq_some_iff.1 h
    rw [List.append_assoc, List.singleton_append]
    exact linesGo_append_nl b rest []

theorem parseLines_cons_some (l : List Char) (ls : List (List Char)) (e : Entry) (es : List Entry)
    (h1 : parseLine l = some e) (h2 : parseLines ls = some es) :
    parseLines (l :: ls) = some (e :: es) := by
  simp [parseLines, h1, h2]

theorem parseLines_none (ls : List (List Char)) (l : List Char) (hl : l ∈ ls)
    (h : parseLine l = none) : parseLines ls = none := by
  induction ls with
  | nil => simp at hl
  | cons x xs ih =>
    simp only [List.mem_cons] at hl
    rcases hl with hl | hl
    · subst hl
      simp [parseLines, h]
    · have := ih hl
      simp only [parseLines, this]
      split <;> simp_all

theorem parseList_line (l rest : List Char) (e : Entry) (es : List Entry) (hnl : '\n' ∉ l)
    (h1 : parseLine l = some e) (h2 : parseList rest = some es) :
    parseList (l ++ '\n' :: rest) = some (e :: es) := by
  unfold parseList at *
  rw [lines_line l rest hnl]
  exact parseLines_cons_some _ _ e es (by rw [parseLine_stripCr]; exact h1) h2

theorem parseList_last (l : List Char) (e : Entry) (h0 : l ≠ []) (hnl : '\n' ∉ l)
    (h1 : parseLine l = some e) : parseList l = some [e] := by
  unfold parseList
  rw [lines_last l h0 hnl]
  exact parseLines_cons_some _ _ e [] h1 rfl

theorem parseList_blank (a b pad : List Char) (hp : ∀ c ∈ pad, isWs c = true) (hnl : '\n' ∉ pad)
    (ha : a = [] ∨ a.getLast? = some '\n') :
    parseList (a ++ pad ++ '\n' :: b) = none := by
  unfold parseList
  rw [List.append_assoc, lines_append a _ ha, lines_line pad b hnl]
  apply parseLines_none _ (stripCr pad) (by simp)
  rw [parseLine_stripCr]
  unfold parseLine
  rw [splitWs_allws pad hp]

theorem nameList_line (l rest n : List Char) (hnl : '\n' ∉ l) (h : (splitWs l).head? = some n) :
    nameList (l ++ '\n' :: rest) = n :: nameList rest := by
  unfold nameList
  rw [lines_line l rest hnl, List.filterMap_cons, splitWs_stripCr, h]

end SkaModel.FileListLemmas
