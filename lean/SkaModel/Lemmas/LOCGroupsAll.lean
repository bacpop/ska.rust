/-
C17 completeness — all variant groups of a pair of strands: every spanning group within the depth budget is
reported (the bubble of a site is the one that spans no further site), no indel group, every SNP group is a
good group (`GG`) of one of the two strands; the keys of the SNP groups are those of the spanning groups.
-/
import SkaModel.Lemmas.LOCGroups

namespace SkaModel.LOC

open SkaModel SkaModel.Spec SkaModel.Props.C16 SkaModel.Skalo SkaModel.Props.C17G SkaModel.LOG

theorem getLastD_snd_const (b : List UInt8) : ∀ (qs : List Nat) (q : Nat) (a : List UInt8),
    (((q :: qs).map (fun q => (q, b))).map (·.2)).getLastD a = b
  | [], _, _ => rfl
  | q' :: rest, _, _ => by
    rw [List.map_cons, List.map_cons, List.getLastD_cons]
    exact getLastD_snd_const b rest q' _

namespace Strand

variable {k L : Nat} {g : Graph} {T T' : List (List UInt8)} {PT PT' : List Nat}

theorem armPath_penult (st : Strand k L g T PT T' PT') {t : List UInt8} (ht : t ∈ T) {p : Nat} (hp : p ∈ PT)
    {a : List UInt8} (ha : a ∈ T) {ch : List (Nat × List UInt8)} (hs : SitesOK PT p (ch.map (·.1)))
    (hT : ∀ x ∈ ch, x.2 ∈ T) (comp : List (Nat × List Nat)) (hw : Walk g (armPath comp k t p a ch)) {m : Nat}
    (hm : p - k + 1 + m = (ch.map (·.1)).getLastD p) (hl : (armPath comp k t p a ch).length = m + 2) :
    ∃ c ∈ T, (armPath comp k t p a ch).getD ((armPath comp k t p a ch).length - 2) 0 =
        fN k c ((ch.map (·.1)).getLastD p) ∧
      c.getD ((ch.map (·.1)).getLastD p) 0 = ((ch.map (·.2)).getLastD a).getD ((ch.map (·.1)).getLastD p) 0 := by
  have hplm := (sitesOK_last _ p hp hs).1
  have hh : (armPath comp k t p a ch).head? = some (fN k t (p - k + 1)) := rfl
  have harm := mem_armPath comp k t p a ch (last_arm_mem k ch a p)
  have hlsT := lastSample_mem ha hT
  generalize (ch.map (·.1)).getLastD p = pl at hm hplm harm ⊢
  generalize (ch.map (·.2)).getLastD a = ls at hlsT harm ⊢
  generalize armPath comp k t p a ch = pth at hw hl hh harm ⊢
  have hc0 : p - k + 1 + (k - 1) ≤ L := add_pred_le (st.pf.entry_fit hp)
  have hplL : pl + (k - 1) ≤ L := add_pred_le (st.pf.site_fit hplm)
  have harmL := st.pf.arm_fit st.k2 hplm
  obtain ⟨ha1, ha2⟩ := st.pf.arm_mem st.k2 hplm
  -- the second-last node has the index `m`, its coordinate is the last site
  have hi : m < pth.length := by rw [hl]; exact Nat.lt_add_of_pos_right (by decide)
  obtain ⟨c, hc, hce, _⟩ := st.walk_levels pth t _ ht hc0 hw hh m _ (List.getElem?_eq_getElem hi)
  rw [hm] at hce
  refine ⟨c, hc, ?_, ?_⟩
  · rw [hl, Nat.add_sub_cancel, List.getD_eq_getElem?_getD, List.getElem?_eq_getElem hi, hce]
    rfl
  · exact st.walk_agree ht hc0 hw hh hc hlsT hplL harmL (by rw [← hce]; exact List.getElem_mem _) harm
      (Nat.le_refl _) (Nat.lt_add_of_pos_right (Nat.sub_pos_of_lt st.k2)) ha1 ha2

/-- two samples that differ at `p` and two that differ at the last site give two paths that differ in the second and
in the second-last node, as `groupsFrom` asks of a group -/
theorem spanning (st : Strand k L g T PT T' PT') {starts ends : List Nat}
    (ex : Ext k starts ends T PT T' PT') (W maxDepth : Nat)
    {t : List UInt8} (ht : t ∈ T) {p : Nat} (hp : p ∈ PT) (qs : List Nat) (hqs : SitesOK PT p qs)
    (hlen : qs.length ≤ maxDepth) :
    ∃ grp ∈ groupsFrom W (k - 1) (compactGraph g starts ends).1 (compactGraph g starts ends).2
      starts ends maxDepth (fN k t (p - k + 1)),
      grp.1 = (fN k t (p - k + 1), fN k t ((p :: qs).getLast (by simp) + 1)) ∧ 2 ≤ grp.2.length := by
  have hk0 : 0 < k - 1 := Nat.sub_pos_of_lt st.k2
  rw [List.getLast_eq_getLastD]
  have hplm := (sitesOK_last qs p hp hqs).1
  obtain ⟨s, hs, s', hs', hne⟩ := st.pf.poly p hp
  obtain ⟨r, hr, r', hr', hner⟩ := st.pf.poly _ hplm
  have hlastdiff : (((qs.map (fun q => (q, r))).map (·.2)).getLastD s).getD (qs.getLastD p) 0 ≠
      (((qs.map (fun q => (q, r'))).map (·.2)).getLastD s').getD (qs.getLastD p) 0 := by
    cases qs with
    | nil => exact hne
    | cons q rest =>
      rw [getLastD_snd_const, getLastD_snd_const]
      exact hner
  -- the path through the arm of `a` at `p` and the arms of `b` at the sites `qs`
  have hfound : ∀ a ∈ T, ∀ b ∈ T, (fN k t (qs.getLastD p + 1),
      armPath (compactGraph g starts ends).2 k t p a (qs.map (fun q => (q, b)))) ∈ _ := fun a ha b hb =>
    (st.found_strand ex maxDepth _ ht hp _).mpr ⟨a, ha, _, by rw [map_fst_const]; exact hqs, const_samples hb qs,
      by simpa using hlen, by rw [map_fst_const]⟩
  obtain ⟨ps, hps, hsin⟩ := pathsFrom_of_found (hfound s hs r hr)
  have hs'in := (mem_pathsFrom_paths hps _).mpr (hfound s' hs' r' hr')
  obtain ⟨m, hm, hwalk⟩ := st.paths_walk ex maxDepth ht hp hplm (sitesOK_last qs p hp hqs).2 hps
  obtain ⟨hw1, _, hl1⟩ := hwalk _ hsin
  obtain ⟨hw2, _, hl2⟩ := hwalk _ hs'in
  obtain ⟨c, hc, hsa, hap⟩ := st.armPath_penult ht hp hs (by rw [map_fst_const]; exact hqs) (const_samples hr qs) _
    hw1 (by rw [map_fst_const]; exact hm) hl1
  obtain ⟨c', hc', hsa', hap'⟩ := st.armPath_penult ht hp hs' (by rw [map_fst_const]; exact hqs)
    (const_samples hr' qs) _ hw2 (by rw [map_fst_const]; exact hm) hl2
  rw [map_fst_const] at hsa hap hsa' hap'
  have harm := st.arms_differ hs hs' hp hne
  have hlastne : fN k c (qs.getLastD p) ≠ fN k c' (qs.getLastD p) :=
    st.arm_ne hc hc' (by rw [hap, hap']; exact hlastdiff) (Nat.le_refl _) (Nat.lt_add_of_pos_right hk0)
      (add_pred_le (st.pf.site_fit hplm))
  have hsec : (ps.map (fun v => v.getD 1 0)).eraseDups.length > 1 :=
    (Dedup.two_le_eraseDups_iff _).mpr
      ⟨_, List.mem_map.mpr ⟨_, hsin, rfl⟩, _, List.mem_map.mpr ⟨_, hs'in, rfl⟩, harm⟩
  have hsl : (ps.map (fun v => v.getD (v.length - 2) 0)).eraseDups.length > 1 :=
    (Dedup.two_le_eraseDups_iff _).mpr
      ⟨_, List.mem_map.mpr ⟨_, hsin, rfl⟩, _, List.mem_map.mpr ⟨_, hs'in, rfl⟩, by
        rw [hsa, hsa']; exact hlastne⟩
  have hps2 : 2 ≤ ps.length :=
    Dedup.two_le_length_of_mem_ne hsin hs'in (fun e => harm (congrArg (fun v => v.getD 1 0) e))
  refine ⟨((fN k t (p - k + 1), fN k t (qs.getLastD p + 1)),
    ps.map (buildVariant W (k - 1) starts ends (fN k t (p - k + 1)))), ?_, rfl, by rw [List.length_map]; exact hps2⟩
  refine (mem_groupsFrom _ _ _ _ _ _ _ _ _).mpr ⟨?_, _, ps, hps, hsec, hsl, by
    rw [filtered_all (List.ne_nil_of_mem hsin) (fun p1 h => (hwalk p1 h).2.2)]⟩
  rw [List.any_eq_true]
  exact ⟨_, hps, decide_eq_true hps2⟩

theorem bubble (st : Strand k L g T PT T' PT') {starts ends : List Nat}
    (ex : Ext k starts ends T PT T' PT') {W : Nat} (hW : 2 * k ≤ W) (maxDepth : Nat)
    {t : List UInt8} (ht : t ∈ T) {p : Nat} (hp : p ∈ PT) :
    ∃ grp ∈ groupsFrom W (k - 1) (compactGraph g starts ends).1 (compactGraph g starts ends).2
      starts ends maxDepth (fN k t (p - k + 1)),
      grp.1 = (fN k t (p - k + 1), fN k t (p + 1)) ∧ 2 ≤ grp.2.length :=
  st.spanning ex W maxDepth ht hp [] trivial (Nat.zero_le _)

theorem group_span (st : Strand k L g T PT T' PT') {starts ends : List Nat}
    (ex : Ext k starts ends T PT T' PT') {W : Nat} (maxDepth : Nat)
    {t : List UInt8} (ht : t ∈ T) {p : Nat} (hp : p ∈ PT) {grp : (Nat × Nat) × List Variant}
    (hgrp : grp ∈ groupsFrom W (k - 1) (compactGraph g starts ends).1 (compactGraph g starts ends).2
      starts ends maxDepth (fN k t (p - k + 1))) :
    ∃ qs : List Nat, SitesOK PT p qs ∧ qs.length ≤ maxDepth ∧
      grp.1 = (fN k t (p - k + 1), fN k t ((p :: qs).getLast (by simp) + 1)) := by
  obtain ⟨_, e, paths, hmem, _, _, hg⟩ := (mem_groupsFrom _ _ _ _ _ _ _ _ grp).mp hgrp
  obtain ⟨p', _, _, rfl, hiff⟩ := st.paths_exit ex maxDepth ht hp hmem
  obtain ⟨p0, hp0⟩ := List.exists_mem_of_ne_nil _ ((mem_pathsFrom _ _ _ _ _ _ _).mp hmem).1
  obtain ⟨_, _, ch, hs, _, hl, hlast, _⟩ := (hiff p0).mp hp0
  exact ⟨ch.map (·.1), hs, by simpa using hl, by rw [hg, List.getLast_eq_getLastD, hlast]⟩

theorem built_good (st : Strand k L g T PT T' PT') {starts ends : List Nat}
    (ex : Ext k starts ends T PT T' PT') {W : Nat} (hW : 2 * k ≤ W) (maxDepth : Nat)
    {grp : (Nat × Nat) × List Variant} (h : grp ∈ LOP.builtGroups W (k - 1) g starts ends maxDepth) :
    (∃ c0 len, GG k L T PT c0 len grp.2) ∨ (∃ c0 len, GG k L T' PT' c0 len grp.2) := by
  unfold LOP.builtGroups at h
  obtain ⟨kmer, hk, hg⟩ := List.mem_flatMap.mp h
  rcases (ex.st kmer).mp hk with ⟨p, hp, t, ht, rfl⟩ | ⟨p, hp, t, ht, rfl⟩
  · obtain ⟨c0, len, hgg, -⟩ := st.group_good ex hW maxDepth ht hp hg
    exact Or.inl ⟨c0, len, hgg⟩
  · obtain ⟨c0, len, hgg, -⟩ := st.swap.group_good ex.swap hW maxDepth ht hp hg
    exact Or.inr ⟨c0, len, hgg⟩

theorem snp_of_groupsFrom (st : Strand k L g T PT T' PT') {starts ends : List Nat}
    (ex : Ext k starts ends T PT T' PT') {W : Nat} (hW : 2 * k ≤ W) (maxDepth : Nat)
    {t : List UInt8} (ht : t ∈ T) {p : Nat} (hp : p ∈ PT) {grp : (Nat × Nat) × List Variant}
    (hgrp : grp ∈ groupsFrom W (k - 1) (compactGraph g starts ends).1 (compactGraph g starts ends).2
      starts ends maxDepth (fN k t (p - k + 1))) (h2 : 2 ≤ grp.2.length) :
    grp ∈ (buildVariantGroups W (k - 1) g starts ends maxDepth).snpGroups := by
  have hb : grp ∈ LOP.builtGroups W (k - 1) g starts ends maxDepth := by
    unfold LOP.builtGroups
    exact List.mem_flatMap.mpr ⟨_, ex.entry_mem ht hp, hgrp⟩
  obtain ⟨_, _, hgg, -⟩ := st.group_good ex hW maxDepth ht hp hgrp
  have heq := hgg.equal_length
  rw [LOP.buildVariantGroups_eq]
  refine List.mem_filter.mpr ⟨hb, ?_⟩
  unfold LOP.clsSnp
  simp only [Bool.and_eq_true, Bool.not_eq_true', decide_eq_false_iff_not, Nat.not_lt, Bool.and_eq_false_iff,
    beq_eq_false_iff_ne, bne_eq_false_iff_eq]
  refine ⟨h2, ?_⟩
  by_cases h22 : grp.2.length = 2
  · right
    match hvs : grp.2, h22 with
    | [v0, v1], _ =>
      simp only [List.getD_cons_zero, List.getD_cons_succ]
      exact heq v0 (by rw [hvs]; simp) v1 (by rw [hvs]; simp)
  · exact Or.inl h22

theorem groups_spec (st : Strand k L g T PT T' PT') {starts ends : List Nat}
    (ex : Ext k starts ends T PT T' PT') {W : Nat} (hW : 2 * k ≤ W) (maxDepth : Nat) :
    (buildVariantGroups W (k - 1) g starts ends maxDepth).indelGroups = [] ∧
    (∀ grp ∈ (buildVariantGroups W (k - 1) g starts ends maxDepth).snpGroups, 2 ≤ grp.2.length ∧
      ((∃ c0 len, GG k L T PT c0 len grp.2) ∨ (∃ c0 len, GG k L T' PT' c0 len grp.2))) ∧
    (∀ p ∈ PT, ∃ grp ∈ (buildVariantGroups W (k - 1) g starts ends maxDepth).snpGroups,
      (∃ t ∈ T, grp.1 = (fN k t (p - k + 1), fN k t (p + 1))) ∧
      ∃ c0 len, GG k L T PT c0 len grp.2 ∧ c0 ≤ p ∧ p < c0 + len) := by
  refine ⟨?_, ?_, ?_⟩
  · rw [LOP.buildVariantGroups_eq]
    simp only
    rw [List.filter_eq_nil_iff]
    intro kv hkv hc
    obtain ⟨v0, v1, hvs, hne, _⟩ := LOP.clsIndel_spec (k - 1) kv.2 hc
    have heq : ∀ v ∈ kv.2, ∀ v' ∈ kv.2, v.1.length = v'.1.length := by
      rcases st.built_good ex hW maxDepth hkv with ⟨c0, len, h⟩ | ⟨c0, len, h⟩
      · exact h.equal_length
      · exact h.equal_length
    exact hne (heq v0 (by rw [hvs]; simp) v1 (by rw [hvs]; simp))
  · rw [LOP.buildVariantGroups_eq]
    intro grp hgrp
    rw [List.mem_filter] at hgrp
    exact ⟨LOP.clsSnp_spec grp.2 hgrp.2, st.built_good ex hW maxDepth hgrp.1⟩
  · intro p hp
    obtain ⟨t, ht⟩ := List.exists_mem_of_ne_nil T st.pf.ne
    obtain ⟨grp, hgrp, hkeyb, h2⟩ := st.bubble ex hW maxDepth ht hp
    exact ⟨grp, st.snp_of_groupsFrom ex hW maxDepth ht hp hgrp h2, ⟨t, ht, hkeyb⟩,
      st.group_good ex hW maxDepth ht hp hgrp⟩

theorem snp_keys (st : Strand k L g T PT T' PT') {starts ends : List Nat}
    (ex : Ext k starts ends T PT T' PT') {W : Nat} (hW : 2 * k ≤ W) (maxDepth : Nat)
    {t : List UInt8} (ht : t ∈ T) {p : Nat} (hp : p ∈ PT) (key : Nat × Nat) (hkey : key.1 = fN k t (p - k + 1)) :
    (∃ grp ∈ (buildVariantGroups W (k - 1) g starts ends maxDepth).snpGroups, grp.1 = key) ↔
      ∃ qs : List Nat, SitesOK PT p qs ∧ qs.length ≤ maxDepth ∧
        key = (fN k t (p - k + 1), fN k t ((p :: qs).getLast (by simp) + 1)) := by
  constructor
  · rintro ⟨grp, hgrp, rfl⟩
    obtain ⟨kmer, _, hg⟩ := buildVariantGroups_mem (List.mem_append_left _ hgrp)
    obtain ⟨h1, _⟩ := groupsFrom_real (T17_compact_sound g starts ends) hg
    rw [← h1, hkey] at hg
    exact st.group_span ex maxDepth ht hp hg
  · rintro ⟨qs, hqs, hlen, rfl⟩
    obtain ⟨grp, hgrp, hk, h2⟩ := st.spanning ex W maxDepth ht hp qs hqs hlen
    exact ⟨grp, st.snp_of_groupsFrom ex hW maxDepth ht hp hgrp h2, hk⟩

end Strand

end SkaModel.LOC
