/-
`ska lo` graph stage: chains of a relation (`ChainR`; `Walk` and `Chain1` are instances of it).
-/
import SkaModel.Props.C17PathsDefs
import SkaModel.Lemmas.LOBasic

namespace SkaModel.LOG

open SkaModel SkaModel.Skalo SkaModel.Props.C17G

def ChainR (R : Nat → Nat → Prop) : List Nat → Prop
  | a :: b :: rest => R a b ∧ ChainR R (b :: rest)
  | _ => True

theorem chainR_nil (R : Nat → Nat → Prop) : ChainR R [] := trivial

theorem chainR_single (R : Nat → Nat → Prop) (a : Nat) : ChainR R [a] := trivial

theorem chainR_cons_cons (R : Nat → Nat → Prop) (a b : Nat) (rest : List Nat) :
    ChainR R (a :: b :: rest) ↔ R a b ∧ ChainR R (b :: rest) := Iff.rfl

theorem walk_eq_chainR (g : Graph) (l : List Nat) : Walk g l ↔ ChainR (Edge g) l := by
  induction l with
  | nil => exact Iff.rfl
  | cons a t ih =>
    cases t with
    | nil => exact Iff.rfl
    | cons b rest =>
      show (Edge g a b ∧ Walk g (b :: rest)) ↔ (Edge g a b ∧ ChainR (Edge g) (b :: rest))
      rw [ih]

theorem chain1_eq_chainR (g : Graph) (l : List Nat) :
    Chain1 g l ↔ ChainR (fun a b => Assoc.lookup g a = some [b]) l := by
  induction l with
  | nil => exact Iff.rfl
  | cons a t ih =>
    cases t with
    | nil => exact Iff.rfl
    | cons b rest =>
      show (Assoc.lookup g a = some [b] ∧ Chain1 g (b :: rest)) ↔ (_ ∧ ChainR _ (b :: rest))
      rw [ih]

theorem chainR_mono {R S : Nat → Nat → Prop} (h : ∀ a b, R a b → S a b) :
    ∀ l, ChainR R l → ChainR S l
  | [], _ => trivial
  | [_], _ => trivial
  | a :: b :: rest, hc => ⟨h a b hc.1, chainR_mono h (b :: rest) hc.2⟩

theorem chainR_glue {R : Nat → Nat → Prop} (x : Nat) (q : List Nat) :
    ∀ p, ChainR R (p ++ [x]) → ChainR R (x :: q) → ChainR R (p ++ x :: q)
  | [], _, h2 => h2
  | [_], h1, h2 => ⟨h1.1, h2⟩
  | _ :: b :: rest, h1, h2 => ⟨h1.1, chainR_glue x q (b :: rest) h1.2 h2⟩

theorem chainR_snoc {R : Nat → Nat → Prop} (p : List Nat) (x y : Nat)
    (h1 : ChainR R (p ++ [x])) (h2 : R x y) : ChainR R (p ++ [x, y]) :=
  chainR_glue x [y] p h1 ⟨h2, trivial⟩

theorem chainR_tail {R : Nat → Nat → Prop} (a : Nat) (l : List Nat) (h : ChainR R (a :: l)) :
    ChainR R l := by
  cases l with
  | nil => trivial
  | cons b rest => exact h.2

theorem chainR_append_right {R : Nat → Nat → Prop} (q : List Nat) :
    ∀ p, ChainR R (p ++ q) → ChainR R q
  | [], h => h
  | a :: rest, h => chainR_append_right q rest (chainR_tail a _ h)

theorem chainR_append_left {R : Nat → Nat → Prop} (q : List Nat) :
    ∀ p, ChainR R (p ++ q) → ChainR R p
  | [], _ => trivial
  | [_], _ => trivial
  | _ :: b :: rest, h => ⟨h.1, chainR_append_left q (b :: rest) h.2⟩

theorem chainR_getElem? {R : Nat → Nat → Prop} :
    ∀ (l : List Nat) (i x y : Nat), ChainR R l → l[i]? = some x → l[i + 1]? = some y → R x y
  | [], _, _, _, _, h1, _ => by simp at h1
  | [_], _, _, _, _, _, h2 => by simp at h2
  | a :: b :: rest, 0, x, y, h, h1, h2 => by
    obtain rfl : a = x := Option.some.inj h1
    obtain rfl : b = y := Option.some.inj h2
    exact h.1
  | a :: b :: rest, i + 1, x, y, h, h1, h2 => by
    rw [List.getElem?_cons_succ] at h1 h2
    exact chainR_getElem? (b :: rest) i x y h.2 h1 h2

theorem walk_step {g : Graph} {p : List Nat} (hw : Walk g p) {i a b : Nat} (ha : p[i]? = some a)
    (hb : p[i + 1]? = some b) : b ∈ succs g a := by
  rw [walk_eq_chainR] at hw
  exact chainR_getElem? p i a b hw ha hb

theorem chainR_of_getElem? {R : Nat → Nat → Prop} :
    ∀ (l : List Nat), (∀ i a b, l[i]? = some a → l[i + 1]? = some b → R a b) → ChainR R l
  | [], _ => trivial
  | [_], _ => trivial
  | a :: b :: rest, h =>
    ⟨h 0 a b rfl rfl, chainR_of_getElem? (b :: rest) (fun i x y hx hy => h (i + 1) x y hx hy)⟩

instance decChainR (R : Nat → Nat → Prop) [DecidableRel R] : (l : List Nat) → Decidable (ChainR R l)
  | [] => isTrue trivial
  | [_] => isTrue trivial
  | a :: b :: rest =>
    match (inferInstance : Decidable (R a b)), decChainR R (b :: rest) with
    | isTrue h1, isTrue h2 => isTrue ⟨h1, h2⟩
    | isFalse h1, _ => isFalse (fun h => h1 h.1)
    | _, isFalse h2 => isFalse (fun h => h2 h.2)

theorem chainR_incident {R : Nat → Nat → Prop} :
    ∀ (l : List Nat), ChainR R l → 2 ≤ l.length → ∀ n ∈ l, ∃ m, R n m ∨ R m n
  | [], _, h, _, _ => by simp at h
  | [_], _, h, _, _ => by simp at h
  | [a, b], hc, _, n, hn => by
    simp only [List.mem_cons, List.not_mem_nil, or_false] at hn
    rcases hn with rfl | rfl
    · exact ⟨b, Or.inl hc.1⟩
    · exact ⟨a, Or.inr hc.1⟩
  | a :: b :: c :: rest, hc, _, n, hn => by
    rcases List.mem_cons.1 hn with rfl | hn
    · exact ⟨b, Or.inl hc.1⟩
    · exact chainR_incident (b :: c :: rest) hc.2 (by simp) n hn

theorem walk_of_chain1 {g : Graph} {l : List Nat} (h : Chain1 g l) : Walk g l := by
  rw [walk_eq_chainR]
  rw [chain1_eq_chainR] at h
  refine chainR_mono ?_ l h
  intro a b hab
  show b ∈ succs g a
  unfold succs
  rw [hab]
  simp

theorem walk_glue {g : Graph} (x : Nat) (q p : List Nat)
    (h1 : Walk g (p ++ [x])) (h2 : Walk g (x :: q)) : Walk g (p ++ x :: q) := by
  rw [walk_eq_chainR] at *
  exact chainR_glue x q p h1 h2

theorem walk_append_left {g : Graph} (p q : List Nat) (h : Walk g (p ++ q)) : Walk g p := by
  rw [walk_eq_chainR] at *
  exact chainR_append_left q p h

theorem walk_append_right {g : Graph} (p q : List Nat) (h : Walk g (p ++ q)) : Walk g q := by
  rw [walk_eq_chainR] at *
  exact chainR_append_right q p h

theorem chain1_glue {g : Graph} (x : Nat) (q p : List Nat)
    (h1 : Chain1 g (p ++ [x])) (h2 : Chain1 g (x :: q)) : Chain1 g (p ++ x :: q) := by
  rw [chain1_eq_chainR] at *
  exact chainR_glue x q p h1 h2

theorem chain1_append_left {g : Graph} (p q : List Nat) (h : Chain1 g (p ++ q)) : Chain1 g p := by
  rw [chain1_eq_chainR] at *
  exact chainR_append_left q p h

theorem chain1_pred {g : Graph} : ∀ (a : Nat) (l : List Nat), Chain1 g (a :: l) → ∀ x ∈ l,
    ∃ y, y ∈ (a :: l).dropLast ∧ Assoc.lookup g y = some [x]
  | _, [], _, x, hx => by simp at hx
  | a, b :: rest, h, x, hx => by
    rcases List.mem_cons.mp hx with e | hx'
    · subst e
      exact ⟨a, by simp [List.dropLast], h.1⟩
    · obtain ⟨y, hy, hl⟩ := chain1_pred b rest h.2 x hx'
      exact ⟨y, by rw [List.dropLast_cons_cons]; exact List.mem_cons_of_mem _ hy, hl⟩

theorem chain1_succ {g : Graph} : ∀ (a : Nat) (l : List Nat), Chain1 g (a :: l) → ∀ x ∈ (a :: l).dropLast,
    ∃ n, Assoc.lookup g x = some [n]
  | _, [], _, x, hx => by simp [List.dropLast] at hx
  | a, b :: rest, h, x, hx => by
    rw [List.dropLast_cons_cons] at hx
    rcases List.mem_cons.mp hx with e | hx'
    · subst e
      exact ⟨b, h.1⟩
    · exact chain1_succ b rest h.2 x hx'

theorem chain1_last_two {g : Graph} (p : List Nat) (x b : Nat) (h : Chain1 g (p ++ [x, b])) :
    Assoc.lookup g x = some [b] := by
  rw [chain1_eq_chainR] at h
  exact (chainR_append_right [x, b] p h).1

end SkaModel.LOG
