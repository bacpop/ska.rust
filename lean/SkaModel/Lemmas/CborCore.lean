/-
CBOR layer of the `.skf` model: numeric facts about big-endian bytes, the
head round trip, and prefix-freeness of heads.
-/
import SkaModel.Impl.Skf

namespace SkaModel.CB

open SkaModel SkaModel.Cbor

theorem beBytes_length (n x : Nat) : (beBytes n x).length = n := by
  induction n generalizing x with
  | zero => simp [beBytes]
  | succ n ih => simp [beBytes, ih]

theorem beNat_snoc (l : List UInt8) (b : UInt8) : beNat (l ++ [b]) = beNat l * 256 + b.toNat := by
  simp [beNat, List.foldl_append]

theorem beNat_beBytes (n x : Nat) (h : x < 256 ^ n) : beNat (beBytes n x) = x := by
  induction n generalizing x with
  | zero =>
    have : x = 0 := by simpa using h
    simp [beBytes, beNat, this]
  | succ n ih =>
    rw [Nat.pow_succ, Nat.mul_comm] at h
    rw [beBytes, beNat_snoc, ih _ (Nat.div_lt_of_lt_mul h), UInt8.toNat_ofNat', Nat.mod_mod]
    exact Nat.div_add_mod' x 256

theorem beNat_cons_zero (l : List UInt8) : beNat (0 :: l) = beNat l := by
  simp [beNat]

theorem beNat_dropWhile_zero (l : List UInt8) : beNat (l.dropWhile (· == 0)) = beNat l := by
  induction l with
  | nil => rfl
  | cons b l ih =>
    by_cases hb : b = 0
    · subst hb
      rw [List.dropWhile_cons]
      simp only [beq_self_eq_true, if_true]
      rw [ih, beNat_cons_zero]
    · rw [List.dropWhile_cons]
      simp [hb]

theorem minBe_length_le (x : Nat) : (minBe x).length ≤ 16 := by
  have h := (List.dropWhile_sublist (l := beBytes 16 x) (· == 0)).length_le
  rw [beBytes_length] at h
  exact h

theorem beNat_minBe (x : Nat) (h : x < 2 ^ 128) : beNat (minBe x) = x := by
  rw [minBe, beNat_dropWhile_zero, beNat_beBytes]
  exact h

/-- number of argument bytes following an initial byte with additional information `ai` -/
def argLen (ai : Nat) : Nat :=
  if ai == 24 then 1 else if ai == 25 then 2 else if ai == 26 then 4 else if ai == 27 then 8 else 0

theorem parseHead_cons (b : UInt8) (l : List UInt8) :
    parseHead (b :: l) =
      if b.toNat % 32 < 24 then some (b.toNat / 32, b.toNat % 32, l)
      else if argLen (b.toNat % 32) == 0 then none
      else if l.length < argLen (b.toNat % 32) then none
      else some (b.toNat / 32, beNat (l.take (argLen (b.toNat % 32))), l.drop (argLen (b.toNat % 32))) := by
  rfl

theorem initial_byte {m ai : Nat} (hm : m < 8) (ha : ai < 32) :
    (UInt8.ofNat (m * 32 + ai)).toNat / 32 = m ∧ (UInt8.ofNat (m * 32 + ai)).toNat % 32 = ai := by
  rw [UInt8.toNat_ofNat', Nat.mod_eq_of_lt (by omega), Nat.mul_comm, Nat.mul_add_div (by decide), Nat.mul_add_mod,
    Nat.div_eq_of_lt ha, Nat.mod_eq_of_lt ha]
  exact ⟨rfl, rfl⟩

theorem head_shape (m : Nat) {n : Nat} (hn : n < 2 ^ 64) :
    ∃ ai arg, ai < 32 ∧ head m n = UInt8.ofNat (m * 32 + ai) :: arg ∧
      ((ai < 24 ∧ arg = [] ∧ ai = n) ∨
       (24 ≤ ai ∧ argLen ai ≠ 0 ∧ arg.length = argLen ai ∧ beNat arg = n)) := by
  have wide : ∀ {ai w : Nat}, 24 ≤ ai → argLen ai = w ∧ w ≠ 0 → n < 256 ^ w →
      24 ≤ ai ∧ argLen ai ≠ 0 ∧ (beBytes w n).length = argLen ai ∧ beNat (beBytes w n) = n :=
    fun ha hw hv => by
      rw [hw.1]
      exact ⟨ha, hw.2, beBytes_length _ n, beNat_beBytes _ n hv⟩
  rw [head]
  by_cases h1 : n < 24
  · rw [if_pos h1]
    exact ⟨n, [], Nat.lt_trans h1 (by decide), rfl, .inl ⟨h1, rfl, rfl⟩⟩
  rw [if_neg h1]
  by_cases h2 : n < 256
  · rw [if_pos h2]
    exact ⟨24, _, by decide, rfl, .inr ⟨by decide, by decide, rfl, by simpa [beNat] using Nat.mod_eq_of_lt h2⟩⟩
  rw [if_neg h2]
  by_cases h3 : n < 65536
  · rw [if_pos h3]
    exact ⟨25, _, by decide, rfl, .inr (wide (by decide) (by decide) h3)⟩
  rw [if_neg h3]
  by_cases h4 : n < 4294967296
  · rw [if_pos h4]
    exact ⟨26, _, by decide, rfl, .inr (wide (by decide) (by decide) h4)⟩
  · rw [if_neg h4]
    exact ⟨27, _, by decide, rfl, .inr (wide (by decide) (by decide) hn)⟩

theorem parseHead_head (m n : Nat) (rest : List UInt8) (hm : m < 8) (hn : n < 2 ^ 64) :
    parseHead (head m n ++ rest) = some (m, n, rest) := by
  obtain ⟨ai, arg, ha, he, h⟩ := head_shape m hn
  obtain ⟨hb, hai⟩ := initial_byte hm ha
  rw [he, List.cons_append, parseHead_cons, hb, hai]
  rcases h with ⟨h1, rfl, rfl⟩ | ⟨h1, h2, h3, h4⟩
  · rw [if_pos h1]
    rfl
  · have h5 : ¬ (arg ++ rest).length < argLen ai := by simp [h3]
    simp only [Nat.not_lt.mpr h1, if_false, beq_iff_eq, h2, h5]
    rw [← h3]
    simp [h4]

theorem parseHead_prefix (m n : Nat) (q t : List UInt8) (hm : m < 8) (hn : n < 2 ^ 64)
    (hq : q ++ t = head m n) (ht : t ≠ []) : parseHead q = none := by
  obtain ⟨ai, arg, ha, he, h⟩ := head_shape m hn
  have hai := (initial_byte hm ha).2
  rw [he] at hq
  cases q with
  | nil => rfl
  | cons c q =>
    rw [List.cons_append] at hq
    injection hq with hc hq
    subst hc
    rw [parseHead_cons, hai]
    rcases h with ⟨h1, h2, h3⟩ | ⟨h1, h2, h3, h4⟩
    · subst h2
      simp at hq
      exact absurd hq.2 ht
    · have hl : q.length < argLen ai := by
        rw [← h3, ← hq]
        have : 0 < t.length := List.length_pos_iff.mpr ht
        simp; omega
      simp [Nat.not_lt.mpr h1, h2, hl]

end SkaModel.CB
